import PhyVerif.Lemmas.C04
import PhyVerif.Lemmas.C04d
/-!
C04: the inverse whitening matrix, stored or computed and written (`_compute_wmi`, model.py:754-762, on the whitening
matrix or on its default `np.eye(nc)`, model.py:441, `nc = channel_mapping.shape[0]`, model.py:386); rounding of stored
seconds.
-/
namespace PhyVerif.C04.Lemmas
open PhyVerif.C04

theorem wmi_default (inv : Arr → Arr) {one : Cell} (d : Dir) (v : View) (d' : Dir) (h : load inv d one = .ok (v, d'))
    (hn : d.lookup "whitening_mat_inv.npy" = none) :
    v.wmi = none ∧
    d'.lookup "whitening_mat_inv.npy" = some (inv (v.wm.getD (eye one (v.channelMap.shape.headD 0)))) := by
  obtain ⟨times, samples, st, sc, cm, pos, hv, hd, -⟩ := load_nf inv d v d' h
  have hl : (d1Of d).lookup "whitening_mat_inv.npy" = none := by rw [d1Of_lookup_wmi, hn]
  have hw := wmiStep_none inv (d1Of d) (inv (eye one (v.channelMap.shape.headD 0))) hl
  refine ⟨(congrArg View.wmi hv).trans (congrArg Prod.fst hw), ?_⟩
  have hwm : v.wm = (readFile (d1Of d) ["whitening_mat.npy"]).map fun a => atleast 2 (squeeze (scrub a)) :=
    congrArg View.wm hv
  rw [hd, hw, List.lookup_append, hl, hwm, List.lookup_cons_self]
  cases readFile (d1Of d) ["whitening_mat.npy"] <;> rfl

theorem wmi_stored (inv : Arr → Arr) {one : Cell} (d : Dir) (v : View) (d' : Dir) (h : load inv d one = .ok (v, d'))
    (a : Arr) (ha : d.lookup "whitening_mat_inv.npy" = some a) :
    v.wmi = some (atleast 2 (squeeze (scrub a))) := by
  obtain ⟨times, samples, st, sc, cm, pos, hv, -⟩ := load_nf inv d v d' h
  have hl : (d1Of d).lookup "whitening_mat_inv.npy" = some a := by rw [d1Of_lookup_wmi, ha]
  exact (congrArg View.wmi hv).trans (congrArg Prod.fst (wmiStep_some inv (d1Of d) _ a hl))

theorem samples_recovered_of_stored (rate t : Rat) (s : Int)
    (h1 : (s : Rat) - 1 / 2 < t * rate) (h2 : t * rate < (s : Rat) + 1 / 2) :
    roundHalfEven (t * rate) = s :=
  roundHalfEven_of_near (t * rate) s h1 h2

end PhyVerif.C04.Lemmas
