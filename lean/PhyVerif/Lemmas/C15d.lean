import PhyVerif.Lemmas.C15c
/-!
Proofs for the fourth part of C15, which has no model file of its own: the STATEMENT's counts (`specSeconds` of
`Spec/C15b.lean`, bin a rational number of seconds) against what `Model/C15b.lean` and `C15c.lean` count when
`rate · bin` is not a whole number of samples (the bin is truncated; a whole `rate · bin` is the case `correlogramsQ_eq`),
the change of units, the `int32` cells of the count array, the `int64` samples.  Statements: `Props/C15.lean`.
-/
namespace PhyVerif.C15.Lemmas
open PhyVerif PhyVerif.C15 PhyVerif.Fl PhyVerif.Fl.Lemmas

/-! ### the statement's counts, one floor per pair -/

theorem count_map_eq_length_filter {α β : Type} [BEq β] (f : α → β) (l : List α) (e : β) :
    (l.map f).count e = (l.filter fun p => f p == e).length := by
  rw [List.count_eq_countP, List.countP_map, List.countP_eq_length_filter]
  rfl

theorem stmtSeconds_eq (times : List ℚ) (sc : List Int) (ids : List Nat) (bin : ℚ) (half : Nat) :
    stmtSeconds times sc ids bin half = specSeconds times sc ids bin half := by
  unfold stmtSeconds specSeconds stmtEvents
  simp only [count_map_eq_length_filter]
  refine map3_congr fun i _ j _ k _ => congrArg List.length (List.filter_congr fun p _ => ?_)
  rw [Bool.eq_iff_iff]
  simp only [Bool.and_eq_true, beq_iff_eq, Prod.mk.injEq, and_assoc]

/-! ### change of units: seconds ↔ samples (together `specSeconds_units` of Props) -/

theorem specSeconds_scale (times : List ℚ) (sc : List Int) (ids : List Nat) (r bin : ℚ) (half : Nat) (hr : r ≠ 0) :
    specSeconds (times.map (· * r)) sc ids (r * bin) half = specSeconds times sc ids bin half := by
  unfold specSeconds
  rw [List.length_map]
  refine map3_congr fun i _ j _ k _ => congrArg List.length (List.filter_congr fun p _ => ?_)
  rw [Np.Lemmas.getD_map _ times _ 0 0 (zero_mul r), Np.Lemmas.getD_map _ times _ 0 0 (zero_mul r), ← sub_mul, mul_comm r bin,
    mul_div_mul_right _ _ hr]

theorem specSeconds_onGrid (times : List ℚ) (sc : List Int) (ids : List Nat) (rate bin : ℚ) (T : List Int) (half : Nat)
    (hr : 0 < rate) (hT : times.map (· * rate) = T.map fun (z : Int) => (z : ℚ)) :
    specSeconds times sc ids bin half = specSeconds (T.map fun (z : Int) => (z : ℚ)) sc ids (rate * bin) half := by
  rw [← hT, specSeconds_scale _ _ _ _ _ _ (ne_of_gt hr)]

theorem specSeconds_whole (T : List Int) (sc : List Int) (ids : List Nat) (B : Int) (half : Nat) (hB : 0 < B) :
    specSeconds (T.map fun (z : Int) => (z : ℚ)) sc ids (B : ℚ) half = specCcg T sc ids B half := by
  unfold specSeconds specCcg
  rw [List.length_map]
  refine map3_congr fun i _ j _ k _ => congrArg List.length (List.filter_congr fun p _ => ?_)
  rw [Np.Lemmas.getD_map _ T _ 0 0 Int.cast_zero, Np.Lemmas.getD_map _ T _ 0 0 Int.cast_zero, ← Int.cast_sub, floor_intdiv _ _ hB]

/-! ### what the code counts, in seconds -/

theorem binsizeOf_floor (rate bin : ℚ) (hr : 0 < rate) (h1 : clipLo ≤ bin) (h2 : bin ≤ clipHi) :
    binsizeOf rate bin = (rate * bin).floor := by
  unfold binsizeOf
  have hb : 0 < bin := lt_of_lt_of_le clipLo_pos h1
  rw [clip_id _ _ _ h1 h2, truncInt_eq_floor _ (le_of_lt (mul_pos hr hb))]

theorem correlogramsQ_truncates (times : List ℚ) (sc : List Int) (ids : List Nat) (rate bin window : ℚ)
    (T : List Int) (g : TimesOK times rate bin window T)
    (hsorted : times.Pairwise (· ≤ ·)) (hlen : sc.length = times.length) (hdom : InDom sc ids) (sym : Bool) :
    binsizeOf rate bin = (rate * bin).floor ∧
    correlogramsQ times sc (some ids) rate bin window sym =
      some (if sym then symmetrize (specSeconds times sc ids (((rate * bin).floor : ℚ) / rate) (halfOf window bin))
            else specSeconds times sc ids (((rate * bin).floor : ℚ) / rate) (halfOf window bin)) := by
  have hbs := binsizeOf_floor rate bin g.rate_pos g.bin_lo g.bin_hi
  refine ⟨hbs, ?_⟩
  have hB : 0 < (rate * bin).floor := Int.lt_of_lt_of_le Int.zero_lt_one g.binPos
  have hT := map_mul_onGrid times rate T g.len g.onGrid
  rw [correlogramsQ_ofInts, hbs, samplesOf_onGrid rate times T hT,
    correlogramsOfInts_eq_spec T _ _ times sc ids rate sym g.rate_pos hsorted hlen hdom g.binPos
      (samples_sorted times rate T g.rate_pos hT hsorted) g.len,
    ← specSeconds_whole T sc ids _ _ hB,
    specSeconds_onGrid times sc ids rate (((rate * bin).floor : ℚ) / rate) T _ g.rate_pos hT,
    mul_div_cancel₀ _ (ne_of_gt g.rate_pos)]
  rfl

/-- when `rate · bin` is the whole number `B`, that bin is the caller's -/
theorem correlogramsQ_eq (times : List Rat) (sc : List Int) (ids : List Nat) (rate bin window : Rat)
    (T : List Int) (B : Int) (g : GridOK times rate bin window T B)
    (hsorted : times.Pairwise (· ≤ ·)) (hlen : sc.length = times.length) (hdom : InDom sc ids) (sym : Bool) :
    correlogramsQ times sc (some ids) rate bin window sym =
      some (if sym then symmetrize (specSeconds times sc ids bin (halfOf window bin))
            else specSeconds times sc ids bin (halfOf window bin)) := by
  have hfl : (rate * bin).floor = B := by rw [g.binGrid, Rat.floor_intCast]
  have h := (correlogramsQ_truncates times sc ids rate bin window T
    ⟨g.rate_pos, g.bin_lo, g.bin_hi, g.win_lo, g.win_hi, g.len, g.onGrid, hfl ▸ g.binPos⟩ hsorted hlen hdom sym).2
  rwa [hfl, ← g.binGrid, mul_div_cancel_left₀ _ (ne_of_gt g.rate_pos)] at h

theorem correlogramsFl_seconds (times : List ℚ) (sc : List Int) (ids : List Nat) (rate bin window : ℚ)
    (T : List Int) (B : Int) (g : GridOK times rate bin window T B) (x : FlExact bin window T B)
    (hsorted : times.Pairwise (· ≤ ·)) (hlen : sc.length = times.length) (hdom : InDom sc ids) (sym : Bool) :
    correlogramsFl times sc (some ids) rate bin window sym =
      some (if sym then symmetrize (specSeconds times sc ids bin (halfOf window bin))
            else specSeconds times sc ids bin (halfOf window bin)) :=
  (correlogramsFl_eq_Q times sc (some ids) rate bin window T B g x sym).trans
    (correlogramsQ_eq times sc ids rate bin window T B g hsorted hlen hdom sym)

theorem correlogramsFl_truncates (times : List ℚ) (sc : List Int) (ids : List Nat) (rate bin window : ℚ) (sym : Bool)
    (hr : 0 < rate) (hsorted : times.Pairwise (· ≤ ·)) (hlen : sc.length = times.length) (hdom : InDom sc ids)
    (hb : 1 ≤ binsizeOfFl rate bin) :
    binsizeOfFl rate bin = truncInt (binProdFl rate bin) ∧
    correlogramsFl times sc (some ids) rate bin window sym =
      some (if sym then symmetrize (specSeconds ((samplesOfFl rate times).map fun (z : Int) => (z : ℚ)) sc ids
                                      ((binsizeOfFl rate bin : Int) : ℚ) (halfOfFl window bin))
            else specSeconds ((samplesOfFl rate times).map fun (z : Int) => (z : ℚ)) sc ids
                   ((binsizeOfFl rate bin : Int) : ℚ) (halfOfFl window bin)) := by
  refine ⟨rfl, ?_⟩
  rw [correlogramsFl_eq_spec times sc ids rate bin window sym hr hsorted hlen hdom hb,
    specSeconds_whole _ sc ids _ _ (Int.lt_of_lt_of_le Int.zero_lt_one hb)]

/-! ### the `int32` cells of the count array -/

theorem pairs_length (n : Nat) : (pairs n).length * 2 = n * (n - 1) := by
  induction n with
  | zero => rfl
  | succ n ih =>
    have : pairs (n + 1) = pairs n ++ (List.range n).map fun a => (a, n) := by
      simp [pairs, List.range_succ, List.flatMap_append]
    rw [this, List.length_append, List.length_map, List.length_range, Nat.add_mul, ih]
    cases n with
    | zero => rfl
    | succ m => simp only [Nat.add_sub_cancel]; ring

theorem get3_specCcg_le (t : List Int) (sc : List Int) (ids : List Nat) (bin : Int) (half : Nat) (i j k : Nat) :
    get3 (specCcg t sc ids bin half) i j k ≤ (pairs t.length).length := by
  unfold get3 specCcg
  -- an entry is the length of a filter of `pairs`, or the default 0
  simp only [List.getD_eq_getElem?_getD, List.getElem?_map]
  rcases hi : (List.range ids.length)[i]? with _ | i' <;> simp only [Option.map_none, Option.map_some, Option.getD_none,
    Option.getD_some, List.getElem?_nil, List.getElem?_map, Nat.zero_le]
  rcases hj : (List.range ids.length)[j]? with _ | j' <;> simp only [Option.map_none, Option.map_some, Option.getD_none,
    Option.getD_some, List.getElem?_nil, List.getElem?_map, Nat.zero_le]
  rcases hk : (List.range (half + 1))[k]? with _ | k' <;> simp only [Option.map_none, Option.map_some, Option.getD_none,
    Option.getD_some, Nat.zero_le]
  exact List.length_filter_le _ _

theorem correlogramsArr_int32 (t : List Int) (sc : List Int) (ids : List Nat) (bin : Int) (half : Nat) (w : Int)
    (hw : (w / 2).toNat = half) (hsorted : t.Pairwise (· ≤ ·)) (hb : 0 < bin) (hlen : sc.length = t.length)
    (hdom : InDom sc ids) (hn : t.length ≤ 65536) :
    ∃ c, correlogramsArr t sc ids bin w = some c ∧ ∀ i j k, get3 c i j k < 2 ^ 31 := by
  refine ⟨specCcg t sc ids bin half, ?_, fun i j k => ?_⟩
  · rw [correlogramsArr_eq t sc ids bin half w hw hsorted hb hlen hdom,
      correlograms_eq_spec t sc ids bin half hsorted hb hlen hdom]
  · have h3 : t.length * (t.length - 1) ≤ 65536 * 65535 := Nat.mul_le_mul hn (Nat.sub_le_sub_right hn 1)
    refine Nat.lt_of_le_of_lt (get3_specCcg_le t sc ids bin half i j k) (Nat.lt_of_mul_lt_mul_right (a := 2) ?_)
    rw [pairs_length]
    exact Nat.lt_of_le_of_lt h3 (by decide)  -- 65536 · 65535 = 4 294 901 760 < 2^32

/-! ### the `int64` samples -/

theorem truncInt_int64 (x : ℚ) (h : absR x < pow2 63) : -2 ^ 63 < truncInt x ∧ truncInt x < 2 ^ 63 := by
  rw [absR_eq, show pow2 63 = _ from pow2_intCast 63] at h
  -- `⌊x⌋` or `-⌊-x⌋`, the floor of a number in `[0, 2^63)`
  unfold truncInt
  split
  · next h0 =>
    rw [abs_of_nonneg h0] at h
    exact ⟨lt_of_lt_of_le (by decide) (floor_nonneg x h0), Int.cast_lt.mp (lt_of_le_of_lt (Rat.floor_le x) h)⟩
  · next h0 =>
    have h0' : x < 0 := not_le.mp h0
    rw [abs_of_neg h0'] at h
    exact ⟨Int.neg_lt_neg (Int.cast_lt.mp (lt_of_le_of_lt (Rat.floor_le (-x)) h)),
      lt_of_le_of_lt (Int.neg_nonpos_of_nonneg (floor_nonneg (-x) (neg_nonneg.mpr h0'.le))) (by decide)⟩

theorem samplesOfFl_int64 (times : List ℚ) (rate bin window : ℚ) (h : FlDom times rate bin window) :
    ∀ s ∈ samplesOfFl rate times, -2 ^ 63 < s ∧ s < 2 ^ 63 := by
  intro s hs
  unfold samplesOfFl at hs
  obtain ⟨t, ht, rfl⟩ := List.mem_map.mp hs
  exact truncInt_int64 _ (h.1 t ht).2

/-! ### the rows of `firingRate` for an id without spikes -/

theorem firing_zero_of_empty_model (sc : List Int) (ids : List Nat) (bin : ℚ) (dur : Option ℚ)
    (hdom : InDom sc ids) (hb : 0 < bin)
    (i : Nat) (hi : i < ids.length) (he : Int.ofNat (ids.getD i 0) ∉ sc) (j : Nat) (hj : j < ids.length) :
    ∃ m, firingRate sc (some ids) bin dur = some m ∧ (m.getD i []).getD j 0 = 0 ∧ (m.getD j []).getD i 0 = 0 :=
  ⟨_, firing_rate_eq sc ids bin dur hdom hb, firing_zero_of_empty sc ids bin dur i hi he j hj⟩

end PhyVerif.C15.Lemmas
