import PhyVerif.Model.C08
import PhyVerif.Lemmas.C04d
import PhyVerif.Lemmas.C13cNames
/-! The ALF export on directories (`Model/C13c.lean`): each step of `convertFS` as a sequence of writes; from that
the frame of the source directory, the first dimensions, names and contents of the output files (`Props/C13.lean`). -/
namespace PhyVerif.C13.Lemmas
open PhyVerif PhyVerif.C13

theorem saveSubset_true (src : FDir) :
    saveSubset true src = writeAll src (subsetFiles.map fun n => (n, fresh (tokRows (".".intercalate n) 0))) := rfl

theorem lookup_saveSubset (b : Bool) (src : FDir) (n : Name) (hn : n ∉ subsetFiles) :
    (saveSubset b src).lookup n = src.lookup n := by
  cases b
  · rfl
  · rw [saveSubset_true]
    refine lookup_writeAll_ne (fun w hw hnw => ?_) src
    obtain ⟨m, hm, rfl⟩ := List.mem_map.mp hw
    exact hn (hnw ▸ hm)

theorem has_saveSubset_true (src : FDir) (n : Name) (hn : n ∈ subsetFiles) :
    (saveSubset true src).has n = true := by
  rw [saveSubset_true]
  exact has_writeAll_of_mem (by rw [List.map_map]; exact List.mem_map.mpr ⟨n, hn, rfl⟩) src

theorem exempt_false {n : Name} (h : exempt n = false) : n ∉ subsetFiles ∧ n ≠ ["temp_wh", "dat"] := by
  simp only [exempt, Bool.or_eq_false_iff, beq_eq_false_iff_ne, ne_eq, List.contains_eq_mem,
    decide_eq_false_iff_not] at h
  exact ⟨h.2, h.1⟩

/-- the source directory after `save_spikes_subset_waveforms` and `FILE_DELETES`: what `copy_files` reads -/
def src' (cfg : Cfg) (fs : FS) : FDir := rmFiles (saveSubset cfg.hasTraces fs.src)

theorem lookup_src' (cfg : Cfg) (fs : FS) (n : Name) (h1 : n ∉ subsetFiles) (h2 : n ≠ ["temp_wh", "dat"]) :
    (src' cfg fs).lookup n = fs.src.lookup n := by
  rw [src', rmFiles, lookup_remove_ne _ _ _ h2, lookup_saveSubset _ _ _ h1]

/-- the output directory after the first three steps -/
def out3 (v : View) (gen : Nat → String) (fs : FS) : FDir :=
  makeTemplateAndSpikesObjects v (makeChannelObjects v (makeClusterObjects v gen fs.src fs.out))

theorem convertFS_src (cfg : Cfg) (v : View) (gen : Nat → String) (fs : FS) :
    (cfg.sameDir = true ∧ (convertFS cfg v gen fs).err ≠ none ∧ (convertFS cfg v gen fs).fs.src = fs.src) ∨
    (cfg.sameDir = false ∧ (convertFS cfg v gen fs).err ≠ none ∧
      (convertFS cfg v gen fs).fs.src = saveSubset cfg.hasTraces fs.src) ∨
    (cfg.sameDir = false ∧ (convertFS cfg v gen fs).fs.src = src' cfg fs) := by
  unfold convertFS
  cases hs : cfg.sameDir
  · simp only [Bool.false_eq_true, ↓reduceIte, false_and, false_or, true_and]
    split
    · simp
    · simp only [src']
      right
      split
      · rfl
      · split <;> rfl
  · simp

theorem export_frame (cfg : Cfg) (v : View) (gen : Nat → String) (fs : FS) :
    (∀ n, n ∉ subsetFiles → n ≠ ["temp_wh", "dat"] →
        (convertFS cfg v gen fs).fs.src.lookup n = fs.src.lookup n) ∧
    ((convertFS cfg v gen fs).err = none → (convertFS cfg v gen fs).fs.src.has ["temp_wh", "dat"] = false) ∧
    (cfg.hasTraces = false → ∀ n, n ≠ ["temp_wh", "dat"] →
        (convertFS cfg v gen fs).fs.src.lookup n = fs.src.lookup n) ∧
    (cfg.hasTraces = true → cfg.sameDir = false → ∀ n ∈ subsetFiles, (convertFS cfg v gen fs).fs.src.has n = true) := by
  rcases convertFS_src cfg v gen fs with ⟨hs, he, h⟩ | ⟨_, he, h⟩ | ⟨_, h⟩ <;> rw [h]
  · exact ⟨fun _ _ _ => rfl, fun h0 => absurd h0 he, fun _ _ _ => rfl,
      fun _ h0 => by rw [hs] at h0; cases h0⟩
  · exact ⟨fun n hn _ => lookup_saveSubset _ _ n hn, fun h0 => absurd h0 he,
      fun hT n _ => by rw [hT]; rfl, fun hT _ n hn => by rw [hT]; exact has_saveSubset_true _ n hn⟩
  · refine ⟨lookup_src' cfg fs, fun _ => has_remove_self _ _, fun hT n ht => ?_, fun hT _ n hn => ?_⟩
    · rw [src', hT, rmFiles, lookup_remove_ne _ _ _ ht]; rfl
    · have hne : ∀ n ∈ subsetFiles, n ≠ ["temp_wh", "dat"] := by decide +kernel
      rw [src', hT, rmFiles, ← lookup_isSome, lookup_remove_ne _ _ _ (hne n hn), lookup_isSome]
      exact has_saveSubset_true _ n hn

theorem refusal_frame (cfg : Cfg) (v : View) (gen : Nat → String) (fs : FS) (h : cfg.sameDir = true) :
    convertFS cfg v gen fs = ⟨fs, some .sameDir⟩ := by
  simp [convertFS, h]

theorem export_frame_decided (cfg : Cfg) (v : View) (gen : Nat → String) (fs : FS) (hn : fs.src.keys.Nodup)
    (he : (convertFS cfg v gen fs).err = none) :
    frameOKb fs.src (convertFS cfg v gen fs).fs.src = true := by
  obtain ⟨h1, h2, _, _⟩ := export_frame cfg v gen fs
  simp only [frameOKb, Bool.and_eq_true, List.all_eq_true, Bool.or_eq_true, Bool.not_eq_true']
  refine ⟨⟨fun f hf => ?_, fun f hf => ?_⟩, h2 he⟩ <;> cases hx : exempt f.1
  · obtain ⟨ha, hb⟩ := exempt_false hx
    rw [h1 f.1 ha hb, lookup_of_mem_nodup hn (show (f.1, f.2) ∈ fs.src from hf)]
    simp
  · exact .inl rfl
  · obtain ⟨ha, hb⟩ := exempt_false hx
    rw [← lookup_isSome, ← h1 f.1 ha hb, lookup_isSome]
    exact .inr (has_eq_true.mpr ⟨f.2, hf⟩)
  · exact .inl rfl

theorem tokRows_length (w : String) (n : Nat) : (tokRows w n).length = n := by simp [tokRows]

theorem camps_length (v : View) : (camps v).length = nClusters v := by
  simp [camps, clustersChannels, tokRows_length]

theorem spikeAmps_length (v : View) (hv : ViewOK v) : (spikeAmps v).length = v.samples.length := by
  simp [spikeAmps, hv.2.2.1, hv.2.2.2.1]

theorem spikesDepths_length (v : View) (hv : ViewOK v) (cd : List Row) :
    (spikesDepths v cd).length = v.samples.length := by
  unfold spikesDepths getDepthsRows
  cases v.featRows with
  | none => simp [hv.2.1]
  | some n =>
    by_cases h : n = v.times.length
    · simp [h, tokRows_length, hv.1]
    · simp [h, hv.2.1]

/-- what `make_cluster_objects`, `make_channel_objects` and `make_template_and_spikes_objects` write, in this
order, when the source holds neither `clusters.channels.npy` nor `clusters.peakToTrough.npy` -/
def computedWrites (v : View) (gen : Nat → String) : List (Name × Entry) :=
  [ (["clusters", "channels", "npy"], fresh (clustersChannels v)),
    (["clusters", "peakToTrough", "npy"], fresh (tokRows "clusters_waveforms_durations" (nClusters v))),
    (["clusters", "amps", "npy"], fresh (camps v)),
    (["clusters", "uuids", "csv"], fresh (uuidColumn gen (camps v).length)),
    (["channels", "rawInd", "npy"], fresh (tokRows "rawInd" v.channelProbes.length)),
    (["spikes", "times", "npy"], fresh (v.times.map Row.q)),
    (["spikes", "samples", "npy"], fresh (v.samples.map Row.z)),
    (["spikes", "amps", "npy"], fresh (spikeAmps v)),
    (["templates", "amps", "npy"], fresh (tokRows "templates.amps" v.nTemplates)),
    (["templates", "waveforms", "npy"], fresh (tokRows "templates.waveforms" v.nTemplates)),
    (["templates", "waveformsChannels", "npy"], fresh (tokRows "templates.waveformsChannels" v.nTemplates)),
    (["clusters", "waveforms", "npy"], fresh (tokRows "clusters.waveforms" (nClusters v))),
    (["clusters", "waveformsChannels", "npy"], fresh (tokRows "clusters.waveformsChannels" (nClusters v))),
    (["clusters", "amps", "npy"], fresh (tokRows "clusters.amps" (nClusters v))) ]

/-- the names `computedWrites` writes to, in order: the first thirteen of `computedNames`, then `clusters.amps.npy`
once more (alf.py:297 overwrites what `make_cluster_objects` saved) -/
def writeNames : List Name := computedNames.take 13 ++ [["clusters", "amps", "npy"]]

theorem computedWrites_names (v : View) (gen : Nat → String) : (computedWrites v gen).map (·.1) = writeNames := rfl

theorem writeNames_computed : ∀ n ∈ writeNames, n ∈ computedNames := by
  intro n hn
  rcases List.mem_append.mp hn with h | h
  · exact List.mem_of_mem_take h
  · rw [List.mem_singleton.mp h]
    decide

/-- the first three steps are a sequence of writes: all of `computedWrites`, except that the first two are
skipped when the SOURCE directory holds a file of that name -/
theorem out3_writes (v : View) (gen : Nat → String) (fs : FS) :
    ∃ ws, ws.Sublist (computedWrites v gen) ∧ out3 v gen fs = writeAll fs.out ws ∧
      (fs.src.has ["clusters", "channels", "npy"] = false → fs.src.has ["clusters", "peakToTrough", "npy"] = false →
        ws = computedWrites v gen) := by
  unfold out3 makeTemplateAndSpikesObjects makeChannelObjects makeClusterObjects
  cases fs.src.has ["clusters", "channels", "npy"] <;> cases fs.src.has ["clusters", "peakToTrough", "npy"]
  · exact ⟨computedWrites v gen, List.Sublist.refl _, rfl, fun _ _ => rfl⟩
  · exact ⟨(computedWrites v gen).eraseIdx 1, List.eraseIdx_sublist .., rfl, nofun⟩
  · exact ⟨(computedWrites v gen).tail, List.tail_sublist _, rfl, nofun⟩
  · exact ⟨(computedWrites v gen).drop 2, List.drop_sublist .., rfl, nofun⟩

theorem out3_eq (v : View) (gen : Nat → String) {cfg : Cfg} {fs : FS} (h : Convertible cfg fs) :
    out3 v gen fs = writeAll fs.out (computedWrites v gen) := by
  obtain ⟨ws, _, h3, hws⟩ := out3_writes v gen fs
  rw [h3, hws h.2.2.1 h.2.2.2.1]

theorem makeDepths_eq (v : View) (out : FDir) :
    makeDepths v out = (out.lookup ["clusters", "channels", "npy"]).map fun cc => writeAll out
      [ (["spikes", "depths", "npy"], fresh (spikesDepths v (clustersDepths cc))),
        (["clusters", "depths", "npy"], fresh (clustersDepths cc)) ] := by
  unfold makeDepths
  cases out.lookup ["clusters", "channels", "npy"] <;> rfl

/-- one iteration of `copy_files` leaves the output directory as it was, or (re)writes the target with the rows
of the source file: with the file itself unless the line asks to squeeze (then it writes twice, and the second
write replaces the first) -/
theorem copyOne_cases (force : Bool) (src out : FDir) (r : Name × Name × Bool) :
    (copyOne force src out r = out ∧ ∀ e, src.lookup r.1 = some e → out.has r.2.1 = true) ∨
    ∃ e e', src.lookup r.1 = some e ∧ e'.rows = e.rows ∧ (r.2.2 = false → e' = e) ∧
      copyOne force src out r = out.write r.2.1 e' := by
  unfold copyOne
  cases src.lookup r.1 with
  | none => exact .inl ⟨rfl, nofun⟩
  | some e =>
    simp only []
    by_cases hsq : (r.2.2 && r.1.getLast? == some "npy" && e.vec2d) = true
    · refine .inr ⟨e, squeezed e, rfl, rfl, fun h => ?_, ?_⟩
      · rw [h] at hsq; cases hsq
      rw [if_pos hsq]
      split
      · rfl
      · exact write_write ..
    · rw [if_neg hsq]
      split
      · next h => exact .inl ⟨rfl, fun _ _ => (Bool.and_eq_true _ _ ▸ h).1⟩
      · exact .inr ⟨e, e, rfl, rfl, fun _ => rfl, rfl⟩

theorem foldl_copy_inv (P : FDir → Prop) (force : Bool) (src : FDir) :
    ∀ (l : List (Name × Name × Bool)) (out : FDir),
      (∀ r ∈ l, ∀ d e e', src.lookup r.1 = some e → e'.rows = e.rows → P d → P (d.write r.2.1 e')) →
      P out → P (l.foldl (copyOne force src) out)
  | [], _, _, h => h
  | r :: l, out, hw, h => by
    refine foldl_copy_inv P force src l _ (fun r' hr' => hw r' (List.mem_cons_of_mem _ hr')) ?_
    rcases copyOne_cases force src out r with ⟨h1, _⟩ | ⟨e, e', he, hrows, _, h1⟩ <;> rw [h1]
    · exact h
    · exact hw r List.mem_cons_self out e e' he hrows h

theorem rowsOK_out3 (v : View) (gen : Nat → String) (fs : FS) (hv : ViewOK v) (h : RowsOK v fs.out) :
    RowsOK v (out3 v gen fs) := by
  obtain ⟨ws, hsub, h3, _⟩ := out3_writes v gen fs
  rw [h3]
  refine forall_mem_writeAll h fun w hw => ?_
  have hall : ∀ w ∈ computedWrites v gen, isObj w.1 = true →
      expectedRows (sizesOf v) w.1 = some (firstDim w.1 w.2) := by
    simp only [computedWrites, List.forall_mem_cons, List.not_mem_nil, false_imp_iff, implies_true, and_true]
    -- each file has as many rows as its family counts (`tokRows` by construction, the rest by `ViewOK`); the
    -- identifier file has one more, its header
    simp [expectedRows, sizesOf, firstDim, fresh, tokRows_length, camps_length, clustersChannels,
      uuidColumn, hv.1, hv.2.2.2.2, spikeAmps_length v hv]
  exact hall w (hsub.subset hw)

theorem rowsOK_makeDepths (v : View) (out out' : FDir) (hv : ViewOK v) (h : RowsOK v out)
    (hd : makeDepths v out = some out') : RowsOK v out' := by
  rw [makeDepths_eq, Option.map_eq_some_iff] at hd
  obtain ⟨cc, hc, rfl⟩ := hd
  have hcc : some (nClusters v) = some cc.rows.length := h _ (lookup_mem hc) rfl
  refine forall_mem_writeAll h ?_
  simp [expectedRows, sizesOf, firstDim, fresh, spikesDepths_length v hv, clustersDepths, ← Option.some.inj hcc]

theorem rowsOK_copyFiles (v : View) (force : Bool) (src out : FDir) (hs : SrcOK v src) (h : RowsOK v out) :
    RowsOK v (copyFiles force src out) := by
  have hcsv : ∀ r ∈ fileRenames, (r.2.1.getLast? == some "csv") = false := by decide +kernel
  refine foldl_copy_inv (RowsOK v) force src fileRenames out (fun r hr d e e' he hrows hd => ?_) h
  refine forall_mem_write hd fun ho => ?_
  rw [firstDim, hcsv r hr, hrows]
  exact hs r hr ho e he

theorem rowsOK_rename (v : View) (label : String) (out : FDir) (h : RowsOK v out) :
    RowsOK v (renameWithLabel label out) := by
  unfold renameWithLabel
  split
  · exact h
  · intro f hf ho
    obtain ⟨f0, hf0, rfl⟩ := List.mem_map.mp hf
    rw [isObj_relabel] at ho
    rw [expectedRows_relabel _ label ho, firstDim, getLast?_relabel label ho]
    exact h f0 hf0 ho

theorem rowsOK_compress (v : View) (d d' : FDir) (h : RowsOK v d)
    (hm : compressSpikesDtypes d = some d') : RowsOK v d' := by
  have h16 : ∀ (p : Name → Bool) (d d' : FDir), RowsOK v d → mapFirst p u16 d = some d' → RowsOK v d' := by
    intro p d d' h hm x' hx' ho
    obtain ⟨x, hx, h1, h2⟩ := mapFirst_mem p u16 d d' hm x' hx'
    have hx0 := h x hx (h1 ▸ ho)
    rcases h2 with h2 | h2 <;> rw [h1, firstDim, h2]
    · exact hx0
    · simpa [firstDim, u16] using hx0
  obtain ⟨d1, h1, h2⟩ := Option.bind_eq_some_iff.mp hm
  exact h16 _ d1 d' (h16 _ d d1 h h1) h2

/-- the conversion leaves alone the source files it copies into object tables -/
theorem renames_not_exempt : ∀ r ∈ fileRenames, isObj r.2.1 = true → exempt r.1 = false := by decide +kernel

theorem srcOK_transfer (v : View) (cfg : Cfg) (fs : FS) (h : SrcOK v fs.src) : SrcOK v (src' cfg fs) := by
  intro r hr ho e he
  obtain ⟨h1, h2⟩ := exempt_false (renames_not_exempt r hr ho)
  rw [lookup_src' cfg fs r.1 h1 h2] at he
  exact h r hr ho e he

theorem export_first_dims (cfg : Cfg) (v : View) (gen : Nat → String) (fs : FS)
    (hv : ViewOK v) (hs : SrcOK v fs.src) (ho : RowsOK v fs.out) :
    RowsOK v (convertFS cfg v gen fs).fs.out := by
  have h3 := rowsOK_out3 v gen fs hv ho
  unfold convertFS
  cases cfg.sameDir
  · simp only [Bool.false_eq_true, ↓reduceIte]
    split
    · exact h3
    · next out4 h4 =>
      have h5 := rowsOK_copyFiles v cfg.force _ out4 (srcOK_transfer v cfg fs hs) (rowsOK_makeDepths v _ out4 hv h3 h4)
      split
      · exact h5
      · split
        · exact rowsOK_rename v _ _ h5
        · next hc => exact rowsOK_compress v _ _ (rowsOK_rename v _ _ h5) hc
  · exact ho

theorem lookup_foldl_copy_ne (force : Bool) (src : FDir) (k : Name) :
    ∀ (l : List (Name × Name × Bool)) (out : FDir), (∀ r ∈ l, k ≠ r.2.1) →
      (l.foldl (copyOne force src) out).lookup k = out.lookup k :=
  fun l out hl => foldl_copy_inv (fun d => d.lookup k = out.lookup k) force src l out
    (fun r hr d _ _ _ _ hd => by rw [lookup_write_ne _ _ _ _ (hl r hr)]; exact hd) rfl

theorem has_foldl_copy_mono (force : Bool) (src : FDir) (k : Name) (l : List (Name × Name × Bool)) (out : FDir)
    (h : out.has k = true) : (l.foldl (copyOne force src) out).has k = true :=
  foldl_copy_inv (fun d => d.has k = true) force src l out
    (fun r _ d _ _ _ _ hd => by rw [has_write, hd, Bool.or_true]) h

/-- a file of the rename table that the source holds is in the output directory afterwards, under its new name;
if it was not there before, with the rows of the source file, and as the source file itself when the line does
not squeeze (no two lines of the table have the same target) -/
theorem copyFiles_line (force : Bool) (src out : FDir) (r : Name × Name × Bool) (hr : r ∈ fileRenames)
    (e : Entry) (he : src.lookup r.1 = some e) :
    (copyFiles force src out).has r.2.1 = true ∧
    (out.has r.2.1 = false → ∃ e', (copyFiles force src out).lookup r.2.1 = some e' ∧ e'.rows = e.rows ∧
      (r.2.2 = false → e' = e)) := by
  obtain ⟨pre, post, hsplit⟩ := List.append_of_mem hr
  have hnd : (fileRenames.map (·.2.1)).Nodup := by decide +kernel
  rw [hsplit, List.map_append, List.map_cons, List.nodup_append, List.nodup_cons] at hnd
  obtain ⟨_, ⟨hpost, _⟩, hpre⟩ := hnd
  have hpre' : (pre.foldl (copyOne force src) out).has r.2.1 = out.has r.2.1 := by
    rw [← lookup_isSome, lookup_foldl_copy_ne _ _ _ pre _ fun r' hr' h =>
      hpre _ (List.mem_map.mpr ⟨r', hr', rfl⟩) _ List.mem_cons_self h.symm, lookup_isSome]
  rw [copyFiles, hsplit, List.foldl_append, List.foldl_cons,
    lookup_foldl_copy_ne _ _ _ post _ fun r' hr' h => hpost (List.mem_map.mpr ⟨r', hr', h.symm⟩)]
  rcases copyOne_cases force src (pre.foldl (copyOne force src) out) r with
    ⟨h1, h2⟩ | ⟨e1, e', he1, hrows, hsame, h1⟩ <;> rw [h1]
  · exact ⟨has_foldl_copy_mono _ _ _ _ _ (h2 e he), fun hno => by rw [hpre', hno] at h2; cases h2 e he⟩
  · rw [he] at he1
    cases he1
    exact ⟨has_foldl_copy_mono _ _ _ _ _ (by rw [has_write, beq_self_eq_true, Bool.true_or]),
      fun _ => ⟨e', lookup_write_self .., hrows, hsame⟩⟩

/-- the lines of the rename table for the three files every source in the domain holds -/
theorem copied_lines :
    (["channel_positions", "npy"], ["channels", "localCoordinates", "npy"], false) ∈ fileRenames ∧
    (["spike_clusters", "npy"], ["spikes", "clusters", "npy"], true) ∈ fileRenames ∧
    (["spike_templates", "npy"], ["spikes", "templates", "npy"], true) ∈ fileRenames := by decide +kernel

/-- the tables that are copies of these three files -/
def copiedTables : List Name :=
  [["channels", "localCoordinates", "npy"], ["spikes", "clusters", "npy"], ["spikes", "templates", "npy"]]

theorem has_copied_tables {cfg : Cfg} {fs : FS} (h : Convertible cfg fs) (out : FDir) :
    ∀ n ∈ copiedTables, (copyFiles cfg.force (src' cfg fs) out).has n = true := by
  obtain ⟨_, _, _, _, hsc, hst, hcp⟩ := h
  have hcopy : ∀ r ∈ fileRenames, isObj r.2.1 = true → fs.src.has r.1 = true →
      (copyFiles cfg.force (src' cfg fs) out).has r.2.1 = true := by
    intro r hr ho hs
    obtain ⟨h1, h2⟩ := exempt_false (renames_not_exempt r hr ho)
    rw [← lookup_isSome, ← lookup_src' cfg fs r.1 h1 h2, Option.isSome_iff_exists] at hs
    obtain ⟨e, he⟩ := hs
    exact (copyFiles_line _ _ out r hr e he).1
  intro n hn
  simp only [copiedTables, List.mem_cons, List.not_mem_nil, or_false] at hn
  rcases hn with rfl | rfl | rfl
  · exact hcopy _ copied_lines.1 rfl hcp
  · exact hcopy _ copied_lines.2.1 rfl hsc
  · exact hcopy _ copied_lines.2.2 rfl hst

def KeysIn (S : List Name) (d : FDir) : Prop := ∀ x ∈ d, x.1 ∈ S

theorem keysIn_out4 (v : View) (gen : Nat → String) (src out4 : FDir)
    (h4 : makeDepths v (out3 v gen ⟨src, []⟩) = some out4) : KeysIn computedNames out4 := by
  obtain ⟨ws, hsub, h3, _⟩ := out3_writes v gen ⟨src, []⟩
  rw [makeDepths_eq, Option.map_eq_some_iff] at h4
  obtain ⟨cc, _, rfl⟩ := h4
  rw [h3]
  refine forall_mem_writeAll (forall_mem_writeAll nofun fun w hw =>
    writeNames_computed _ (computedWrites_names v gen ▸ List.mem_map_of_mem (hsub.subset hw))) ?_
  simp [computedNames]

theorem targets_not_computed : ∀ r ∈ fileRenames, r.2.1 ∉ computedNames := by decide +kernel

theorem has_out4_empty (v : View) (gen : Nat → String) (src out4 : FDir)
    (h4 : makeDepths v (out3 v gen ⟨src, []⟩) = some out4) (k : Name) (hk : k ∉ computedNames) :
    out4.has k = false := by
  cases hh : out4.has k
  · rfl
  · obtain ⟨e, he⟩ := has_eq_true.mp hh
    exact absurd (keysIn_out4 v gen src out4 h4 _ he) hk

theorem keysIn_copyFiles (force : Bool) (src out : FDir) (h : KeysIn allNames out) :
    KeysIn allNames (copyFiles force src out) :=
  foldl_copy_inv (KeysIn allNames) force src fileRenames out (fun r hr _ _ _ _ _ hd =>
    forall_mem_write hd (List.mem_append_right _ (List.mem_map.mpr ⟨r, hr, rfl⟩))) h

/-- every file name of `d` is the labelled version of a name the conversion can write -/
def KeysLab (label : String) (d : FDir) : Prop := ∀ n ∈ d.keys, ∃ k ∈ allNames, n = labelled' label k

theorem keysIn_rename (label : String) (d : FDir) (h : KeysIn allNames d) :
    KeysLab label (renameWithLabel label d) := by
  intro n hn
  obtain ⟨x, hx, rfl⟩ := List.mem_map.mp hn
  unfold renameWithLabel at hx
  unfold labelled'
  split at hx
  · next hl => exact ⟨x.1, h x hx, by rw [if_pos hl]⟩
  · next hl =>
    obtain ⟨x0, hx0, rfl⟩ := List.mem_map.mp hx
    exact ⟨x0.1, h x0 hx0, by rw [if_neg hl]⟩

theorem keysLab_copied (cfg : Cfg) (v : View) (gen : Nat → String) (src out4 : FDir)
    (h4 : makeDepths v (out3 v gen ⟨src, []⟩) = some out4) :
    KeysLab cfg.label (renameWithLabel cfg.label (copyFiles cfg.force (src' cfg ⟨src, []⟩) out4)) :=
  keysIn_rename cfg.label _ (keysIn_copyFiles cfg.force _ out4 fun x hx =>
    List.mem_append_left _ (keysIn_out4 v gen src out4 h4 x hx))

theorem convertFS_ok (cfg : Cfg) (v : View) (gen : Nat → String) (fs : FS) (h : Convertible cfg fs) :
    ∃ out4 o, makeDepths v (out3 v gen fs) = some out4 ∧
      compressSpikesDtypes (renameWithLabel cfg.label (copyFiles cfg.force (src' cfg fs) out4)) = some o ∧
      (renameWithLabel cfg.label (copyFiles cfg.force (src' cfg fs) out4)).keys = o.keys ∧
      convertFS cfg v gen fs = ⟨⟨src' cfg fs, o⟩, none⟩ := by
  -- `clusters.channels.npy` has been written, so `make_depths` finds it
  have hcc : (out3 v gen fs).has ["clusters", "channels", "npy"] = true := by
    rw [out3_eq v gen h]
    exact has_writeAll_of_mem (by rw [computedWrites_names]; decide +kernel) _
  rw [← lookup_isSome, Option.isSome_iff_exists] at hcc
  obtain ⟨cc, hcc⟩ := hcc
  obtain ⟨out4, h4⟩ : ∃ out4, makeDepths v (out3 v gen fs) = some out4 := ⟨_, by rw [makeDepths_eq, hcc]; rfl⟩
  -- the two id files are copied, relabelled, and found by the globs
  have ht := has_rename cfg.label _ _ (has_copied_tables h out4 ["spikes", "templates", "npy"] (by decide +kernel))
  have hc := has_rename cfg.label _ _ (has_copied_tables h out4 ["spikes", "clusters", "npy"] (by decide +kernel))
  obtain ⟨d1, hd1⟩ := mapFirst_some_of_has (matchesSpikes "templates") u16 _
    (by rw [matchesSpikes_labelled3]; rfl) _ ht
  have hk1 := mapFirst_keys _ _ _ _ hd1
  rw [← has_of_keys hk1] at hc
  obtain ⟨o, ho⟩ := mapFirst_some_of_has (matchesSpikes "clusters") u16 _
    (by rw [matchesSpikes_labelled3]; rfl) _ hc
  have hcomp : compressSpikesDtypes (renameWithLabel cfg.label (copyFiles cfg.force (src' cfg fs) out4)) = some o := by
    rw [compressSpikesDtypes, hd1]; exact ho
  refine ⟨out4, o, h4, hcomp, by rw [mapFirst_keys _ _ _ _ ho, hk1], ?_⟩
  rw [out3] at h4
  rw [src'] at hcomp
  simp [convertFS, h.1, h.2.1, h4, hcomp, src']

theorem export_succeeds (cfg : Cfg) (v : View) (gen : Nat → String) (fs : FS) (h : Convertible cfg fs) :
    (convertFS cfg v gen fs).err = none := by
  obtain ⟨_, _, _, _, _, h4⟩ := convertFS_ok cfg v gen fs h
  rw [h4]

/-- a file present after the first three steps, which no later step writes, is found unchanged under its
labelled name — unless it is one of the two id tables the last step converts -/
theorem lookup_final (cfg : Cfg) (v : View) (gen : Nat → String) (fs : FS) (h : Convertible cfg fs) (k : Name)
    (hk1 : k ≠ ["spikes", "depths", "npy"]) (hk2 : k ≠ ["clusters", "depths", "npy"])
    (hk3 : ∀ r ∈ fileRenames, k ≠ r.2.1)
    (hk4 : matchesSpikes "templates" (labelled' cfg.label k) = false)
    (hk5 : matchesSpikes "clusters" (labelled' cfg.label k) = false) :
    (convertFS cfg v gen fs).fs.out.lookup (labelled' cfg.label k) = (out3 v gen fs).lookup k := by
  obtain ⟨out4, o, h4, hcomp, _, hres⟩ := convertFS_ok cfg v gen fs h
  obtain ⟨d1, hd1, hd2⟩ := Option.bind_eq_some_iff.mp hcomp
  rw [makeDepths_eq, Option.map_eq_some_iff] at h4
  obtain ⟨cc, _, rfl⟩ := h4
  rw [hres]
  simp only []
  rw [lookup_mapFirst_ne _ _ _ hk5 _ _ hd2, lookup_mapFirst_ne _ _ _ hk4 _ _ hd1, lookup_rename,
    copyFiles, lookup_foldl_copy_ne _ _ _ _ _ hk3]
  exact lookup_writeAll_ne (by simp [hk1, hk2]) _

/-- in the domain, a file the first three steps compute is at the end what they wrote last under that name -/
theorem lookup_final_computed (cfg : Cfg) (v : View) (gen : Nat → String) (fs : FS) (h : Convertible cfg fs)
    (k : Name) (e : Entry) (hk : FDir.lookup (computedWrites v gen).reverse k = some e) :
    (convertFS cfg v gen fs).fs.out.lookup (labelled' cfg.label k) = some e := by
  -- no later step touches these names
  have htab : ∀ k ∈ writeNames, k ≠ ["spikes", "depths", "npy"] ∧ k ≠ ["clusters", "depths", "npy"] ∧
      k ≠ ["spikes", "templates", "npy"] ∧ k ≠ ["spikes", "clusters", "npy"] := by decide +kernel
  have hmem := List.mem_map_of_mem (f := (·.1)) (List.mem_reverse.mp (lookup_mem hk))
  rw [computedWrites_names] at hmem
  obtain ⟨h1, h2, h5, h6⟩ := htab k hmem
  have hc := writeNames_computed k hmem
  have hm : ∀ a, k ≠ ["spikes", a, "npy"] → matchesSpikes a (labelled' cfg.label k) = false :=
    fun a ha => Bool.eq_false_iff.mpr fun hm => ha (only_match a cfg.label k (List.mem_append_left _ hc) hm)
  rw [lookup_final cfg v gen fs h k h1 h2 (fun r hr hkr => targets_not_computed r hr (hkr ▸ hc)) (hm _ h5) (hm _ h6),
    out3_eq v gen h, lookup_writeAll, hk]
  rfl

theorem times_in_seconds (rate : Rat) (samples : List Int) (hr : rate ≠ 0) :
    (timesOf rate samples).length = samples.length ∧
    ∀ (i : Nat) (h : i < samples.length),
      (timesOf rate samples).getD i 0 * rate = (samples.getD i 0 : Int) := by
  refine ⟨by simp [timesOf], ?_⟩
  intro i h
  simp only [timesOf, List.getD_eq_getElem?_getD, List.getElem?_map, List.getElem?_eq_getElem h,
    Option.map_some, Option.getD_some]
  exact Rat.div_mul_cancel hr

theorem export_times_samples (cfg : Cfg) (v : View) (gen : Nat → String) (fs : FS) (h : Convertible cfg fs) :
    (convertFS cfg v gen fs).fs.out.lookup (labelled' cfg.label ["spikes", "times", "npy"]) =
      some (fresh (v.times.map Row.q)) ∧
    (convertFS cfg v gen fs).fs.out.lookup (labelled' cfg.label ["spikes", "samples", "npy"]) =
      some (fresh (v.samples.map Row.z)) :=
  ⟨lookup_final_computed cfg v gen fs h _ _ rfl, lookup_final_computed cfg v gen fs h _ _ rfl⟩

theorem nodupB_iff (l : List String) : nodupB l = true ↔ l.Nodup := by
  induction l with
  | nil => simp [nodupB]
  | cons x xs ih => simp [nodupB, ih, List.nodup_cons]

theorem uuidOKb_iff (n : Nat) (lines : List String) : uuidOKb n lines = true ↔ UuidOK n lines := by
  cases lines with
  | nil => simp [uuidOKb, UuidOK]
  | cons h ids => simp [uuidOKb, UuidOK, nodupB_iff, and_assoc]

theorem uuid_lines_ok (gen : Nat → String) (n : Nat) (hg : GenDistinct gen n) :
    UuidOK n ("uuids" :: (List.range n).map gen) := by
  refine ⟨rfl, by simp, ?_⟩
  rw [List.tail_cons, List.Nodup, List.pairwise_map]
  refine (List.nodup_range (n := n)).imp_of_mem fun hi hj hij hgen => ?_
  exact hij (hg _ _ (List.mem_range.mp hi) (List.mem_range.mp hj) hgen)

theorem export_uuids (cfg : Cfg) (v : View) (gen : Nat → String) (fs : FS) (h : Convertible cfg fs)
    (hg : GenDistinct gen (nClusters v)) :
    ∃ lines, (convertFS cfg v gen fs).fs.out.lookup (labelled' cfg.label ["clusters", "uuids", "csv"]) =
        some (fresh (lines.map Row.s)) ∧ UuidOK (nClusters v) lines := by
  refine ⟨"uuids" :: (List.range (nClusters v)).map gen, ?_, uuid_lines_ok gen _ hg⟩
  rw [lookup_final_computed cfg v gen fs h _ _ rfl, ← camps_length, List.map_cons, List.map_map]
  rfl

theorem objectTables_names (s : Sizes) :
    ∀ n ∈ (objectTables s).map (·.1), isObj n = true ∧ (n ∈ computedNames ∨ n ∈ copiedTables) := by
  -- the names do not depend on the sizes: with literals in their place the kernel can decide
  rw [show (objectTables s).map (·.1) = (objectTables ⟨0, 0, 0, 0⟩).map (·.1) from rfl]
  decide +kernel

theorem has_out4 (v : View) (gen : Nat → String) {cfg : Cfg} {fs : FS} (h : Convertible cfg fs) (out4 : FDir)
    (h4 : makeDepths v (out3 v gen fs) = some out4) : ∀ n ∈ computedNames, out4.has n = true := by
  rw [makeDepths_eq, Option.map_eq_some_iff] at h4
  obtain ⟨cc, _, rfl⟩ := h4
  rw [out3_eq v gen h, ← writeAll_append]
  intro n hn
  refine has_writeAll_of_mem ?_ _
  rw [List.map_append, computedWrites_names]
  -- `computedNames` is its first thirteen, with which `writeNames` begins, and the two files of `make_depths`
  rcases List.mem_append.mp (show n ∈ computedNames.take 13 ++ _ from hn) with h | h
  · exact List.mem_append_left _ (List.mem_append_left _ h)
  · exact List.mem_append_right _ h

theorem table_in_final (cfg : Cfg) (v : View) (gen : Nat → String) (fs : FS) (h : Convertible cfg fs) :
    ∀ g ∈ objectTables (sizesOf v), (convertFS cfg v gen fs).fs.out.has (labelled' cfg.label g.1) = true := by
  obtain ⟨out4, o, h4, _, hkeys, hres⟩ := convertFS_ok cfg v gen fs h
  intro g hg
  rw [hres]
  simp only []
  -- the globs change no name, so it is enough to find the table after `copy_files`
  rw [has_of_keys hkeys.symm]
  apply has_rename
  rcases (objectTables_names _ _ (List.mem_map_of_mem hg)).2 with hn | hn
  · exact has_foldl_copy_mono _ _ _ _ _ (has_out4 v gen h out4 h4 _ hn)
  · exact has_copied_tables h _ _ hn

theorem export_table_written (cfg : Cfg) (v : View) (gen : Nat → String) (fs : FS) (hc : Convertible cfg fs)
    (hv : ViewOK v) (hs : SrcOK v fs.src) (ho : RowsOK v fs.out) (src out : String)
    (files : List (Name × Nat)) (h : convert src out cfg.label (sizesOf v) = some files) :
    ∀ f ∈ files, ∃ e, (f.1, e) ∈ (convertFS cfg v gen fs).fs.out ∧ firstDim f.1 e = f.2 := by
  intro f hf
  have hold := export_row_counts src out cfg.label (sizesOf v) files h f hf
  obtain ⟨a, b, c, hg, hn⟩ := convert_files src out cfg.label (sizesOf v) files h f hf
  have hobj := (objectTables_names _ _ (List.mem_map_of_mem hg)).1
  rw [← labelled3 _ _ _ _ hobj] at hn
  obtain ⟨e, he⟩ := has_eq_true.mp (table_in_final cfg v gen fs hc _ hg)
  rw [← isObj_labelled cfg.label, ← hn] at hobj
  rw [← hn] at he
  have hnew := export_first_dims cfg v gen fs hv hs ho _ he hobj
  rw [hold] at hnew
  exact ⟨e, he, (Option.some.inj hnew).symm⟩

theorem nClusters_eq_loadClusters (v : View) (W : List C09.Mat) (chans : List (List Nat)) (ns nc : Nat)
    (hW : W.length = v.nTemplates) :
    nClusters v = (C08.loadClusters W chans v.spikeTemplates v.spikeClusters ns nc).2 := by
  unfold nClusters C08.loadClusters
  by_cases h : v.spikeClusters = v.spikeTemplates
  · simp [h, hW]
  · simp [h]

theorem roundHalfEven_spec (q : Rat) :
    ((roundHalfEven q : Int) : Rat) - q ≤ 1 / 2 ∧ q - ((roundHalfEven q : Int) : Rat) ≤ 1 / 2 ∧
    (q - (q.floor : Rat) = 1 / 2 → roundHalfEven q % 2 = 0) := by
  -- the same function as `C04.roundHalfEven` (`Model/C04c.lean`), so its bounds apply
  obtain ⟨⟨b1, b2⟩, -⟩ : C04.IsRoundHalfEven q (roundHalfEven q) := C04.Lemmas.roundHalfEven_spec q
  refine ⟨by grind, by grind, fun h => ?_⟩
  -- at a tie the definition takes the even one of `⌊q⌋` and `⌊q⌋ + 1`
  unfold roundHalfEven
  simp only [h, Rat.lt_irrefl, if_false]
  split
  · assumption
  · omega

theorem load_layouts (rate : Rat) :
    (∀ s, loadSpikeSamples rate (.inSamples s) = (s, timesOf rate s)) ∧
    (∀ t s, (loadSpikeSamples rate (.inSeconds t s)).2 = t) ∧
    (∀ t s, (loadSpikeSamples rate (.inSeconds t (some s))).1 = s) ∧
    (∀ t, (loadSpikeSamples rate (.inSeconds t none)).1 = t.map fun x => roundHalfEven (x * rate)) := by
  refine ⟨fun _ => rfl, ?_, fun _ _ => rfl, fun _ => rfl⟩
  intro t s; cases s <;> rfl

theorem u16_rows_id (rows : List Row) (h : ∀ r ∈ rows, ∃ z, r = Row.z z ∧ 0 ≤ z ∧ z < 65536) :
    rows.map wrap16 = rows := by
  induction rows with
  | nil => rfl
  | cons r rows ih =>
    obtain ⟨z, rfl, h0, h1⟩ := h r List.mem_cons_self
    rw [List.map_cons, ih (fun r' hr' => h r' (List.mem_cons_of_mem _ hr')), wrap16, Int.emod_eq_of_lt h0 h1]

theorem export_ids (cfg : Cfg) (v : View) (gen : Nat → String) (src : FDir) (h : Convertible cfg ⟨src, []⟩)
    (attr : String) (srcName : Name)
    (hattr : (attr = "clusters" ∧ srcName = ["spike_clusters", "npy"]) ∨
             (attr = "templates" ∧ srcName = ["spike_templates", "npy"]))
    (e : Entry) (he : src.lookup srcName = some e)
    (hrows : ∀ r ∈ e.rows, ∃ z, r = Row.z z ∧ 0 ≤ z ∧ z < 65536) :
    ∃ e', (convertFS cfg v gen ⟨src, []⟩).fs.out.lookup (labelled' cfg.label ["spikes", attr, "npy"]) = some e' ∧
      e'.rows = e.rows := by
  obtain ⟨out4, o, h4, hcomp, _, hres⟩ := convertFS_ok cfg v gen ⟨src, []⟩ h
  obtain ⟨d1, hd1, hd2⟩ := Option.bind_eq_some_iff.mp hcomp
  rw [hres]
  simp only []
  -- in the directory the globs run on, each finds only the id table it is meant for
  have hU : ∀ a, ∀ n ∈ (renameWithLabel cfg.label (copyFiles cfg.force (src' cfg ⟨src, []⟩) out4)).keys,
      matchesSpikes a n = true → n = labelled' cfg.label ["spikes", a, "npy"] := by
    intro a n hn hm
    obtain ⟨k, hk, rfl⟩ := keysLab_copied cfg v gen src out4 h4 n hn
    rw [only_match a cfg.label k hk hm]
  obtain ⟨r, hr, rfl, h2⟩ : ∃ r ∈ fileRenames, r.1 = srcName ∧ r.2.1 = ["spikes", attr, "npy"] := by
    rcases hattr with ⟨rfl, rfl⟩ | ⟨rfl, rfl⟩
    · exact ⟨_, copied_lines.2.1, rfl, rfl⟩
    · exact ⟨_, copied_lines.2.2, rfl, rfl⟩
  have ho : isObj r.2.1 = true := by rw [h2]; rfl
  obtain ⟨hx1, hx2⟩ := exempt_false (renames_not_exempt r hr ho)
  obtain ⟨e1, he1, he1rows, _⟩ := (copyFiles_line cfg.force _ out4 r hr e
    (by rw [lookup_src' cfg ⟨src, []⟩ r.1 hx1 hx2]; exact he)).2
    (has_out4_empty v gen src out4 h4 _ (targets_not_computed r hr))
  rw [← lookup_rename cfg.label, h2] at he1
  -- each glob converts its own table and leaves the other's alone
  refine ⟨u16 e1, ?_, by rw [u16, he1rows]; exact u16_rows_id _ hrows⟩
  rcases hattr with ⟨rfl, _⟩ | ⟨rfl, _⟩
  · rw [lookup_mapFirst_unique _ u16 _ (by rw [matchesSpikes_labelled3]; rfl) _ _
        (mapFirst_keys _ _ _ _ hd1 ▸ hU "clusters") hd2,
      lookup_mapFirst_ne _ _ _ (by rw [matchesSpikes_labelled3]; rfl) _ _ hd1, he1]
    rfl
  · rw [lookup_mapFirst_ne _ _ _ (by rw [matchesSpikes_labelled3]; rfl) _ _ hd2,
      lookup_mapFirst_unique _ u16 _ (by rw [matchesSpikes_labelled3]; rfl) _ _ (hU "templates") hd1, he1]
    rfl

end PhyVerif.C13.Lemmas
