import PhyVerif.Lemmas.C11f
import PhyVerif.Spec.C11e
/-! The run of the steps of `Model/C11e.lean` seen from the probe directories: a file of the output directory holds
what was saved last under its name (`lastW`), and every `write_*` method reads the probe directories only
(`InputOnly`), so it can be run on the file system the merge started on (`step_run`). Then the checks of the steps,
each as an equivalence. -/
namespace PhyVerif.C11.Lemmas
open PhyVerif PhyVerif.C11

/-- the last contents saved under name `n` by a list of saves (`init` if none) -/
def lastW (ws : List (String × File)) (n : String) (init : Option File) : Option File :=
  ws.foldl (fun acc w => if n = w.1 then some w.2 else acc) init

theorem lastW_nil (n : String) (init : Option File) : lastW [] n init = init := rfl

theorem lastW_cons (w : String × File) (ws : List (String × File)) (n : String) (init : Option File) :
    lastW (w :: ws) n init = lastW ws n (if n = w.1 then some w.2 else init) := rfl

theorem lastW_append (ws ws' : List (String × File)) (n : String) (init : Option File) :
    lastW (ws ++ ws') n init = lastW ws' n (lastW ws n init) := List.foldl_append

theorem saveAll_read_out (out : String) (ws : List (String × File)) :
    ∀ (fs : FS) (n : String), (saveAll out fs ws).read (out, n) = lastW ws n (fs.read (out, n)) := by
  induction ws with
  | nil => intro fs n; rfl
  | cons w ws ih =>
    intro fs n
    rw [saveAll_cons, ih, read_write, lastW_cons]
    by_cases h : n = w.1 <;> simp [h]

/-- the save of `write_cluster_data` for one file name (that of `write_misc` is `optWrite`) -/
def tsvWrite (fn : String) (rows : List (Nat × Nat)) : List (String × File) :=
  if rows.isEmpty then [] else [(fn, .tsv rows)]

theorem lastW_tsv (fn : String) (rows : List (Nat × Nat)) (n : String) (init : Option File) :
    lastW (tsvWrite fn rows) n init = if rows.isEmpty then init else if n = fn then some (.tsv rows) else init := by
  unfold tsvWrite
  split <;> rfl

theorem lastW_opt (o : Option (List (List Int))) (fn : String) (n : String) (init : Option File) :
    lastW (optWrite fn o) n init = if n = fn then (o.map File.mat).or init else init := by
  cases o <;> simp [optWrite, lastW]

/-! ### the steps read the probe directories only -/

/-- `fs'` holds the files of `fs` in the directories `subdirs` -/
def Agree (subdirs : List String) (fs fs' : FS) : Prop := ∀ d ∈ subdirs, ∀ n, fs'.read (d, n) = fs.read (d, n)

theorem agree_saveAll {subdirs : List String} {out : String} (hout : out ∉ subdirs) (fs : FS)
    (ws : List (String × File)) : Agree subdirs fs (saveAll out fs ws) :=
  fun d hd n => saveAll_read_other out ws fs d n (Or.inl fun hc => hout (hc ▸ hd))

section agree
variable {subdirs : List String} {fs fs' : FS} (h : Agree subdirs fs fs')
include h

theorem loadInts_agree (name : String) :
    loadEach (readInts fs' name) subdirs = loadEach (readInts fs name) subdirs :=
  loadEach_congr _ _ _ fun d hd => by unfold readInts; rw [h d hd]

theorem loadNats_agree (name : String) :
    loadEach (readNats fs' name) subdirs = loadEach (readNats fs name) subdirs :=
  loadEach_congr _ _ _ fun d hd => by unfold readNats; rw [h d hd]

theorem loadTable_agree (name : String) :
    loadEach (readTable fs' name) subdirs = loadEach (readTable fs name) subdirs :=
  loadEach_congr _ _ _ fun d hd => by unfold readTable; rw [h d hd]

theorem loadPos_agree (name : String) :
    loadEach (readPos fs' name) subdirs = loadEach (readPos fs name) subdirs :=
  loadEach_congr _ _ _ fun d hd => by unfold readPos; rw [h d hd]

theorem loadTmpl_agree (name : String) :
    loadEach (readTmpl fs' name) subdirs = loadEach (readTmpl fs name) subdirs :=
  loadEach_congr _ _ _ fun d hd => by unfold readTmpl; rw [h d hd]

theorem loadParams_agree (name : String) :
    loadEach (readParams fs' name) subdirs = loadEach (readParams fs name) subdirs :=
  loadEach_congr _ _ _ fun d hd => by unfold readParams; rw [h d hd]

theorem loadMatOpt_agree (name : String) :
    loadEach (readMatOpt fs' name) subdirs = loadEach (readMatOpt fs name) subdirs :=
  loadEach_congr _ _ _ fun d hd => by unfold readMatOpt; rw [h d hd]

theorem loadTsvOpt_agree (name : String) :
    loadEach (readTsvOpt fs' name) subdirs = loadEach (readTsvOpt fs name) subdirs :=
  loadEach_congr _ _ _ fun d hd => by unfold readTsvOpt; rw [h d hd]

theorem loadCount_agree (l : List (List Nat × List Nat)) :
    loadEach (readTemplateCount fs') (subdirs.zip l) = loadEach (readTemplateCount fs) (subdirs.zip l) :=
  loadEach_congr _ _ _ fun p hp => by
    unfold readTemplateCount readTmpl
    rw [h p.1 (List.of_mem_zip (show (p.1, p.2) ∈ subdirs.zip l from hp)).1]

end agree

section congr
variable (fs1 fs2 : FS) (subdirs : List String) (out : String) (hout : out ∉ subdirs)
  (hsame : ∀ d n, d ≠ out → fs1.read (d, n) = fs2.read (d, n))
include hout hsame

theorem loadParams_congr (name : String) :
    loadEach (readParams fs1 name) subdirs = loadEach (readParams fs2 name) subdirs :=
  loadParams_agree (fun d hd n => hsame d n fun hc => hout (hc ▸ hd)) name

end congr

/-- the step reads nothing but the files of the directories `subdirs` -/
def InputOnly (subdirs : List String) (c : Compute) : Prop := ∀ fs fs' reg, Agree subdirs fs fs' → c fs' reg = c fs reg

section inputOnly
variable {subdirs : List String}

theorem cParams_inputOnly : InputOnly subdirs (cParams subdirs) := fun fs fs' reg h => by
  unfold cParams
  rw [loadParams_agree h]

theorem cProbeDesc_inputOnly : InputOnly subdirs (cProbeDesc subdirs) := fun _ _ _ _ => rfl

theorem cSpikeTimes_inputOnly : InputOnly subdirs (cSpikeTimes subdirs) := fun fs fs' reg h => by
  unfold cSpikeTimes
  rw [loadInts_agree h]

theorem cAmplitudes_inputOnly : InputOnly subdirs (cAmplitudes subdirs) := fun fs fs' reg h => by
  unfold cAmplitudes
  rw [loadInts_agree h]

theorem cSpikeTemplatesRaw_inputOnly : InputOnly subdirs (cSpikeTemplatesRaw subdirs) := fun fs fs' reg h => by
  unfold cSpikeTemplatesRaw
  rw [loadNats_agree h]

theorem cSpikeClusters_inputOnly : InputOnly subdirs (cSpikeClusters subdirs) := fun fs fs' reg h => by
  unfold cSpikeClusters
  simp only [loadNats_agree h, loadCount_agree h]

theorem cClusterData_inputOnly {fn : String} : InputOnly subdirs (cClusterData subdirs fn) := fun fs fs' reg h => by
  unfold cClusterData
  rw [loadTsvOpt_agree h]

theorem cChannelData_inputOnly : InputOnly subdirs (cChannelData subdirs) := fun fs fs' reg h => by
  unfold cChannelData
  rw [loadNats_agree h]

theorem cChannelPositions_inputOnly : InputOnly subdirs (cChannelPositions subdirs) := fun fs fs' reg h => by
  unfold cChannelPositions
  rw [loadPos_agree h]

theorem cTemplates_inputOnly : InputOnly subdirs (cTemplates subdirs) := fun fs fs' reg h => by
  unfold cTemplates
  rw [loadTmpl_agree h]

theorem cPcInd_inputOnly : InputOnly subdirs (cPcInd subdirs) := fun fs fs' reg h => by
  unfold cPcInd
  rw [loadTable_agree h]

theorem cTfInd_inputOnly : InputOnly subdirs (cTfInd subdirs) := fun fs fs' reg h => by
  unfold cTfInd
  rw [loadTable_agree h]

theorem cMisc_inputOnly {fn : String} : InputOnly subdirs (cMisc subdirs fn) := fun fs fs' reg h => by
  unfold cMisc
  rw [loadMatOpt_agree h]

end inputOnly

section step
variable {subdirs : List String} {out : String} (hout : out ∉ subdirs) {c : Compute} (hc : InputOnly subdirs c)
  {rest : List (FS × Reg → M (FS × Reg))} {fs : FS} {ws : List (String × File)} {reg : Reg}
include hout hc

/-- the step is run on the file system the merge started on; its saves are added to those made so far -/
theorem step_run {ws1 : List (String × File)} {reg1 : Reg} (hk : c fs reg = .ok (ws1, reg1)) :
    runSteps (saveStep out c :: rest) (saveAll out fs ws, reg) = runSteps rest (saveAll out fs (ws ++ ws1), reg1) := by
  simp only [runSteps, saveStep, hc fs _ reg (agree_saveAll hout fs ws), hk, saveAll_append]

theorem step_inv (h : (runSteps (saveStep out c :: rest) (saveAll out fs ws, reg)).2 = none) :
    ∃ ws1 reg1, c fs reg = .ok (ws1, reg1) ∧ (runSteps rest (saveAll out fs (ws ++ ws1), reg1)).2 = none := by
  cases hk : c fs reg with
  | error e => simp [runSteps, saveStep, hc fs _ reg (agree_saveAll hout fs ws), hk] at h
  | ok x => exact ⟨x.1, x.2, rfl, step_run hout hc hk ▸ h⟩

end step

theorem concatOK_iff {α : Type} (name : String) (arrays : List (List α)) :
    concatOK name arrays = .ok () ↔ ∀ a ∈ arrays, a.length ≠ 1 := by
  simp only [concatOK, List.any_eq_true, beq_iff_eq, ite_eq_right_iff, reduceCtorEq, imp_false, not_exists, not_and,
    ne_eq]

theorem maxOK_iff {α : Type} (name : String) (arrays : List (List α)) :
    maxOK name arrays = .ok () ↔ NonEmpty arrays := by
  simp only [maxOK, NonEmpty, List.any_eq_true, List.isEmpty_iff, ite_eq_right_iff, reduceCtorEq, imp_false,
    not_exists, not_and, ne_eq]

theorem readTemplateCount_ok {fs : FS} {d : String} {t : List (List (List Int))}
    (h : readTmpl fs "templates.npy" d = .ok t) (a b : List Nat) (n : Nat) :
    readTemplateCount fs (d, a, b) = .ok n ↔ a ≠ [] ∧ b ≠ [] ∧ n = t.length := by
  unfold readTemplateCount
  rw [h]
  cases a <;> cases b <;> simp [eq_comm]

/-- the loop of `write_spike_clusters` returns exactly when every probe has a spike, and the template counts it
reads are the row counts of the `templates.npy` files -/
theorem loadCount_iff (fs : FS) : ∀ (subdirs : List String) (sc st : List (List Nat))
    (tmpl : List (List (List (List Int)))) (counts : List Nat),
    sc.length = subdirs.length → st.length = subdirs.length →
    loadEach (readTmpl fs "templates.npy") subdirs = .ok tmpl →
    (loadEach (readTemplateCount fs) (subdirs.zip (sc.zip st)) = .ok counts ↔
      NonEmpty sc ∧ NonEmpty st ∧ counts = tmpl.map List.length)
  | [], [], [], tmpl, counts, _, _, ht => by
    cases ht
    simp [loadEach, NonEmpty, eq_comm]
  | d :: rest, a :: sc, b :: st, tmpl, counts, hsc, hst, ht => by
    obtain ⟨t, ts, h1, h2, rfl⟩ := (loadEach_cons_ok _ _ _ _).mp ht
    simp only [List.zip_cons_cons, loadEach_cons_ok, readTemplateCount_ok h1,
      loadCount_iff fs rest sc st ts _ (Nat.succ.inj hsc) (Nat.succ.inj hst) h2, NonEmpty, List.forall_mem_cons,
      List.map_cons]
    constructor
    · rintro ⟨_, _, ⟨ha, hb, rfl⟩, ⟨hsc, hst, rfl⟩, rfl⟩
      exact ⟨⟨ha, hsc⟩, ⟨hb, hst⟩, rfl⟩
    · rintro ⟨⟨ha, hsc⟩, ⟨hb, hst⟩, rfl⟩
      exact ⟨_, _, ⟨ha, hb, rfl⟩, ⟨hsc, hst, rfl⟩, rfl⟩

end PhyVerif.C11.Lemmas
