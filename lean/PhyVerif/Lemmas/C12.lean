import PhyVerif.Model.C12
import PhyVerif.Spec.C12
import PhyVerif.Lemmas.Np
/-!
Proofs about the merged channel and template arrays of `Model/C12.lean` (statements: `Props/C12.lean`). Every
merged array is a concatenation of per-probe blocks, so the work is done once, in `blocks_get`: entry
`prefixSum sizes k + i` of such a concatenation is entry `i` of block `k`. The running offsets are prefix sums
(`offsets_prefix`); that an offset which only moves up keeps the probes apart (x positions, raw channel indices) is
`staircase`.
-/
namespace PhyVerif.C12.Lemmas
open PhyVerif PhyVerif.C12

theorem lt_length_of_lt_getD_length {β : Type} (L : List (List β)) (k i : Nat)
    (hi : i < (L.getD k []).length) : k < L.length :=
  Nat.lt_of_not_le fun h => by
    rw [Np.Lemmas.getD_of_le L k [] h] at hi
    exact Nat.not_lt_zero i hi

theorem prefixSum_zero (l : List Nat) : prefixSum l 0 = 0 := rfl

theorem prefixSum_cons_succ (a : Nat) (l : List Nat) (k : Nat) :
    prefixSum (a :: l) (k + 1) = a + prefixSum l k := rfl

theorem prefixSum_succ (l : List Nat) (k : Nat) : prefixSum l (k + 1) = prefixSum l k + l.getD k 0 := by
  simp only [prefixSum, List.take_add_one, List.sum_append, List.getD_eq_getElem?_getD]
  cases l[k]? <;> simp

theorem prefixSum_mono (l : List Nat) {a b : Nat} (h : a ≤ b) : prefixSum l a ≤ prefixSum l b := by
  induction h with
  | refl => exact Nat.le_refl _
  | step _ ih => rw [prefixSum_succ]; exact Nat.le_trans ih (Nat.le_add_right _ _)

theorem prefixSum_block_le (l : List Nat) {k j : Nat} (h : k < j) :
    prefixSum l k + l.getD k 0 ≤ prefixSum l j := by
  rw [← prefixSum_succ]; exact prefixSum_mono l h

theorem prefixSum_blocks_disjoint (l : List Nat) {k j x : Nat} (hne : j ≠ k)
    (hk : prefixSum l k ≤ x ∧ x < prefixSum l k + l.getD k 0) :
    ¬ (prefixSum l j ≤ x ∧ x < prefixSum l j + l.getD j 0) := by
  intro hj
  rcases Nat.lt_or_gt_of_ne hne with h | h
  · exact Nat.lt_irrefl x (Nat.lt_of_lt_of_le hj.2 (Nat.le_trans (prefixSum_block_le l h) hk.1))
  · exact Nat.lt_irrefl x (Nat.lt_of_lt_of_le hk.2 (Nat.le_trans (prefixSum_block_le l h) hj.1))

theorem prefixSum_congr {l l' : List Nat} {k : Nat} (h : ∀ i, i < k → l.getD i 0 = l'.getD i 0) :
    prefixSum l k = prefixSum l' k := by
  induction k with
  | zero => rw [prefixSum_zero, prefixSum_zero]
  | succ k ih => rw [prefixSum_succ, prefixSum_succ, ih fun i hi => h i (Nat.lt_succ_of_lt hi), h k (Nat.lt_succ_self k)]

/-- `write_channel_data`'s next raw offset `array.max() + 1`, for a permutation of `0 .. nc-1` -/
theorem perm_foldl_max (m : List Nat) (off : Nat) (hne : m ≠ [])
    (hp : m.Perm (List.range m.length)) :
    (m.map (· + off)).foldl max 0 + 1 = off + m.length := by
  have hpos : 0 < m.length := List.length_pos_iff.mpr hne
  have hup : (m.map (· + off)).foldl max 0 < off + m.length := by
    refine (Np.Lemmas.foldl_max_lt_iff _ 0 _).mpr ⟨Nat.add_pos_right off hpos, fun v hv => ?_⟩
    obtain ⟨x, hx, rfl⟩ := List.mem_map.mp hv
    rw [Nat.add_comm]
    exact Nat.add_lt_add_left (List.mem_range.mp (hp.mem_iff.mp hx)) off
  have hlo : m.length - 1 + off ≤ (m.map (· + off)).foldl max 0 :=
    (Np.Lemmas.le_foldl_max _ 0).2 _
      (List.mem_map.mpr ⟨_, hp.mem_iff.mpr (List.mem_range.mpr (Nat.sub_one_lt_of_lt hpos)), rfl⟩)
  omega

theorem offsets_prefix {β : Type} (F : Nat → List β → List Nat) (size : β → Nat)
    (hnil : ∀ off, F off [] = [])
    (hcons : ∀ off b rest, F off (b :: rest) = off :: F (off + size b) rest) (L : List β) :
    ∀ off, (F off L).length = L.length ∧
      ∀ k, k < L.length → (F off L).getD k 0 = off + prefixSum (L.map size) k := by
  induction L with
  | nil => exact fun off => ⟨congrArg List.length (hnil off), fun k hk => absurd hk (Nat.not_lt_zero k)⟩
  | cons b L ih =>
    intro off
    rw [hcons]
    refine ⟨congrArg Nat.succ (ih _).1, fun k hk => ?_⟩
    cases k with
    | zero =>
      rw [prefixSum_zero]
      rfl
    | succ k =>
      rw [List.getD_cons_succ, (ih _).2 k (Nat.lt_of_succ_lt_succ hk), List.map_cons, prefixSum_cons_succ,
        Nat.add_assoc]

theorem chanIndexOffsetsFrom_spec (maps : List (List Nat)) (off : Nat) :
    (chanIndexOffsetsFrom off maps).length = maps.length ∧ ∀ k, k < maps.length →
      (chanIndexOffsetsFrom off maps).getD k 0 = off + prefixSum (maps.map List.length) k :=
  offsets_prefix chanIndexOffsetsFrom List.length (fun _ => rfl) (fun _ _ _ => rfl) maps off

theorem chanIndexOffsets_length (maps : List (List Nat)) : (chanIndexOffsets maps).length = maps.length :=
  (chanIndexOffsetsFrom_spec maps 0).1

theorem chanIndexOffsets_eq_prefix (maps : List (List Nat)) (k : Nat) (hk : k < maps.length) :
    (chanIndexOffsets maps).getD k 0 = prefixSum (maps.map List.length) k :=
  ((chanIndexOffsetsFrom_spec maps 0).2 k hk).trans (Nat.zero_add _)

theorem chanOffsetsFrom_length (maps : List (List Nat)) :
    ∀ off : Nat, (chanOffsetsFrom off maps).length = maps.length := by
  induction maps with
  | nil => intro off; rfl
  | cons m rest ih => intro off; exact congrArg Nat.succ (ih _)

theorem chanOffsetsFrom_eq_index (maps : List (List Nat)) (h : MapsOK maps) :
    ∀ off, chanOffsetsFrom off maps = chanIndexOffsetsFrom off maps := by
  induction maps with
  | nil => intro off; rfl
  | cons m rest ih =>
    intro off
    obtain ⟨hm, hrest⟩ := List.forall_mem_cons.mp h
    rw [chanOffsetsFrom, chanIndexOffsetsFrom, perm_foldl_max m off hm.1 hm.2, ih hrest]

theorem chanOffsets_eq_prefix (maps : List (List Nat)) (h : MapsOK maps) (k : Nat)
    (hk : k < maps.length) :
    (chanOffsets maps).getD k 0 = prefixSum (maps.map List.length) k := by
  rw [chanOffsets, chanOffsetsFrom_eq_index maps h]
  exact chanIndexOffsets_eq_prefix maps k hk

/-- `j` is the column offset the loop carries, `w b` the width by which block `b` advances it. -/
theorem blocks_get {β γ : Type} (F : Nat → List (List β) → List γ) (w : List β → Nat)
    (f : Nat → List β → β → γ)
    (hcons : ∀ j b rest, F j (b :: rest) = b.map (f j b) ++ F (j + w b) rest) (L : List (List β)) :
    ∀ (j k i : Nat), i < (L.getD k []).length →
      (F j L)[prefixSum (L.map List.length) k + i]? =
        ((L.getD k []).map (f (j + prefixSum (L.map w) k) (L.getD k [])))[i]? := by
  induction L with
  | nil => intro j k i hi; exact absurd hi (Nat.not_lt_zero i)
  | cons b L ih =>
    intro j k i hi
    rw [hcons]
    cases k with
    | zero =>
      rw [prefixSum_zero, prefixSum_zero, Nat.zero_add]
      exact List.getElem?_append_left (by rwa [List.length_map])
    | succ k =>
      rw [List.map_cons, List.map_cons, prefixSum_cons_succ, prefixSum_cons_succ, List.getD_cons_succ,
        List.getElem?_append_right (by rw [List.length_map, Nat.add_assoc]; exact Nat.le_add_right _ _), List.length_map, Nat.add_assoc,
        Nat.add_sub_cancel_left, ← Nat.add_assoc]
      exact ih (j + w b) k i hi

theorem flatten_get {β : Type} (L : List (List β)) (k i : Nat) (hi : i < (L.getD k []).length) :
    L.flatten[prefixSum (L.map List.length) k + i]? = (L.getD k [])[i]? := by
  have h := blocks_get (fun _ => List.flatten) (fun _ => 0) (fun _ _ x => x)
    (fun _ b rest => by rw [List.flatten_cons, List.map_id']) L 0 k i hi
  rwa [List.map_id'] at h

theorem zipBlocks_lengths {β γ : Type} (g : β → Nat → γ) (L : List (List β)) (offs : List Nat)
    (hlen : offs.length = L.length) :
    ((L.zip offs).map fun p => p.1.map fun x => g x p.2).map List.length = L.map List.length := by
  calc _ = ((L.zip offs).map Prod.fst).map List.length := by
        rw [List.map_map, List.map_map]
        exact List.map_congr_left fun p _ => List.length_map _
    _ = _ := by rw [List.map_fst_zip (Nat.le_of_eq hlen.symm)]

theorem zipBlocks_getD {β γ : Type} (g : β → Nat → γ) (L : List (List β)) (offs : List Nat) (k : Nat)
    (hlen : offs.length = L.length) (hk : k < L.length) :
    ((L.zip offs).map fun p => p.1.map fun x => g x p.2).getD k [] =
      (L.getD k []).map fun x => g x (offs.getD k 0) :=
  Np.Lemmas.getD_map_zip _ L offs k [] 0 [] hk (hlen ▸ hk)

theorem zipFlat_getD {β γ : Type} (g : β → Nat → γ) (L : List (List β)) (offs : List Nat) (k i : Nat)
    (d : β) (d' : γ) (hlen : offs.length = L.length) (hk : k < L.length) (hi : i < (L.getD k []).length) :
    (((L.zip offs).map fun p => p.1.map fun x => g x p.2).flatten).getD
        (prefixSum (L.map List.length) k + i) d' =
      g ((L.getD k []).getD i d) (offs.getD k 0) := by
  have hb := zipBlocks_getD g L offs k hlen hk
  have h := flatten_get _ k i (by rwa [hb, List.length_map])
  rw [zipBlocks_lengths g L offs hlen, hb, List.getElem?_map, Np.Lemmas.getElem?_eq_some_getD hi d] at h
  rw [List.getD_eq_getElem?_getD, h]
  rfl

theorem zipFlat_length {β γ : Type} (g : β → Nat → γ) (L : List (List β)) (offs : List Nat)
    (hlen : offs.length = L.length) :
    (((L.zip offs).map fun p => p.1.map fun x => g x p.2).flatten).length = (L.map List.length).sum := by
  rw [List.length_flatten, zipBlocks_lengths g L offs hlen]

theorem channelProbes_eq (maps : List (List Nat)) :
    channelProbes maps =
      ((maps.zip (List.range' 0 maps.length)).map fun p => p.1.map fun _ => p.2).flatten := by
  rw [channelProbes, List.zipIdx_eq_zip_range']

theorem mergeChannelMaps_length (maps : List (List Nat)) :
    (mergeChannelMaps maps).length = (maps.map List.length).sum :=
  zipFlat_length (fun x o => x + o) maps _ (chanOffsetsFrom_length maps 0)

theorem channelProbes_length (maps : List (List Nat)) :
    (channelProbes maps).length = (maps.map List.length).sum := by
  rw [channelProbes_eq]
  exact zipFlat_length (fun (_ : Nat) o => o) maps _ List.length_range'

theorem channels_block_gapped (maps : List (List Nat)) (k i : Nat)
    (hi : i < (maps.getD k []).length) :
    (mergeChannelMaps maps).getD (prefixSum (maps.map List.length) k + i) 0 =
        (maps.getD k []).getD i 0 + (chanOffsets maps).getD k 0 ∧
    (channelProbes maps).getD (prefixSum (maps.map List.length) k + i) maps.length = k ∧
    (mergeChannelMaps maps).length = (maps.map List.length).sum ∧
    (channelProbes maps).length = (maps.map List.length).sum := by
  have hk : k < maps.length := lt_length_of_lt_getD_length maps k i hi
  have hlenr : (List.range' 0 maps.length).length = maps.length := List.length_range'
  refine ⟨zipFlat_getD (fun x o => x + o) maps _ k i 0 0 (chanOffsetsFrom_length maps 0) hk hi, ?_,
    mergeChannelMaps_length maps, channelProbes_length maps⟩
  rw [channelProbes_eq, zipFlat_getD (fun (_ : Nat) o => o) maps _ k i 0 _ hlenr hk hi,
    Np.Lemmas.getD_of_lt _ k 0 (hlenr.symm ▸ hk), List.getElem_range', Nat.zero_add, Nat.one_mul]

theorem channels_block (maps : List (List Nat)) (h : MapsOK maps) (k i : Nat)
    (hi : i < (maps.getD k []).length) :
    (mergeChannelMaps maps).getD (prefixSum (maps.map List.length) k + i) 0 =
        (maps.getD k []).getD i 0 + prefixSum (maps.map List.length) k ∧
    (channelProbes maps).getD (prefixSum (maps.map List.length) k + i) maps.length = k ∧
    (mergeChannelMaps maps).length = (maps.map List.length).sum ∧
    (channelProbes maps).length = (maps.map List.length).sum := by
  have hb := channels_block_gapped maps k i hi
  rwa [chanOffsets_eq_prefix maps h k (lt_length_of_lt_getD_length maps k i hi)] at hb

/-- the x offset handed to the next probe -/
def nextOff (xoff : Int) (p : List (Int × Int)) : Int :=
  let xs := (p.map fun xy => (xy.1 + xoff, xy.2)).map (·.1)
  2 * xs.foldl max (xs.headD 0) - xs.foldl min (xs.headD 0)

theorem shiftPositionsFrom_cons (xoff : Int) (p : List (Int × Int)) (rest : List (List (Int × Int))) :
    shiftPositionsFrom xoff (p :: rest) =
      (p.map fun xy => (xy.1 + xoff, xy.2)) :: shiftPositionsFrom (nextOff xoff p) rest := rfl

theorem shiftPositionsFrom_shape (pos : List (List (Int × Int))) :
    ∀ xoff, (shiftPositionsFrom xoff pos).map List.length = pos.map List.length := by
  induction pos with
  | nil => intro xoff; rfl
  | cons p rest ih => intro xoff; rw [shiftPositionsFrom_cons, List.map_cons, List.map_cons, List.length_map, ih]

theorem mergePositions_length (pos : List (List (Int × Int))) :
    (mergePositions pos).length = pos.flatten.length :=
  Np.Lemmas.flatten_length_of_shape _ _ (shiftPositionsFrom_shape pos 0)

theorem positions_translated_from (pos : List (List (Int × Int))) :
    ∀ (xoff : Int) (k : Nat), ∃ dx : Int,
      (shiftPositionsFrom xoff pos).getD k [] = (pos.getD k []).map fun xy => (xy.1 + dx, xy.2) := by
  induction pos with
  | nil => intro xoff k; exact ⟨0, rfl⟩
  | cons p rest ih =>
    intro xoff k
    cases k with
    | zero => exact ⟨xoff, rfl⟩
    | succ k => exact ih (nextOff xoff p) k

theorem positions_translated (pos : List (List (Int × Int))) (k : Nat) :
    ∃ dx : Int, (shiftPositionsFrom 0 pos).getD k [] = (pos.getD k []).map fun xy => (xy.1 + dx, xy.2) :=
  positions_translated_from pos 0 k

theorem lt_two_max_sub_min (xs : List Int) (c : Int) {u v : Int} (hu : u ∈ xs) (hv : v ∈ xs) (huv : u < v) :
    ∀ x ∈ xs, x < 2 * xs.foldl max c - xs.foldl min c := by
  have hmax := ((Np.Lemmas.foldl_bound_iff max (· ≤ ·) (fun _ _ _ => Int.max_le) xs c _).mp (Int.le_refl _)).2
  have hmin := ((Np.Lemmas.foldl_bound_iff min (fun x B => B ≤ x) (fun _ _ _ => Int.le_min) xs c _).mp
    (Int.le_refl _)).2
  intro x hx
  have h1 := hmax x hx
  have h2 := hmin u hu
  have h3 := hmax v hv
  omega

/-- the next offset `2 * max - min` is right of the whole shifted probe because `max - min > 0`, and not left of
the current offset because coordinates are non-negative -/
theorem nextOff_spec (xoff : Int) (p : List (Int × Int)) (hnn : ∀ xy ∈ p, 0 ≤ xy.1)
    (hd : ∃ a ∈ p, ∃ b ∈ p, a.1 < b.1) :
    xoff ≤ nextOff xoff p ∧ ∀ xy ∈ p, xy.1 + xoff < nextOff xoff p := by
  obtain ⟨a, ha, b, hb, hab⟩ := hd
  have hmem : ∀ xy ∈ p, xy.1 + xoff ∈ (p.map fun xy => (xy.1 + xoff, xy.2)).map (·.1) :=
    fun _ hxy => List.mem_map_of_mem (List.mem_map_of_mem hxy)
  have key : ∀ xy ∈ p, xy.1 + xoff < nextOff xoff p := fun xy hxy =>
    lt_two_max_sub_min _ _ (hmem a ha) (hmem b hb) (Int.add_lt_add_right hab xoff) _ (hmem xy hxy)
  exact ⟨Int.le_of_lt (Int.lt_of_le_of_lt (Int.le_add_of_nonneg_left (hnn a ha)) (key a ha)), key⟩

/-- A loop that emits one block per probe while it advances a state `s`, read through integer keys: when every
block lies in `[ι s, ι (next s b))` and the state never moves down, all blocks lie right of the start and every
block lies left of every later one. (`write_channel_positions`: x offsets, `positions_apart_from`;
`write_channel_data`: raw offsets, `chanBlocks_apart` in `Lemmas/C12c.lean`.) -/
theorem staircase {σ β γ : Type} (G : σ → List β → List (List γ)) (blk : σ → β → List γ) (next : σ → β → σ)
    (ι : σ → Int) (κ : γ → Int) (P : β → Prop)
    (hnil : ∀ s, G s [] = []) (hcons : ∀ s b rest, G s (b :: rest) = blk s b :: G (next s b) rest)
    (hstep : ∀ s b, P b → ι s ≤ ι (next s b) ∧ ∀ x ∈ blk s b, ι s ≤ κ x ∧ κ x < ι (next s b))
    (L : List β) :
    ∀ s, (∀ b ∈ L, P b) →
      (∀ l, ∀ y ∈ (G s L).getD l [], ι s ≤ κ y) ∧
      ∀ k l, k < l → ∀ x ∈ (G s L).getD k [], ∀ y ∈ (G s L).getD l [], κ x < κ y := by
  induction L with
  | nil =>
    intro s _
    rw [hnil]
    exact ⟨fun _ _ hy => absurd hy List.not_mem_nil, fun _ _ _ _ hx => absurd hx List.not_mem_nil⟩
  | cons b L ih =>
    intro s h
    obtain ⟨hb, hL⟩ := List.forall_mem_cons.mp h
    obtain ⟨hle, hblk⟩ := hstep s b hb
    obtain ⟨ihlo, ihap⟩ := ih (next s b) hL
    rw [hcons]
    refine ⟨fun l y hy => ?_, fun k l hkl x hx y hy => ?_⟩
    · cases l with
      | zero => exact (hblk y hy).1
      | succ l => exact Int.le_trans hle (ihlo l y hy)
    · cases l with
      | zero => exact absurd hkl (Nat.not_lt_zero k)
      | succ l =>
        cases k with
        | zero => exact Int.lt_of_lt_of_le (hblk x hx).2 (ihlo l y hy)
        | succ k => exact ihap k l (Nat.lt_of_succ_lt_succ hkl) x hx y hy

theorem positions_apart_from (pos : List (List (Int × Int))) (xoff : Int) (h : PosOK pos) :
    ∀ k l, k < l → ∀ a ∈ (shiftPositionsFrom xoff pos).getD k [],
      ∀ b ∈ (shiftPositionsFrom xoff pos).getD l [], a.1 < b.1 := by
  refine (staircase shiftPositionsFrom (fun xoff p => p.map fun xy => (xy.1 + xoff, xy.2)) nextOff id (·.1)
    (fun p => (∀ xy ∈ p, 0 ≤ xy.1) ∧ ∃ a ∈ p, ∃ b ∈ p, a.1 < b.1) (fun _ => rfl) shiftPositionsFrom_cons
    (fun s p hp => ?_) pos xoff h).2
  obtain ⟨h1, h2⟩ := nextOff_spec s p hp.1 hp.2
  refine ⟨h1, fun x hx => ?_⟩
  obtain ⟨xy, hxy, rfl⟩ := List.mem_map.mp hx
  exact ⟨Int.le_add_of_nonneg_left (hp.1 xy hxy), h2 xy hxy⟩

theorem positions_apart (pos : List (List (Int × Int))) (h : PosOK pos) (k l : Nat) (hkl : k < l) :
    ∀ a ∈ (shiftPositionsFrom 0 pos).getD k [], ∀ b ∈ (shiftPositionsFrom 0 pos).getD l [], a.1 < b.1 :=
  positions_apart_from pos 0 h k l hkl

variable {α : Type} [Zero α]

theorem pad_getD (a b c : Nat) (row : List α) :
    (List.replicate a (0 : α) ++ row ++ List.replicate b 0).getD c 0 =
      if a ≤ c ∧ c < a + row.length then row.getD (c - a) 0 else 0 := by
  have hrep : ∀ n i : Nat, ((List.replicate n (0 : α))[i]?).getD 0 = 0 := fun n i => by
    rw [List.getElem?_replicate]
    split <;> rfl
  rw [List.getD_eq_getElem?_getD, List.getD_eq_getElem?_getD, List.append_assoc]
  rcases Nat.lt_or_ge c a with h1 | h1
  · rw [List.getElem?_append_left (by rwa [List.length_replicate]), hrep,
      if_neg fun h => Nat.not_lt.mpr h.1 h1]
  · rw [List.getElem?_append_right (by rwa [List.length_replicate]), List.length_replicate]
    rcases Nat.lt_or_ge c (a + row.length) with h2 | h2
    · rw [List.getElem?_append_left (Nat.sub_lt_left_of_lt_add h1 h2), if_pos ⟨h1, h2⟩]
    · rw [List.getElem?_append_right (Nat.le_sub_of_add_le' h2), hrep,
        if_neg fun h => Nat.not_lt.mpr h2 h.2]

theorem pad_get2 (a b w : Nat) (m : List (List α)) (hw : ∀ row ∈ m, row.length = w) (i c : Nat) :
    get2 (m.map fun row => List.replicate a (0 : α) ++ row ++ List.replicate b 0) i c =
      if a ≤ c ∧ c < a + w then get2 m i (c - a) else 0 := by
  unfold get2
  rcases Nat.lt_or_ge i m.length with hi | hi
  · rw [Np.Lemmas.getD_map_of_lt _ m i [] [] hi, pad_getD, hw _ (Np.Lemmas.getD_mem m i [] hi)]
  · rw [Np.Lemmas.getD_of_le _ i [] (by rwa [List.length_map]), Np.Lemmas.getD_of_le m i [] hi]
    split <;> rfl

omit [Zero α] in
theorem tmplWidth_of_ok (t : List (List (List α))) (ns nc : Nat) (h : TmplOK t ns nc) (hns : 0 < ns) :
    tmplWidth t = nc := by
  obtain ⟨hne, hall⟩ := h
  cases t with
  | nil => exact absurd rfl hne
  | cons tm t =>
    obtain ⟨hl, hrow⟩ := hall tm List.mem_cons_self
    cases tm with
    | nil => exact absurd hl (Nat.ne_of_lt hns)
    | cons row tm => exact hrow row List.mem_cons_self

theorem mergeTemplatesFrom_get (total : Nat) (ts : List (List (List (List α)))) (j0 k t : Nat)
    (ht : t < (ts.getD k []).length) :
    (mergeTemplatesFrom total j0 ts)[prefixSum (ts.map List.length) k + t]? =
      ((ts.getD k []).map fun tmpl => tmpl.map fun row =>
        List.replicate (j0 + prefixSum (ts.map tmplWidth) k) (0 : α) ++ row ++
          List.replicate (total - (j0 + prefixSum (ts.map tmplWidth) k) - tmplWidth (ts.getD k [])) 0)[t]? :=
  blocks_get (mergeTemplatesFrom total) tmplWidth _ (fun _ _ _ => rfl) ts j0 k t ht

theorem templates_block (ts : List (List (List (List α)))) (ns : Nat) (ncs : List Nat)
    (hok : ∀ k (hk : k < ts.length), TmplOK (ts[k]'hk) ns (ncs.getD k 0))
    (k t s c : Nat) (hk : k < ts.length) (ht : t < (ts[k]'hk).length) :
    get3 (mergeTemplates ts) (prefixSum (ts.map List.length) k + t) s c =
      if prefixSum ncs k ≤ c ∧ c < prefixSum ncs k + ncs.getD k 0
      then get3 (ts[k]'hk) t s (c - prefixSum ncs k) else 0 := by
  have hrow := (hok k hk).2 _ (Np.Lemmas.getD_mem _ _ [] ht)
  rw [List.getElem_eq_getD []] at ht hrow ⊢
  unfold mergeTemplates get3
  rw [List.getD_eq_getElem?_getD (l := mergeTemplatesFrom _ _ _),
    mergeTemplatesFrom_get _ ts 0 k t ht, List.getElem?_map,
    Np.Lemmas.getElem?_eq_some_getD ht [], Option.map_some, Option.getD_some, Nat.zero_add]
  rcases Nat.eq_zero_or_pos ns with rfl | hns
  · -- templates without sample rows (`tmplWidth` reads 0 whatever `ncs` says): both sides are zero
    rw [List.eq_nil_of_length_eq_zero hrow.1]
    split <;> rfl
  · have hw : ∀ i (hi : i < ts.length), (ts.map tmplWidth).getD i 0 = ncs.getD i 0 := fun i hi => by
      rw [Np.Lemmas.getD_map_of_lt tmplWidth ts i [] 0 hi, Np.Lemmas.getD_of_lt ts i [] hi]
      exact tmplWidth_of_ok _ ns _ (hok i hi) hns
    rw [prefixSum_congr fun i hi => hw i (Nat.lt_trans hi hk)]
    exact pad_get2 _ _ _ _ hrow.2 s c

theorem tables_shifted (tables : List (List (List Nat))) (offsets : List Nat)
    (hlen : offsets.length = tables.length) (k r c : Nat)
    (hr : r < (tables.getD k []).length) :
    ((shiftTables tables offsets).getD (prefixSum (tables.map List.length) k + r) []).getD c 0 =
      if c < ((tables.getD k []).getD r []).length
      then ((tables.getD k []).getD r []).getD c 0 + offsets.getD k 0 else 0 := by
  have hk : k < tables.length := lt_length_of_lt_getD_length tables k r hr
  rw [shiftTables, zipFlat_getD (fun (row : List Nat) o => row.map (· + o)) tables offsets k r [] [] hlen hk hr]
  generalize (tables.getD k []).getD r [] = row
  by_cases h : c < row.length
  · rw [if_pos h]
    exact Np.Lemmas.getD_map_of_lt _ row c 0 0 h
  · rw [if_neg h]
    exact Np.Lemmas.getD_of_le _ c 0 (by rw [List.length_map]; exact Nat.le_of_not_lt h)

theorem blockDiagFrom_get (total : Nat) (ms : List (List (List α))) (j0 k i : Nat)
    (hi : i < (ms.getD k []).length) :
    (blockDiagFrom total j0 ms)[prefixSum (ms.map List.length) k + i]? =
      ((ms.getD k []).map fun row =>
        List.replicate (j0 + prefixSum (ms.map List.length) k) (0 : α) ++ row ++
          List.replicate (total - (j0 + prefixSum (ms.map List.length) k) - (ms.getD k []).length) 0)[i]? :=
  blocks_get (blockDiagFrom total) List.length _ (fun _ _ _ => rfl) ms j0 k i hi

theorem blockDiag_entries (ms : List (List (List α))) (hsq : ∀ m ∈ ms, ∀ row ∈ m, row.length = m.length)
    (k i j : Nat) (hi : i < (ms.getD k []).length) :
    get2 (blockDiag ms) (prefixSum (ms.map List.length) k + i) j =
      if prefixSum (ms.map List.length) k ≤ j ∧ j < prefixSum (ms.map List.length) k + (ms.getD k []).length
      then get2 (ms.getD k []) i (j - prefixSum (ms.map List.length) k) else 0 := by
  have hm : ms.getD k [] ∈ ms := Np.Lemmas.getD_mem _ _ [] (lt_length_of_lt_getD_length ms k i hi)
  unfold blockDiag
  rw [get2, List.getD_eq_getElem?_getD (l := blockDiagFrom _ _ _),
    blockDiagFrom_get _ ms 0 k i hi, ← List.getD_eq_getElem?_getD, Nat.zero_add]
  exact pad_get2 _ _ _ _ (hsq _ hm) i j

theorem params_ok (p : Nat × Nat) (rest : List (Nat × Nat)) :
    mergeParams (p :: rest) = some (p.1, p.2 + (rest.map (·.2)).sum) := rfl

theorem pc_ind_in_block (maps : List (List Nat)) (tables : List (List (List Nat))) (k r j : Nat)
    (hk : k < maps.length) (hlen : tables.length = maps.length)
    (hr : r < (tables.getD k []).length) (hj : j < ((tables.getD k []).getD r []).length)
    (hc : ((tables.getD k []).getD r []).getD j 0 < (maps.getD k []).length) :
    let c := ((tables.getD k []).getD r []).getD j 0
    let c' := ((mergePcInd maps tables).getD (prefixSum (tables.map List.length) k + r) []).getD j 0
    c' = prefixSum (maps.map List.length) k + c ∧
    (channelProbes maps).getD c' maps.length = k ∧
    (mergeChannelMaps maps).getD c' 0 = (maps.getD k []).getD c 0 + (chanOffsets maps).getD k 0 := by
  intro c c'
  have hc' : c' = prefixSum (maps.map List.length) k + c := by
    show ((shiftTables tables (chanIndexOffsets maps)).getD _ []).getD j 0 = _
    rw [tables_shifted tables _ ((chanIndexOffsets_length maps).trans hlen.symm) k r j hr, if_pos hj,
      chanIndexOffsets_eq_prefix maps k hk]
    exact Nat.add_comm _ _
  have hb := channels_block_gapped maps k c hc
  rw [hc']
  exact ⟨rfl, hb.2.1, hb.1⟩

end PhyVerif.C12.Lemmas
