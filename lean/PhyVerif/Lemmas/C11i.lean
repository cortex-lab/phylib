import PhyVerif.Lemmas.C11g
import PhyVerif.Lemmas.C11c
/-! A merge (`Model/C11e.lean`) that returns has read its inputs from every probe directory, and they are in the
domain `InDomain` of `Spec/C11e.lean`. -/
namespace PhyVerif.C11.Lemmas
open PhyVerif PhyVerif.C11

theorem merge_inv (fs : FS) (subdirs : List String) (out : String) (hout : out ∉ subdirs)
    (h : (merge fs subdirs out).2 = none) : ∃ I, Loaded fs subdirs I ∧ InDomain subdirs I := by
  unfold merge at h
  split at h
  · cases h
  rename_i hne
  simp only [computes, tsvNames, miscNames, List.map_cons, List.map_nil, List.cons_append, List.nil_append] at h
  -- each step is run on `fs`: what it has read, what it has checked, the registers it leaves
  obtain ⟨_, _, c, h⟩ := step_inv (ws := []) hout cParams_inputOnly h
  obtain ⟨ps, p, l1, -, -, rfl⟩ := cParams_ok _ _ _ _ _ c
  obtain ⟨_, _, c, h⟩ := step_inv hout cProbeDesc_inputOnly h
  obtain ⟨-, rfl⟩ := cProbeDesc_ok _ _ _ _ _ c
  obtain ⟨_, _, c, h⟩ := step_inv hout cSpikeTimes_inputOnly h
  obtain ⟨times, l3, k3, -, rfl⟩ := cSpikeTimes_ok _ _ _ _ _ c
  obtain ⟨_, _, c, h⟩ := step_inv hout cAmplitudes_inputOnly h
  obtain ⟨amps, l4, k4, n4, -, rfl⟩ := cAmplitudes_ok _ _ _ _ _ c
  obtain ⟨_, _, c, h⟩ := step_inv hout cSpikeTemplatesRaw_inputOnly h
  obtain ⟨st, l5, k5, n5, -, rfl⟩ := cSpikeTemplatesRaw_ok _ _ _ _ _ c
  obtain ⟨_, _, c, h⟩ := step_inv hout cSpikeClusters_inputOnly h
  obtain ⟨sc, st', counts, l6, l6', l6c, k6, -, n6, -, -, -, rfl⟩ := cSpikeClusters_ok _ _ _ _ _ c
  obtain ⟨_, _, c, h⟩ := step_inv hout cClusterData_inputOnly h
  obtain ⟨md1, l7, -, rfl⟩ := cClusterData_ok _ _ _ _ _ _ c
  obtain ⟨_, _, c, h⟩ := step_inv hout cClusterData_inputOnly h
  obtain ⟨md2, l8, -, rfl⟩ := cClusterData_ok _ _ _ _ _ _ c
  obtain ⟨_, _, c, h⟩ := step_inv hout cClusterData_inputOnly h
  obtain ⟨md3, l9, -, rfl⟩ := cClusterData_ok _ _ _ _ _ _ c
  obtain ⟨_, _, c, h⟩ := step_inv hout cChannelData_inputOnly h
  obtain ⟨maps, l10, k10, -, rfl⟩ := cChannelData_ok _ _ _ _ _ c
  obtain ⟨_, _, c, h⟩ := step_inv hout cChannelPositions_inputOnly h
  obtain ⟨pos, l11, k11, -, rfl⟩ := cChannelPositions_ok _ _ _ _ _ c
  obtain ⟨_, _, c, h⟩ := step_inv hout cTemplates_inputOnly h
  obtain ⟨ts, l12, k12, -, rfl⟩ := cTemplates_ok _ _ _ _ _ c
  obtain ⟨_, _, c, h⟩ := step_inv hout cPcInd_inputOnly h
  obtain ⟨pcs, l13, k13, -, rfl⟩ := cPcInd_ok _ _ _ _ _ c
  obtain ⟨_, _, c, h⟩ := step_inv hout cTfInd_inputOnly h
  obtain ⟨tfs, l14, k14, -, rfl⟩ := cTfInd_ok _ _ _ _ _ c
  obtain ⟨_, _, c, h⟩ := step_inv hout cMisc_inputOnly h
  obtain ⟨ms1, l15, -, rfl⟩ := cMisc_ok _ _ _ _ _ _ c
  obtain ⟨_, _, c, h⟩ := step_inv hout cMisc_inputOnly h
  obtain ⟨ms2, l16, -, rfl⟩ := cMisc_ok _ _ _ _ _ _ c
  obtain ⟨_, _, c, -⟩ := step_inv hout cMisc_inputOnly h
  obtain ⟨ms3, l17, -, -⟩ := cMisc_ok _ _ _ _ _ _ c
  -- the spike templates are read twice from the same file
  cases l5.symm.trans l6'
  obtain ⟨hsc, hst, -⟩ := (loadCount_iff fs subdirs sc st ts counts (loadEach_length _ _ _ l6)
    (loadEach_length _ _ _ l5) l12).mp l6c
  exact ⟨⟨ps, times, amps, st, sc, md1, md2, md3, maps, pos, ts, pcs, tfs, ms1, ms2, ms3⟩,
    ⟨l1, l3, l4, l5, l6, l7, l8, l9, l10, l11, l12, l13, l14, l15, l16, l17⟩,
    by simpa using hne, hsc, hst, (maxOK_iff _ _).mp k10, (maxOK_iff _ _).mp k11, (concatOK_iff _ _).mp k3,
    (concatOK_iff _ _).mp k4, (concatOK_iff _ _).mp k5, (concatOK_iff _ _).mp k6,
    n4.trans (spikeOrder_length times), n5.trans (spikeOrder_length times),
    (shiftIds_flatten_length sc).symm.trans (n6.trans (spikeOrder_length times)), k12, k13, k14⟩

theorem merge_raises_of_few_spikes (fs : FS) (subdirs : List String) (out : String) (hout : out ∉ subdirs)
    (d : String) (hd : d ∈ subdirs) (v : List Nat) (hv : fs.read (d, "spike_clusters.npy") = some (.nats v))
    (hfew : v.length ≤ 1) : (merge fs subdirs out).2 ≠ none := by
  intro hnone
  obtain ⟨I, ⟨-, -, -, -, l6, -⟩, -, hne, -, -, -, -, -, -, h1, -⟩ := merge_inv fs subdirs out hout hnone
  obtain ⟨a, ha, hr⟩ := loadEach_mem _ _ _ l6 d hd
  unfold readNats at hr
  rw [hv] at hr
  cases hr
  match v, hfew, hne v ha, h1 v ha with
  | [], _, h, _ => exact h rfl
  | [_], _, _, h => exact h rfl

theorem merge_raises_of_ragged_tables (fs : FS) (subdirs : List String) (out : String) (hout : out ∉ subdirs)
    (name : String) (hname : name = "pc_feature_ind.npy" ∨ name = "template_feature_ind.npy")
    (tables : List (List (List Nat))) (hl : loadEach (readTable fs name) subdirs = .ok tables)
    (_hne : ∀ t ∈ tables, t ≠ [])
    (hr : sameWidth tables = false) : (merge fs subdirs out).2 ≠ none := by
  intro hnone
  obtain ⟨I, ⟨-, -, -, -, -, -, -, -, -, -, -, l13, l14, -⟩, -, -, -, -, -, -, -, -, -, -, -, -, -, k13, k14⟩ :=
    merge_inv fs subdirs out hout hnone
  rcases hname with rfl | rfl
  · cases hl.symm.trans l13
    cases hr.symm.trans k13
  · cases hl.symm.trans l14
    cases hr.symm.trans k14

end PhyVerif.C11.Lemmas
