import PhyVerif.Model.C04f
import PhyVerif.Lemmas.C04c
import PhyVerif.Lemmas.C04s
/-! The feature tables (`loadFeatures`, `loadTemplateFeatures` of `Model/C04f`) against the declarative rows. -/
namespace PhyVerif.C04.Lemmas
open PhyVerif PhyVerif.C04

theorem optTable_row (d : Dir) {name : String} {tr : Arr → Arr} {shape : List Nat} {what : String}
    {val : Option Arr} (h : optTable d name tr shape what = .ok val) :
    Row d [name] tr val ∧ ∀ c, val = some c → c.shape = shape := by
  unfold optTable at h
  cases hr : readFile d [name] with
  | none =>
    rw [hr] at h
    cases h
    exact ⟨.inr ⟨readFile_none d _ hr, rfl⟩, fun c hc => nomatch hc⟩
  | some c =>
    simp only [hr] at h
    split at h
    · cases h
    next hs =>
    cases h
    obtain ⟨f, hw, hl⟩ := readFile_some d _ c hr
    exact ⟨.inl ⟨f, c, hw, hl, rfl⟩, fun c' hc' => by cases hc'; simpa using hs⟩

/-- the tail shared by `loadFeatures` and `loadTemplateFeatures`: the assertion on the data array, then its two optional
tables -/
theorem sparse_of_tables (d : Dir) {c : Bool} {e : FullErr} {data : Arr} {cn rn : String} {ctr rtr : Arr → Arr}
    {cs rs : List Nat} {cwhat rwhat : String} {r : Option Sparse}
    (h : (if c = true then throw e else do
      let cols ← optTable d cn ctr cs cwhat
      let rows ← optTable d rn rtr rs rwhat
      pure (some { data := data, cols := cols, rows := rows })) = Except.ok r) :
    c = false ∧ ∃ s, r = some s ∧ s.data = data ∧ Row d [cn] ctr s.cols ∧ (∀ c, s.cols = some c → c.shape = cs) ∧
      Row d [rn] rtr s.rows ∧ (∀ r, s.rows = some r → r.shape = rs) := by
  split at h
  · cases h
  next hc =>
  simp only [bind, Except.bind] at h
  split at h
  · cases h
  next cols hcols =>
  split at h
  · cases h
  next rows hrows =>
  cases h
  obtain ⟨c1, c2⟩ := optTable_row d hcols
  exact ⟨Bool.eq_false_iff.2 hc, _, rfl, rfl, c1, c2, optTable_row d hrows⟩

/-- the head shared by the two: the data file is read under its exact name, and without it nothing is shown -/
theorem of_data_file (d : Dir) {name : String} (hn : '*' ∉ name.toList) {F : Arr → Except FullErr (Option Sparse)}
    {r : Option Sparse}
    (h : (match readFile d [name] with
      | none => pure none
      | some a => F a) = Except.ok r) :
    (d.lookup name = none ∧ r = none) ∨ ∃ a, d.lookup name = some a ∧ F a = .ok r := by
  rw [readFile_exact d name hn] at h
  cases ha : d.lookup name with
  | none => rw [ha] at h; cases h; exact .inl ⟨rfl, rfl⟩
  | some a => rw [ha] at h; exact .inr ⟨a, rfl, h⟩

theorem pc_features_nostar : '*' ∉ "pc_features.npy".toList := by decide +kernel

theorem loadFeatures_some (d : Dir) (nt : Nat) (s : Sparse) (h : loadFeatures d nt = .ok (some s)) :
    ∃ a, d.lookup "pc_features.npy" = some a ∧ (feat3 a).shape.length = 3 ∧
      s.data = transpose021 (feat3 a) ∧
      Row d ["pc_feature_ind.npy"] featCols s.cols ∧
      (∀ c, s.cols = some c → c.shape = [nt, (s.data.shape.drop 1).headD 0]) ∧
      Row d ["pc_feature_spike_ids.npy"] (fun r => squeeze (scrub r)) s.rows ∧
      (∀ r, s.rows = some r → r.shape = [s.data.shape.headD 0]) := by
  unfold loadFeatures at h
  rcases of_data_file d pc_features_nostar h with ⟨-, h0⟩ | ⟨a, ha, h⟩
  · cases h0
  · obtain ⟨h3, s', hs, hd, r⟩ := sparse_of_tables d h
    cases hs
    rw [← hd] at r
    exact ⟨a, ha, by simpa using h3, hd, r⟩

theorem loadFeatures_entries (d : Dir) (nt : Nat) (s : Sparse) (h : loadFeatures d nt = .ok (some s))
    (a : Arr) (ha : d.lookup "pc_features.npy" = some a) (n p q : Nat) (hs : a.shape = [n, p, q])
    (hn : n ≠ 1) (hp : p ≠ 1) (hq : q ≠ 1) (hl : a.data.length = n * (p * q)) :
    s.data.shape = [n, q, p] ∧
    ∀ i j k, i < n → j < p → k < q →
      s.data.data[i * (q * p) + (k * p + j)]? = a.data[i * (p * q) + (j * q + k)]? := by
  obtain ⟨a', ha', -, hd, -⟩ := loadFeatures_some d nt s h
  rw [ha] at ha'
  injection ha' with ha'
  subst ha'
  have hf : feat3 a = a := by
    simp [feat3, squeeze_of_no_one a (by simp [hs, hn, hp, hq]), hs]
  rw [hd, hf]
  obtain ⟨h1, -, h3⟩ := transpose021_spec a n p q hs hl
  exact ⟨h1, h3⟩

theorem loadFeatures_none (d : Dir) (nt : Nat) (h : loadFeatures d nt = .ok none) :
    "pc_features.npy" ∉ names d := by
  unfold loadFeatures at h
  rcases of_data_file d pc_features_nostar h with ⟨ha, -⟩ | ⟨a, -, h⟩
  · exact not_mem_of_lookup_none d _ ha
  · obtain ⟨-, s, hs, -⟩ := sparse_of_tables d h
    cases hs

theorem loadTemplateFeatures_some (d : Dir) (nt : Nat) (s : Sparse)
    (h : loadTemplateFeatures d nt = .ok (some s)) :
    ∃ a, d.lookup "template_features.npy" = some a ∧ (squeeze a).shape.length = 2 ∧
      s.data = squeeze a ∧
      Row d ["template_feature_ind.npy"] (fun c => squeeze (scrub c)) s.cols ∧
      (∀ c, s.cols = some c → c.shape = [nt, (s.data.shape.drop 1).headD 0]) ∧
      Row d ["template_feature_spike_ids.npy"] (fun r => squeeze (scrub r)) s.rows ∧
      (∀ r, s.rows = some r → r.shape = [s.data.shape.headD 0]) := by
  unfold loadTemplateFeatures at h
  rcases of_data_file d (by decide +kernel) h with ⟨-, h0⟩ | ⟨a, ha, h⟩
  · cases h0
  · obtain ⟨h2, s', hs, hd, r⟩ := sparse_of_tables d h
    cases hs
    rw [← hd] at r
    exact ⟨a, ha, by simpa using h2, hd, r⟩

theorem readFile_features_frame (inv : Arr → Arr) {one : Cell} (d : Dir) (v : View) (d' : Dir) (h : load inv d one = .ok (v, d'))
    (name : String) (hn : ∀ g ∈ createdNames, globMatch name g = false) :
    readFile d' [name] = readFile d [name] := by
  obtain ⟨_, _, _, _, _, _, -, hd, -⟩ := load_nf inv d v d' h
  rw [hd]
  exact readFile_d2 inv d [name] _ (by simpa using hn)

end PhyVerif.C04.Lemmas
