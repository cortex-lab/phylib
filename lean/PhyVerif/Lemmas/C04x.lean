import PhyVerif.Model.C04c
import PhyVerif.Model.C04h
/-!
The example dataset of C04 — an ALF-named directory — and what the full loader returns on it, in a first session
(`exLoaded`, `exShow_eq`) and in a second one on the directory the first left (`exReloaded`, `exReload_eq`).
The loader is run once, in `exShow_sessions`: the kernel decodes every file name and pattern (`String.toList` in
`globMatch`) afresh in each declaration that evaluates `load`, and that is nearly all a run costs.  The examples of
`Props/C04.lean` read their values off `exLoaded`.
-/
namespace PhyVerif.C04

/-- an ALF-named directory with a label, two candidates for the amplitudes, one extra attribute -/
def exAlf : Dir :=
  [("spikes.times.p0.npy", ⟨[3, 1], [.num 1, .num 3, .num 5]⟩),           -- seconds · 2 (tden = 2)
   ("spikes.templates.p0.npy", ⟨[3], [.num 0, .num 1, .num 0]⟩),
   ("spikes.amps.p0.npy", ⟨[3], [.num 9, .num 9, .num 9]⟩),
   ("amplitudes.npy", ⟨[3, 1], [.num 1, .nan, .inf]⟩),
   ("channels.rawInd.npy", ⟨[2], [.num 2, .num 0]⟩),
   ("channels.localCoordinates.npy", ⟨[2, 2], [.num 0, .num 0, .num 0, .num 0]⟩),
   ("templates.waveforms.p0.npy", ⟨[2, 2, 2], [.nan, .nan, .nan, .nan, .num 1, .nan, .num 3, .num 4]⟩),
   ("spike_depth.npy", ⟨[3, 1], [.num 7, .inf, .num 8]⟩),
   ("spike_wrong.npy", ⟨[4], [.num 7, .num 7, .num 7, .num 7]⟩)]

def exRaw : List (List (List Nat)) := [[[0, 1, 2], [10, 11, 12]], [[20, 21, 22]]]

/-- what a projection of the loaded view shows on `exAlf` (1000 Hz, seconds tokens over 2, three raw
columns, `4` standing for 1.0, two raw files) -/
def exShow {α : Type} (f : FullView Nat × Dir → α) : Option α :=
  match loadFull (β := Nat) id 1000 2 3 (.num 4) (some exRaw) exAlf with
  | .ok r => some (f r)
  | .error _ => none

/-- the model loaded from `exAlf`, and the directory the loader leaves: three spikes, two channels (positions not distinct,
hence linear), two templates of which the first is all NaN; of the optional files only amplitudes and templates exist,
the other attributes show their defaults; the two created files appended -/
def exLoaded : FullView Nat × Dir :=
  let ids : Arr := ⟨[3], [.num 0, .num 1, .num 0]⟩              -- the spike templates, copied as spike clusters
  let eye : Arr := ⟨[2, 2], [.num 4, .num 0, .num 0, .num 4]⟩    -- the default whitening matrix; `id` is its inverse
  ({ base :=
      { times := .stored ⟨[3], [.num 1, .num 3, .num 5]⟩
        samples := .roundedTimes ⟨[3], [.num 1, .num 3, .num 5]⟩
        amplitudes := some ⟨[3], [.num 1, .num 0, .num 0]⟩
        spikeTemplates := ids
        spikeClusters := ids
        channelMap := ⟨[2], [.num 2, .num 0]⟩
        channelPositions := ⟨[2, 2], [.num 0, .num 0, .num 0, .num 0]⟩
        channelShanks := none
        channelProbes := none
        templates := some ⟨[2, 2, 2], [.num 0, .num 0, .num 0, .num 0, .num 1, .nan, .num 3, .num 4]⟩
        templateCols := none
        wm := none
        wmi := none
        similar := none }
     nSpikes := 3
     nChannels := 2
     nTemplates := 2
     spikeSamples := [500, 1500, 2500]
     spikeTimes := [1/2, 3/2, 5/2]
     positions := .linear 2
     channelShanks := ⟨[2], [.num 0, .num 0]⟩
     channelProbes := ⟨[2], [.num 0, .num 0]⟩
     templateCols := none
     wm := eye
     wmi := eye
     similar := ⟨[2, 2], [.num 0, .num 0, .num 0, .num 0]⟩
     spikeAttributes := [("depth", ⟨[3], [.num 7, .num 0, .num 8]⟩)]
     traces := some ([[], [.cols (.idx [2, 0])]], 1)
     nSamples := some 3
     duration := 3/1000 },
   exAlf ++ [("spike_clusters.npy", ids), ("whitening_mat_inv.npy", eye)])

/-- what a second session loads from the directory the first one left: the same model, its inverse whitening matrix a stored
one, and the same directory -/
def exReloaded : FullView Nat × Dir :=
  ({ exLoaded.1 with base := { exLoaded.1.base with wmi := some exLoaded.1.wmi } }, exLoaded.2)

/-- `FullView` has no decidable equality (a deferred operation of `traces` may hold a function).  This test compares two
loaded models field by field, the deferred operations of a fresh reader — one channel selection — by its index list. -/
def sameLoaded (r s : FullView Nat × Dir) : Bool :=
  decide (r.1.base = s.1.base ∧ r.1.nSpikes = s.1.nSpikes ∧ r.1.nChannels = s.1.nChannels ∧
    r.1.nTemplates = s.1.nTemplates ∧ r.1.spikeSamples = s.1.spikeSamples ∧ r.1.spikeTimes = s.1.spikeTimes ∧
    r.1.positions = s.1.positions ∧ r.1.channelShanks = s.1.channelShanks ∧ r.1.channelProbes = s.1.channelProbes ∧
    r.1.templateCols = s.1.templateCols ∧ r.1.wm = s.1.wm ∧ r.1.wmi = s.1.wmi ∧ r.1.similar = s.1.similar ∧
    r.1.spikeAttributes = s.1.spikeAttributes ∧ r.1.nSamples = s.1.nSamples ∧ r.1.duration = s.1.duration ∧
    r.2 = s.2) &&
  match r.1.traces, s.1.traces with
  | some ([[], [.cols (.idx l)]], a), some ([[], [.cols (.idx l')]], a') => decide (l = l' ∧ a = a')
  | _, _ => false

theorem eq_of_sameLoaded {r s : FullView Nat × Dir} (h : sameLoaded r s = true) : r = s := by
  obtain ⟨⟨⟩, _⟩ := r
  obtain ⟨⟨⟩, _⟩ := s
  simp only [sameLoaded, Bool.and_eq_true, decide_eq_true_eq] at h
  obtain ⟨⟨rfl, rfl, rfl, rfl, rfl, rfl, rfl, rfl, rfl, rfl, rfl, rfl, rfl, rfl, rfl, rfl, rfl⟩, ht⟩ := h
  split at ht
  · obtain ⟨rfl, rfl⟩ := of_decide_eq_true ht
    rfl
  · cases ht

/-- (a case split on the loader's result with `exShow_sessions` in the context makes the kernel run the loader again:
hence this split with nothing in the context) -/
theorem exShow_map {α : Type} (f : FullView Nat × Dir → α) : exShow f = (exShow id).map f := by
  rw [exShow, exShow]
  generalize loadFull (β := Nat) id 1000 2 3 (.num 4) (some exRaw) exAlf = x
  cases x <;> rfl

theorem exShow_sessions : exShow (fun r => sameLoaded r exLoaded &&
    match loadFull (β := Nat) id 1000 2 3 (.num 4) (some exRaw) r.2 with
    | .ok r2 => sameLoaded r2 exReloaded
    | .error _ => false) = some true := by
  decide +kernel

theorem exShow_eq {α : Type} (f : FullView Nat × Dir → α) : exShow f = some (f exLoaded) := by
  have h := exShow_sessions
  rw [exShow_map] at h ⊢
  obtain ⟨r, hr, hg⟩ := Option.map_eq_some_iff.1 h
  rw [hr, eq_of_sameLoaded (Bool.and_eq_true_iff.1 hg).1]
  rfl

theorem exReload_eq : loadFull (β := Nat) id 1000 2 3 (.num 4) (some exRaw) exLoaded.2 = .ok exReloaded := by
  have h := exShow_sessions
  rw [exShow_eq] at h
  have hg := (Bool.and_eq_true_iff.1 (Option.some.inj h)).2
  split at hg
  · next r2 hr2 => rw [hr2, eq_of_sameLoaded hg]
  · cases hg

/-- `Except` has no decidable equality: "fails with `e`" as a test the kernel evaluates -/
theorem eq_error_of_decide {α : Type} (x : Except LoadErr α) (e : LoadErr)
    (h : (match x with | .error e' => decide (e' = e) | .ok _ => false) = true) : x = .error e := by
  cases x with
  | error e' => exact congrArg _ (of_decide_eq_true h)
  | ok _ => cases h

/-- the error (if any) and the names of the directory a load leaves -/
def exAny (bad : List String) (d : Dir) : Option AnyErr × List String :=
  let r := loadAny id bad d
  (match r.1 with | .error e => some e | .ok _ => none, r.2.map (·.1))

def exBase : Dir := [("spike_templates.npy", ⟨[2], [.num 0, .num 1]⟩), ("channel_map.npy", ⟨[1], [.num 0]⟩)]

end PhyVerif.C04
