import PhyVerif.Model.C11
import PhyVerif.Spec.C11
import PhyVerif.Lemmas.C12
/-! Id offsets of `Model/C11.lean`. Cluster offsets (`idOffsets`) and template offsets (`templateOffsets`) are both
prefix sums of per-probe sizes that exceed every id of the probe; that alone keeps the shifted ids of different
probes apart (`sized_ids_disjoint`). -/
namespace PhyVerif.C11.Lemmas
open PhyVerif PhyVerif.C11

theorem sizeOffsetsFrom_spec (off : Nat) (sizes : List Nat) :
    (sizeOffsetsFrom off sizes).length = sizes.length ∧
    ∀ k, k < sizes.length → (sizeOffsetsFrom off sizes).getD k 0 = off + C12.prefixSum sizes k := by
  simpa only [List.map_id] using
    C12.Lemmas.offsets_prefix sizeOffsetsFrom id (fun _ => rfl) (fun _ _ _ => rfl) sizes off

theorem sizeOffsetsFrom_length (off : Nat) (sizes : List Nat) :
    (sizeOffsetsFrom off sizes).length = sizes.length :=
  (sizeOffsetsFrom_spec off sizes).1

theorem sizeOffsetsFrom_getD (off : Nat) (sizes : List Nat) (k : Nat) (hk : k < sizes.length) :
    (sizeOffsetsFrom off sizes).getD k 0 = off + C12.prefixSum sizes k :=
  (sizeOffsetsFrom_spec off sizes).2 k hk

/-- the shifted array of probe `k`, for offsets of any length (`zip` truncates) -/
theorem shiftBy_row (ids : List (List Nat)) (offsets : List Nat) (k : Nat) :
    (shiftBy ids offsets).getD k [] =
      if k < offsets.length then (ids.getD k []).map (· + offsets.getD k 0) else [] := by
  simp only [shiftBy, List.map_zip_eq_zipWith, List.getD_eq_getElem?_getD, List.getElem?_zipWith]
  by_cases hk : k < offsets.length
  · rw [List.getElem?_eq_getElem hk, if_pos hk]; cases ids[k]? <;> rfl
  · rw [List.getElem?_eq_none (Nat.le_of_not_lt hk), if_neg hk]; cases ids[k]? <;> rfl

theorem shiftBy_getD (ids : List (List Nat)) (offsets : List Nat) (hlen : offsets.length = ids.length)
    (k i : Nat) (hi : i < (ids.getD k []).length) :
    ((shiftBy ids offsets).getD k []).getD i 0 = (ids.getD k []).getD i 0 + offsets.getD k 0 := by
  have hk : k < offsets.length := by
    rw [hlen]
    apply Nat.lt_of_not_le
    intro h
    rw [Np.Lemmas.getD_of_le _ k [] h] at hi
    exact Nat.not_lt_zero _ hi
  rw [shiftBy_row, if_pos hk]
  exact Np.Lemmas.getD_map_of_lt _ _ i 0 0 hi

theorem shiftBy_flatten_length (ids : List (List Nat)) (offs : List Nat)
    (h : offs.length = ids.length) : (shiftBy ids offs).flatten.length = ids.flatten.length :=
  (C12.Lemmas.zipFlat_length (fun x o => x + o) ids offs h).trans List.length_flatten.symm

theorem sized_ids_disjoint (ids : List (List Nat)) (sizes : List Nat)
    (hsz : ∀ k s, sizes[k]? = some s → ∀ a ∈ ids.getD k [], a < s) (k l : Nat) (hkl : k < l) :
    ∀ a ∈ (shiftBy ids (sizeOffsetsFrom 0 sizes)).getD k [],
      ∀ b ∈ (shiftBy ids (sizeOffsetsFrom 0 sizes)).getD l [], a < b := by
  intro a ha b hb
  rw [shiftBy_row, sizeOffsetsFrom_length] at ha hb
  by_cases hl : l < sizes.length
  · have hk : k < sizes.length := by omega
    rw [if_pos hl, sizeOffsetsFrom_getD 0 sizes l hl] at hb
    rw [if_pos hk, sizeOffsetsFrom_getD 0 sizes k hk] at ha
    obtain ⟨a0, ha0, rfl⟩ := List.mem_map.mp ha
    obtain ⟨b0, -, rfl⟩ := List.mem_map.mp hb
    have h1 := hsz k _ (Np.Lemmas.getElem?_eq_some_getD hk 0) a0 ha0
    have h2 := C12.Lemmas.prefixSum_block_le sizes hkl
    show a0 + _ < b0 + _
    omega
  · rw [if_neg hl] at hb; cases hb

/-- the ids each probe takes in the merged numbering: `max(spike_clusters_k) + 1` (`n_clu`, merge.py:152) -/
def idCounts (ids : List (List Nat)) : List Nat := ids.map fun a => a.foldl max 0 + 1

theorem idOffsetsFrom_eq (off : Nat) (ids : List (List Nat)) :
    idOffsetsFrom off ids = sizeOffsetsFrom off (idCounts ids) := by
  induction ids generalizing off with
  | nil => rfl
  | cons a rest ih => simp only [idOffsetsFrom, idCounts, List.map_cons, sizeOffsetsFrom, Nat.add_assoc, ih]

theorem idOffsetsFrom_length (off : Nat) (ids : List (List Nat)) :
    (idOffsetsFrom off ids).length = ids.length := by
  rw [idOffsetsFrom_eq, sizeOffsetsFrom_length, idCounts, List.length_map]

theorem shiftIds_eq (ids : List (List Nat)) : shiftIds ids = shiftBy ids (idOffsets ids) := rfl

theorem ids_shifted (ids : List (List Nat)) (k i : Nat)
    (hi : i < (ids.getD k []).length) :
    ((shiftIds ids).getD k []).getD i 0 = (ids.getD k []).getD i 0 + (idOffsets ids).getD k 0 :=
  shiftBy_getD ids (idOffsets ids) (idOffsetsFrom_length 0 ids) k i hi

theorem shiftIds_flatten_length (ids : List (List Nat)) :
    (shiftIds ids).flatten.length = ids.flatten.length :=
  shiftBy_flatten_length ids (idOffsets ids) (idOffsetsFrom_length 0 ids)

theorem ids_disjoint (ids : List (List Nat)) (k l : Nat) (hkl : k < l) :
    ∀ a ∈ (shiftIds ids).getD k [], ∀ b ∈ (shiftIds ids).getD l [], a < b := by
  rw [shiftIds_eq, idOffsets, idOffsetsFrom_eq]
  apply sized_ids_disjoint ids (idCounts ids) _ k l hkl
  intro j s hs a ha
  rw [idCounts, List.getElem?_map] at hs
  obtain ⟨x, hx, rfl⟩ := Option.map_eq_some_iff.1 hs
  rw [List.getD_eq_getElem?_getD, hx] at ha
  exact Nat.lt_succ_of_le ((Np.Lemmas.le_foldl_max _ 0).2 _ ha)

theorem templateOffsets_length (ids : List (List Nat)) (counts : List Nat)
    (h : counts.length = ids.length) : (templateOffsets ids counts).length = ids.length := by
  simp [templateOffsets, templateSizes, sizeOffsetsFrom_length, h]

theorem template_ids_disjoint (ids : List (List Nat)) (counts : List Nat)
    (k l : Nat) (hkl : k < l) :
    ∀ a ∈ (shiftBy ids (templateOffsets ids counts)).getD k [],
      ∀ b ∈ (shiftBy ids (templateOffsets ids counts)).getD l [], a < b := by
  unfold templateOffsets
  apply sized_ids_disjoint ids (templateSizes ids counts) _ k l hkl
  intro j s hs a ha
  rw [templateSizes, List.map_zip_eq_zipWith, List.getElem?_zipWith_eq_some] at hs
  obtain ⟨x, y, hx, -, rfl⟩ := hs
  rw [List.getD_eq_getElem?_getD, hx] at ha
  exact Nat.lt_of_lt_of_le (Nat.lt_succ_of_le ((Np.Lemmas.le_foldl_max _ 0).2 _ ha)) (Nat.le_max_left ..)

theorem templateSizes_eq_counts (ids : List (List Nat)) (counts : List Nat) (hlen : counts.length = ids.length)
    (hlt : ∀ k, ∀ a ∈ ids.getD k [], a < counts.getD k 0) (hpos : ∀ c ∈ counts, 0 < c) :
    templateSizes ids counts = counts := by
  induction ids generalizing counts with
  | nil => cases counts with
    | nil => rfl
    | cons c counts => cases hlen
  | cons a ids ih =>
    cases counts with
    | nil => cases hlen
    | cons c counts =>
      have hc : a.foldl max 0 < c := (Np.Lemmas.foldl_max_lt_iff a 0 c).2 ⟨hpos c List.mem_cons_self, hlt 0⟩
      have := ih counts (Nat.succ.inj hlen) (fun k => hlt (k + 1)) (fun c hc => hpos c (List.mem_cons_of_mem _ hc))
      unfold templateSizes at this ⊢
      rw [List.zip_cons_cons, List.map_cons, this]
      exact congrArg (· :: counts) (Nat.max_eq_right hc)

theorem templateOffsets_eq_counts (ids : List (List Nat)) (counts : List Nat) (hlen : counts.length = ids.length)
    (hlt : ∀ k, ∀ a ∈ ids.getD k [], a < counts.getD k 0) (hpos : ∀ c ∈ counts, 0 < c)
    (k : Nat) (hk : k < ids.length) :
    (templateOffsets ids counts).getD k 0 = (counts.take k).sum := by
  rw [templateOffsets, templateSizes_eq_counts ids counts hlen hlt hpos,
    sizeOffsetsFrom_getD 0 counts k (by omega), Nat.zero_add]
  rfl

end PhyVerif.C11.Lemmas
