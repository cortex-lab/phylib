import PhyVerif.Model.C04
/-!
Lemmas about the loader of `Model/C04.lean`: `findPath` and `readFile` by cases, then `load_ok_iff`, which says when
`load` succeeds and what it returns in terms of the reads it makes, and what follows from it for the directory
that is returned.
-/
namespace PhyVerif.C04.Lemmas
open PhyVerif PhyVerif.C04

theorem scrub_spec (a : Arr) :
    (scrub a).shape = a.shape ∧ (scrub a).data.length = a.data.length ∧
    ∀ i (hi : i < a.data.length), (scrub a).data.getD i .nan =
      (match a.data[i]'hi with | .num v => .num v | _ => .num 0) := by
  refine ⟨rfl, List.length_map _, ?_⟩
  intro i hi
  simp only [scrub, List.getD_eq_getElem?_getD, List.getElem?_map, List.getElem?_eq_getElem hi, Option.map_some,
    Option.getD_some]
  cases a.data[i] <;> rfl

theorem lookup_none_iff (d : Dir) (f : String) : d.lookup f = none ↔ f ∉ d.map (·.1) := by
  rw [List.lookup_eq_none_iff, List.mem_map]
  constructor
  · rintro h ⟨x, hx, rfl⟩
    simpa using h x hx
  · exact fun h x hx => bne_iff_ne.2 fun e => h ⟨x, hx, e.symm⟩

theorem lookup_none_of_not_mem (d : Dir) (p : String) (h : p ∉ d.map (·.1)) : d.lookup p = none :=
  (lookup_none_iff d p).2 h

theorem not_mem_of_lookup_none (d : Dir) (f : String) (h : d.lookup f = none) : f ∉ d.map (·.1) :=
  (lookup_none_iff d f).1 h

theorem lookup_isSome_of_mem (d : Dir) (f : String) (h : f ∈ d.map (·.1)) : ∃ a, d.lookup f = some a :=
  Option.ne_none_iff_exists'.1 fun e => not_mem_of_lookup_none d f e h

theorem findPath_cons (d : Dir) (p : String) (rest : List String) :
    (∃ g ∈ d, globMatch p g.1 = true ∧ findPath d (p :: rest) = some g.1) ∨
    ((∀ g ∈ d.map (·.1), globMatch p g = false) ∧ findPath d (p :: rest) = findPath d rest) := by
  rw [findPath]
  cases hh : (d.filter fun f => globMatch p f.1).head? with
  | some g =>
    rw [List.head?_filter] at hh
    exact .inl ⟨g, List.mem_of_find?_eq_some hh, (List.find?_some hh :), rfl⟩
  | none =>
    rw [List.head?_filter, List.find?_eq_none] at hh
    refine .inr ⟨fun g hg => ?_, rfl⟩
    obtain ⟨x, hx, rfl⟩ := List.mem_map.1 hg
    simpa using hh x hx

theorem findPath_first_match (d : Dir) (names : List String) (f : String) (h : findPath d names = some f) :
    ∃ i, ∃ hi : i < names.length, globMatch (names[i]'hi) f = true ∧ f ∈ d.map (·.1) ∧
      ∀ j (hj : j < names.length), j < i → ∀ g ∈ d.map (·.1), globMatch (names[j]'hj) g = false := by
  induction names with
  | nil => cases h
  | cons p rest ih =>
    rcases findPath_cons d p rest with ⟨g, hg, hm, e⟩ | ⟨hn, e⟩
    · cases e.symm.trans h
      exact ⟨0, Nat.zero_lt_succ _, hm, List.mem_map.2 ⟨g, hg, rfl⟩, fun _ _ hlt => nomatch hlt⟩
    · obtain ⟨i, hi, h1, h2, h3⟩ := ih (e.symm.trans h)
      refine ⟨i + 1, Nat.succ_lt_succ hi, h1, h2, fun j hj hlt => ?_⟩
      cases j with
      | zero => exact hn
      | succ j => exact h3 j (Nat.lt_of_succ_lt_succ hj) (Nat.lt_of_succ_lt_succ hlt)

theorem findPath_none (d : Dir) (names : List String) (h : findPath d names = none) :
    ∀ p ∈ names, ∀ g ∈ d.map (·.1), globMatch p g = false := by
  induction names with
  | nil => nofun
  | cons p rest ih =>
    rcases findPath_cons d p rest with ⟨g, _, _, e⟩ | ⟨hn, e⟩
    · cases e.symm.trans h
    · intro q hq
      rcases List.mem_cons.1 hq with rfl | hq
      · exact hn
      · exact ih (e.symm.trans h) q hq

theorem findPath_of_absent (d : Dir) (pats : List String)
    (h : ∀ p ∈ pats, ∀ g ∈ d.map (·.1), globMatch p g = false) : findPath d pats = none := by
  cases hf : findPath d pats with
  | none => rfl
  | some f =>
    obtain ⟨i, hi, h1, h2, -⟩ := findPath_first_match d pats f hf
    exact absurd ((h _ (List.getElem_mem hi) f h2).symm.trans h1) Bool.false_ne_true

theorem findPath_mem (d : Dir) (pats : List String) (f : String) (h : findPath d pats = some f) : f ∈ d.map (·.1) :=
  let ⟨_, _, _, hm, _⟩ := findPath_first_match d pats f h
  hm

theorem findPath_eq_of_unique (D : Dir) (pats : List String) (k : String)
    (h : ∀ m ∈ D.map (·.1), ∀ p ∈ pats, globMatch p m = true → m = k)
    (hk : ∃ p ∈ pats, globMatch p k = true) :
    findPath D pats = (D.lookup k).map fun _ => k := by
  cases hf : findPath D pats with
  | some f =>
    obtain ⟨i, hi, h1, h2, -⟩ := findPath_first_match D pats f hf
    obtain rfl := h f h2 _ (List.getElem_mem hi) h1
    obtain ⟨a, ha⟩ := lookup_isSome_of_mem D f h2
    rw [ha]
    rfl
  | none =>
    obtain ⟨p, hp, hpk⟩ := hk
    have hnm : k ∉ D.map (·.1) := fun hm => Bool.false_ne_true ((findPath_none D pats hf p hp k hm).symm.trans hpk)
    rw [lookup_none_of_not_mem D k hnm]
    rfl

theorem readFile_eq_of_unique (D : Dir) (pats : List String) (k : String)
    (h : ∀ m ∈ D.map (·.1), ∀ p ∈ pats, globMatch p m = true → m = k)
    (hk : ∃ p ∈ pats, globMatch p k = true) :
    readFile D pats = D.lookup k := by
  unfold readFile
  rw [findPath_eq_of_unique D pats k h hk]
  cases hl : D.lookup k with
  | none => rfl
  | some a => exact hl

theorem splitStar_nostar (l : List Char) (h : '*' ∉ l) : splitStar l = (l, none) := by
  induction l with
  | nil => rfl
  | cons c t ih =>
    have hc : c ≠ '*' := fun e => h (e ▸ List.mem_cons_self)
    have ht : '*' ∉ t := fun e => h (List.mem_cons_of_mem c e)
    rw [splitStar]
    · simp [ih ht]
    · exact hc

theorem globMatch_exact (p name : String) (h : '*' ∉ p.toList) : globMatch p name = true ↔ name = p := by
  simp only [globMatch, splitStar_nostar _ h, beq_iff_eq, String.toList_inj]
  exact eq_comm

theorem readFile_exact (d : Dir) (p : String) (hp : '*' ∉ p.toList) : readFile d [p] = d.lookup p :=
  readFile_eq_of_unique d [p] p
    (fun m _ _ hq hm => (globMatch_exact p m hp).1 (List.mem_singleton.1 hq ▸ hm))
    ⟨p, List.mem_singleton.2 rfl, (globMatch_exact p p hp).2 rfl⟩

theorem readFile_eq_some (d : Dir) (pats : List String) (a : Arr) :
    readFile d pats = some a ↔ ∃ f, findPath d pats = some f ∧ d.lookup f = some a := by
  unfold readFile
  cases findPath d pats with
  | none => exact ⟨nofun, fun ⟨_, hg, _⟩ => nomatch hg⟩
  | some f => exact ⟨fun h => ⟨f, rfl, h⟩, fun ⟨_, hg, h⟩ => Option.some.inj hg ▸ h⟩

/-- the directory after the spike-cluster step (`_load_spike_clusters`, model.py:615-634: a copy of the spike-template
file is added when there is no cluster file) -/
def d1Of (d : Dir) : Dir :=
  match findPath d ["spike_clusters.npy", "spikes.clusters*.npy"] with
  | some _ => d
  | none =>
    match findPath d ["spike_templates.npy", "spikes.templates*.npy"] with
    | some f => match d.lookup f with
      | some a => d ++ [("spike_clusters.npy", a)]
      | none => d
    | none => d

theorem d1Of_some (d : Dir) (f : String)
    (h : findPath d ["spike_clusters.npy", "spikes.clusters*.npy"] = some f) : d1Of d = d := by
  simp only [d1Of, h]

theorem d1Of_none (d : Dir) (f : String) (a : Arr)
    (h : findPath d ["spike_clusters.npy", "spikes.clusters*.npy"] = none)
    (hf : findPath d ["spike_templates.npy", "spikes.templates*.npy"] = some f) (ha : d.lookup f = some a) :
    d1Of d = d ++ [("spike_clusters.npy", a)] := by
  simp only [d1Of, h, hf, ha]

theorem d1Of_cases (d : Dir) : d1Of d = d ∨ ∃ a, d1Of d = d ++ [("spike_clusters.npy", a)] := by
  unfold d1Of
  split
  · exact .inl rfl
  · split
    · split
      · exact .inr ⟨_, rfl⟩
      · exact .inl rfl
    · exact .inl rfl

theorem d1Of_lookup_wmi (d : Dir) : (d1Of d).lookup "whitening_mat_inv.npy" = d.lookup "whitening_mat_inv.npy" := by
  rcases d1Of_cases d with h | ⟨a, h⟩
  · rw [h]
  · rw [h, List.lookup_append]
    -- the lookup in the added singleton evaluates to `none`
    exact Option.or_none

/-- the inverse-whitening step on the directory after the spike-cluster step: the inverse the view shows and the
directory left behind; `e` = the inverse of the identity that stands for a missing whitening matrix
(`inv (eye one nc)`) -/
def wmiStep (inv : Arr → Arr) (d1 : Dir) (e : Arr) : Option Arr × Dir :=
  match readFile d1 ["whitening_mat_inv.npy"] with
  | some a => (some (atleast 2 (squeeze (scrub a))), d1)
  | none =>
    match (readFile d1 ["whitening_mat.npy"]).map fun a => atleast 2 (squeeze (scrub a)) with
    | some w => ((none : Option Arr), d1 ++ [("whitening_mat_inv.npy", inv w)])
    | none => (none, d1 ++ [("whitening_mat_inv.npy", e)])

theorem readFile_wmi (d1 : Dir) : readFile d1 ["whitening_mat_inv.npy"] = d1.lookup "whitening_mat_inv.npy" :=
  readFile_exact d1 _ (by decide +kernel)

theorem wmiStep_some (inv : Arr → Arr) (d1 : Dir) (e a : Arr) (h : d1.lookup "whitening_mat_inv.npy" = some a) :
    wmiStep inv d1 e = (some (atleast 2 (squeeze (scrub a))), d1) := by
  rw [wmiStep, readFile_wmi, h]

theorem wmiStep_none (inv : Arr → Arr) (d1 : Dir) (e : Arr) (h : d1.lookup "whitening_mat_inv.npy" = none) :
    wmiStep inv d1 e = (none, d1 ++ [("whitening_mat_inv.npy",
      ((readFile d1 ["whitening_mat.npy"]).map fun a => inv (atleast 2 (squeeze (scrub a)))).getD e)]) := by
  rw [wmiStep, readFile_wmi, h]
  cases readFile d1 ["whitening_mat.npy"] <;> rfl

theorem wmiStep_fst (inv : Arr → Arr) (d1 : Dir) (e : Arr) :
    (wmiStep inv d1 e).1 = (readFile d1 ["whitening_mat_inv.npy"]).map fun a => atleast 2 (squeeze (scrub a)) := by
  rw [wmiStep]
  cases readFile d1 ["whitening_mat_inv.npy"] with
  | some a => rfl
  | none => cases readFile d1 ["whitening_mat.npy"] <;> rfl

theorem wmiStep_snd (inv : Arr → Arr) (d1 : Dir) (e : Arr) :
    ∃ w, (wmiStep inv d1 e).2 = d1 ++
      (if d1.lookup "whitening_mat_inv.npy" = none then [("whitening_mat_inv.npy", w)] else []) := by
  cases h : d1.lookup "whitening_mat_inv.npy" with
  | none => exact ⟨_, by rw [wmiStep_none inv d1 e h, if_pos rfl]⟩
  | some a => exact ⟨a, by rw [wmiStep_some inv d1 e a h, if_neg nofun, List.append_nil]⟩

/-- the view `load` returns, as a function of the time sources, the four mandatory arrays and the
directory `d1` after the spike-cluster step -/
def viewOf (inv : Arr → Arr) (d d1 : Dir) (times : TimeSrc) (samples : SampleSrc) (st sc cm pos : Arr)
    (e : Arr) : View :=
  { times := times, samples := samples,
    amplitudes := (readFile d ["amplitudes.npy", "spikes.amps*.npy"]).map fun a => squeeze (scrub a),
    spikeTemplates := squeeze (scrub st), spikeClusters := squeeze (scrub sc),
    channelMap := atleast 1 (squeeze (scrub cm)), channelPositions := atleast 2 (squeeze (scrub pos)),
    channelShanks := (readFile d1 ["channel_shanks.npy", "channels.shanks*.npy"]).map fun a =>
      { squeeze (scrub a) with shape := [(squeeze (scrub a)).data.length] },
    channelProbes := (readFile d1 ["channel_probe.npy", "channels.probes*.npy"]).map fun a => atleast 1 (squeeze (scrub a)),
    templates := (readFile d1 ["templates.npy", "templates.waveforms.npy", "templates.waveforms.*.npy"]).map
      fun a => zeroNanTemplates (atleast 3 (squeeze a)),
    templateCols := match (readFile d1 ["templates.npy", "templates.waveforms.npy", "templates.waveforms.*.npy"]).map
        fun a => zeroNanTemplates (atleast 3 (squeeze a)) with
      | some _ => (readFile d1 ["template_ind.npy", "templates.waveformsChannels*.npy"]).map fun a => squeeze (scrub a)
      | none => none,
    wm := (readFile d1 ["whitening_mat.npy"]).map fun a => atleast 2 (squeeze (scrub a)),
    wmi := (wmiStep inv d1 e).1,
    similar := (readFile (wmiStep inv d1 e).2 ["similar_templates.npy"]).map fun a => atleast 2 (squeeze (scrub a)) }

/-- where `_load_spike_samples` (model.py:647-667) reads the spike times and samples of a successful load from; the
times have passed the monotonicity test of `_load_data` -/
def TimesRead (d : Dir) (times : TimeSrc) (samples : SampleSrc) : Prop :=
  (∃ s, d.lookup "spike_times.npy" = some s ∧ times = .samplesOverRate (squeeze (scrub s)) ∧
      samples = .file (squeeze (scrub s)) ∧ monotone (scrub s).data = true) ∨
  (d.lookup "spike_times.npy" = none ∧ ∃ t, readFile d ["spikes.times*.npy"] = some t ∧
      times = .stored (squeeze (scrub t)) ∧ monotone (scrub t).data = true ∧
      ((∃ s, readFile d ["spikes.samples*.npy"] = some s ∧ samples = .file (squeeze (scrub s))) ∨
       (readFile d ["spikes.samples*.npy"] = none ∧ samples = .roundedTimes (squeeze (scrub t)))))

/-- When `load` succeeds and what it returns then, in terms of the reads it makes: the spike times, the three
mandatory arrays, the spike clusters (a file, or the spike templates), no two cluster files. -/
theorem load_ok_iff (inv : Arr → Arr) {one : Cell} (d : Dir) (v : View) (d' : Dir) :
    load inv d one = .ok (v, d') ↔
    ∃ times samples st sc cm pos,
      v = viewOf inv d (d1Of d) times samples st sc cm pos
        (inv (eye one ((atleast 1 (squeeze (scrub cm))).shape.headD 0))) ∧
      d' = (wmiStep inv (d1Of d) (inv (eye one ((atleast 1 (squeeze (scrub cm))).shape.headD 0)))).2 ∧
      TimesRead d times samples ∧
      readFile d ["spike_templates.npy", "spikes.templates*.npy"] = some st ∧
      ((findPath d ["spike_clusters.npy"]).isSome && (findPath d ["spikes.clusters*.npy"]).isSome) = false ∧
      ((∃ f, findPath d ["spike_clusters.npy", "spikes.clusters*.npy"] = some f ∧ d.lookup f = some sc) ∨
       (findPath d ["spike_clusters.npy", "spikes.clusters*.npy"] = none ∧ sc = st)) ∧
      readFile (d1Of d) ["channel_map.npy", "channels.rawInd*.npy"] = some cm ∧
      readFile (d1Of d) ["channel_positions.npy", "channels.localCoordinates*.npy"] = some pos := by
  constructor
  · intro h
    unfold load at h
    -- `rest` is the join point of the `do` block after the spike-time step: the three successful branches of that
    -- step are brought to one goal before `rest` is opened, so that the remainder of the loader is walked once
    extract_lets amplitudes rest at h
    obtain ⟨times, samples, tc, h, ht⟩ : ∃ times samples tc, rest (times, samples, tc) = .ok (v, d') ∧
        (monotone tc = true → TimesRead d times samples) := by
      split at h
      · next s hs => exact ⟨_, _, _, h, fun hm => .inl ⟨s, hs, rfl, rfl, hm⟩⟩
      · next h0 =>
        split at h
        · cases h
        · next t ht =>
          split at h
          · next s hs => exact ⟨_, _, _, h, fun hm => .inr ⟨h0, t, ht, rfl, hm, .inl ⟨s, hs, rfl⟩⟩⟩
          · next hs => exact ⟨_, _, _, h, fun hm => .inr ⟨h0, t, ht, rfl, hm, .inr ⟨hs, rfl⟩⟩⟩
    simp only [rest, amplitudes, bind, Except.bind, pure, Except.pure, throw, throwThe, MonadExceptOf.throw] at h
    split at h
    · cases h
    next hm =>
    have ht := ht (by simpa using hm)
    split at h
    case h_2 => cases h
    next st hst =>
    split at h
    · cases h
    next hc =>
    have hc := Bool.eq_false_iff.2 hc
    split at h
    · next f hf =>
      split at h
      case h_2 => cases h
      next sc hsc =>
      rw [d1Of_some d f hf]
      split at h
      case h_2 => cases h
      next cm hcm =>
      split at h
      case h_2 => cases h
      next pos hpos =>
      cases h
      exact ⟨_, _, _, _, _, _, rfl, rfl, ht, hst, hc, .inl ⟨f, hf, hsc⟩, hcm, hpos⟩
    · next hn =>
      split at h
      case h_2 => cases h
      next f hf =>
      split at h
      case h_2 => cases h
      next sc hsc =>
      rw [d1Of_none d f sc hn hf hsc]
      split at h
      case h_2 => cases h
      next cm hcm =>
      split at h
      case h_2 => cases h
      next pos hpos =>
      cases h
      have e : sc = st := Option.some.inj (((readFile_eq_some d _ sc).2 ⟨f, hf, hsc⟩).symm.trans hst)
      exact ⟨_, _, _, _, _, _, rfl, rfl, ht, hst, hc, .inr ⟨hn, e⟩, hcm, hpos⟩
  · rintro ⟨times, samples, st, sc, cm, pos, rfl, rfl, ht, hst, hc, hsc, hcm, hpos⟩
    unfold load
    extract_lets amplitudes rest
    have key : ∀ tc, monotone tc = true → rest (times, samples, tc) = .ok
        (viewOf inv d (d1Of d) times samples st sc cm pos (inv (eye one ((atleast 1 (squeeze (scrub cm))).shape.headD 0))),
         (wmiStep inv (d1Of d) (inv (eye one ((atleast 1 (squeeze (scrub cm))).shape.headD 0)))).2) := by
      intro tc hm
      -- `simp` is given every read at once: a `match` whose outcome it does not know it would walk in both branches
      rcases hsc with ⟨f, hf, hl⟩ | ⟨hn, rfl⟩
      · rw [d1Of_some d f hf] at hcm hpos ⊢
        simp only [rest, bind, Except.bind, pure, Except.pure, hm, hst, hc, hf, hl, hcm, hpos]
        rfl
      · obtain ⟨f, hf, hl⟩ := (readFile_eq_some d _ sc).1 hst
        rw [d1Of_none d f sc hn hf hl] at hcm hpos ⊢
        simp only [rest, bind, Except.bind, pure, Except.pure, hm, hst, hc, hn, hf, hl, hcm, hpos]
        rfl
    rcases ht with ⟨s, hs, rfl, rfl, hm⟩ | ⟨h0, t, ht, rfl, hm, ⟨s, hs, rfl⟩ | ⟨hs, rfl⟩⟩
    · simp only [hs]
      exact key _ hm
    · simp only [h0, ht, hs]
      exact key _ hm
    · simp only [h0, ht, hs]
      exact key _ hm

/-- the forward direction of `load_ok_iff`, with the number of channels read off the view and without the clause
on two cluster files -/
theorem load_nf (inv : Arr → Arr) {one : Cell} (d : Dir) (v : View) (d' : Dir) (h : load inv d one = .ok (v, d')) :
    ∃ times samples st sc cm pos,
      v = viewOf inv d (d1Of d) times samples st sc cm pos (inv (eye one (v.channelMap.shape.headD 0))) ∧
      d' = (wmiStep inv (d1Of d) (inv (eye one (v.channelMap.shape.headD 0)))).2 ∧
      TimesRead d times samples ∧
      readFile d ["spike_templates.npy", "spikes.templates*.npy"] = some st ∧
      ((∃ f, findPath d ["spike_clusters.npy", "spikes.clusters*.npy"] = some f ∧ d.lookup f = some sc) ∨
       (findPath d ["spike_clusters.npy", "spikes.clusters*.npy"] = none ∧ sc = st)) ∧
      readFile (d1Of d) ["channel_map.npy", "channels.rawInd*.npy"] = some cm ∧
      readFile (d1Of d) ["channel_positions.npy", "channels.localCoordinates*.npy"] = some pos := by
  obtain ⟨times, samples, st, sc, cm, pos, hv, hd, ht, hst, -, hsc, hcm, hpos⟩ := (load_ok_iff inv d v d').1 h
  rw [congrArg View.channelMap hv]
  exact ⟨times, samples, st, sc, cm, pos, hv, hd, ht, hst, hsc, hcm, hpos⟩

theorem sc_not_mem (d : Dir) (hn : findPath d ["spike_clusters.npy", "spikes.clusters*.npy"] = none) :
    "spike_clusters.npy" ∉ d.map (·.1) := fun hm =>
  Bool.false_ne_true ((findPath_none d _ hn _ List.mem_cons_self _ hm).symm.trans (by decide +kernel))

theorem load_dir (inv : Arr → Arr) {one : Cell} (d : Dir) (v : View) (d' : Dir) (h : load inv d one = .ok (v, d')) :
    ∃ a w, d' = d ++
        (if findPath d ["spike_clusters.npy", "spikes.clusters*.npy"] = none then [("spike_clusters.npy", a)] else []) ++
        (if d.lookup "whitening_mat_inv.npy" = none then [("whitening_mat_inv.npy", w)] else []) ∧
      (findPath d ["spike_clusters.npy", "spikes.clusters*.npy"] = none →
        ∃ f, findPath d ["spike_templates.npy", "spikes.templates*.npy"] = some f ∧ d.lookup f = some a ∧
          v.spikeClusters = squeeze (scrub a) ∧ v.spikeTemplates = squeeze (scrub a)) := by
  obtain ⟨times, samples, st, sc, cm, pos, hv, hd, -, hst, hsc, -⟩ := load_nf inv d v d' h
  obtain ⟨w, hw⟩ := wmiStep_snd inv (d1Of d) (inv (eye one (v.channelMap.shape.headD 0)))
  rw [d1Of_lookup_wmi] at hw
  rcases hsc with ⟨f, hf, -⟩ | ⟨hn, rfl⟩
  · have hne := fun h0 => Option.some_ne_none f (hf.symm.trans h0)
    refine ⟨sc, w, ?_, fun h0 => absurd h0 hne⟩
    rw [hd, hw, d1Of_some d f hf, if_neg hne, List.append_nil]
  · obtain ⟨f, hf, ha⟩ := (readFile_eq_some d _ sc).1 hst
    refine ⟨sc, w, ?_, fun _ => ⟨f, hf, ha, congrArg View.spikeClusters hv, congrArg View.spikeTemplates hv⟩⟩
    rw [hd, hw, d1Of_none d f sc hn hf ha, if_pos hn]

theorem mem_names_ite {c : Prop} [Decidable c] {k name : String} {a : Arr}
    (h : name ∈ (if c then [(k, a)] else ([] : Dir)).map (·.1)) : c ∧ name = k := by
  split at h
  · exact ⟨‹c›, by simpa using h⟩
  · cases h

theorem load_frame (inv : Arr → Arr) {one : Cell} (d : Dir) (v : View) (d' : Dir) (h : load inv d one = .ok (v, d')) :
    (∀ name a, d.lookup name = some a → d'.lookup name = some a) ∧
    (∀ name ∈ d'.map (·.1), name ∈ d.map (·.1) ∨ name = "spike_clusters.npy" ∨ name = "whitening_mat_inv.npy") ∧
    (("spike_clusters.npy" ∈ d'.map (·.1) ∧ "spike_clusters.npy" ∉ d.map (·.1)) ↔
      findPath d ["spike_clusters.npy", "spikes.clusters*.npy"] = none) ∧
    (d'.length = d.length +
      (if findPath d ["spike_clusters.npy", "spikes.clusters*.npy"] = none then 1 else 0) +
      (if d.lookup "whitening_mat_inv.npy" = none then 1 else 0)) := by
  obtain ⟨a, w, hd, -⟩ := load_dir inv d v d' h
  subst hd
  refine ⟨fun name x hx => by rw [List.append_assoc, List.lookup_append, hx]; rfl, fun name hname => ?_,
    ⟨fun ⟨hm, hnm⟩ => ?_, fun hn => ⟨?_, sc_not_mem d hn⟩⟩, ?_⟩
  · simp only [List.map_append, List.mem_append] at hname
    rcases hname with (h | h) | h
    · exact .inl h
    · exact .inr (.inl (mem_names_ite h).2)
    · exact .inr (.inr (mem_names_ite h).2)
  · simp only [List.map_append, List.mem_append] at hm
    rcases hm with (h | h) | h
    · exact absurd h hnm
    · exact (mem_names_ite h).1
    · exact absurd (mem_names_ite h).2 (by decide +kernel)
  · rw [if_pos hn]
    exact List.mem_map.2 ⟨(_, a), List.mem_append_left _ (List.mem_append_right _ List.mem_cons_self), rfl⟩
  · rw [List.length_append, List.length_append]
    split <;> split <;> rfl

theorem load_rejects_nonmonotone (inv : Arr → Arr) {one : Cell} (d : Dir) (s : Arr) (hs : d.lookup "spike_times.npy" = some s)
    (hm : monotone (scrub s).data = false) : load inv d one = .error .nonMonotone := by
  simp only [load, bind, Except.bind, pure, Except.pure, throw, throwThe, MonadExceptOf.throw, hs]
  simp [hm]

theorem load_rejects_two_cluster_files (inv : Arr → Arr) {one : Cell} (d : Dir)
    (h1 : (findPath d ["spike_clusters.npy"]).isSome) (h2 : (findPath d ["spikes.clusters*.npy"]).isSome)
    (v : View) (d' : Dir) : load inv d one ≠ .ok (v, d') := by
  intro h
  obtain ⟨_, _, _, _, _, _, -, -, -, -, hc, -⟩ := (load_ok_iff inv d v d').1 h
  rw [h1, h2] at hc
  cases hc

theorem clusters_default (inv : Arr → Arr) {one : Cell} (d : Dir) (v : View) (d' : Dir) (h : load inv d one = .ok (v, d'))
    (hn : findPath d ["spike_clusters.npy", "spikes.clusters*.npy"] = none) :
    v.spikeClusters = v.spikeTemplates ∧
    ∃ f, findPath d ["spike_templates.npy", "spikes.templates*.npy"] = some f ∧
      d'.lookup "spike_clusters.npy" = d.lookup f := by
  obtain ⟨a, w, hd, hc⟩ := load_dir inv d v d' h
  obtain ⟨f, hf, ha, hsc, hst⟩ := hc hn
  refine ⟨hsc.trans hst.symm, f, hf, ?_⟩
  rw [hd, ha, if_pos hn, List.append_assoc, List.lookup_append, lookup_none_of_not_mem d _ (sc_not_mem d hn),
    List.cons_append, List.lookup_cons_self]
  rfl

end PhyVerif.C04.Lemmas
