import PhyVerif.Model.C08b
import PhyVerif.Lemmas.C08
/-! `Model/C08b.lean`: `_get_template_from_spikes` on the spikes of a cluster picks the dominant template of
`get_cluster_mean_waveforms`. -/
namespace PhyVerif.C08.Lemmas
open PhyVerif PhyVerif.C09 PhyVerif.C08

/-- `np.unique(x, return_counts=True)` + `np.argmax` and `np.argmax` of the dense histogram
`np.bincount(x, minlength=nt)` pick the same value: the smallest of the most frequent ones. -/
theorem uniqueCounts_argmax (x : List Nat) (hne : x ≠ []) (nt : Nat) (hx : ∀ v ∈ x, v < nt) :
    (uniqueCounts x).1.getD (argmaxNat (uniqueCounts x).2) 0 =
      argmaxNat ((List.range nt).map fun t => x.count t) := by
  obtain ⟨hpw, hmem⟩ := C07.Lemmas.distinctSorted_spec x
  show (C07.distinctSorted x).getD (argmaxNat ((C07.distinctSorted x).map fun v => x.count v)) 0 = _
  generalize C07.distinctSorted x = u at hpw hmem
  have hune : u.map (fun v => x.count v) ≠ [] := by
    obtain ⟨v, hv⟩ := List.exists_mem_of_ne_nil _ hne
    exact List.ne_nil_of_mem (List.mem_map_of_mem ((hmem v).2 hv))
  obtain ⟨hk, hmax, hfirst⟩ := argmaxNat_spec _ hune
  generalize argmaxNat (u.map fun v => x.count v) = k at hk hmax hfirst
  rw [List.length_map] at hk
  have hcnt : ∀ j (hj : j < u.length), (u.map fun v => x.count v).getD j 0 = x.count u[j] :=
    fun j hj => by rw [Np.Lemmas.getD_map_of_lt _ u j 0 0 hj, ← List.getElem_eq_getD 0]
  -- the dense histogram reads the multiplicity everywhere: beyond `nt` nothing occurs
  have hden : ∀ t, ((List.range nt).map fun t => x.count t).getD t 0 = x.count t := fun t => by
    rw [Np.Lemmas.getD_map_range_ite]
    exact ite_eq_left_iff.2 fun h => (List.count_eq_zero.2 fun ht => h (hx t ht)).symm
  have hkx : u[k] ∈ x := (hmem _).1 (List.getElem_mem hk)
  have key : ∀ t, x.count t ≤ x.count u[k] ∧ (t < u[k] → x.count t < x.count u[k]) := fun t => by
    by_cases ht : t ∈ x
    · obtain ⟨j, hj, rfl⟩ := List.mem_iff_getElem.1 ((hmem t).2 ht)
      rw [← hcnt j hj, ← hcnt k hk]
      refine ⟨hmax j, fun htk => hfirst j (Nat.lt_of_not_le fun hkj => ?_)⟩
      -- `u` increases, so the smaller value stands at an earlier position
      rcases Nat.lt_or_eq_of_le hkj with h | rfl
      · exact Nat.lt_asymm htk (List.pairwise_iff_getElem.1 hpw k j hk hj h)
      · exact Nat.lt_irrefl _ htk
    · rw [List.count_eq_zero.2 ht]
      exact ⟨Nat.zero_le _, fun _ => List.count_pos_iff.2 hkx⟩
  rw [← List.getElem_eq_getD 0]
  refine (argmaxNat_unique _ u[k] (by rw [List.length_map, List.length_range]; exact hx _ hkx)
    (fun t => ?_) fun t => ?_).symm
  · rw [hden, hden]
    exact (key t).1
  · rw [hden, hden]
    exact (key t).2

theorem countOf_eq_count (st sc : List Nat) (hlen : st.length = sc.length) (t c : Nat) :
    countOf st sc t c =
      ((C07.Lemmas.positions sc c).map fun i => st.getD i 0).count t := by
  unfold countOf C07.Lemmas.positions
  rw [zip_eq_map_range st sc hlen, List.filter_map, List.length_map, List.count_eq_countP,
    List.countP_map, List.countP_eq_length_filter, List.filter_filter]
  congr 1

theorem clusterTemplate_eq_dominant (st sc : List Nat) (hlen : st.length = sc.length) (nt : Nat)
    (hst : ∀ t ∈ st, t < nt) (c : Nat) (hc : c ∈ sc) :
    clusterTemplate st sc c = argmaxNat (templateCounts st sc nt c) := by
  have hx : (C07.spikesInClusters sc [c]).map (fun i => st.getD i 0) =
      (C07.Lemmas.positions sc c).map fun i => st.getD i 0 := by
    rw [C07.Lemmas.clusterSpikes_eq_members, C07.Lemmas.members_none]
  have hcnt : templateCounts st sc nt c = (List.range nt).map fun t =>
      ((C07.Lemmas.positions sc c).map fun i => st.getD i 0).count t :=
    List.map_congr_left fun t _ => countOf_eq_count st sc hlen t c
  unfold clusterTemplate templateFromSpikes
  rw [hx, hcnt]
  apply uniqueCounts_argmax
  · obtain ⟨i, hi, rfl⟩ := List.mem_iff_getElem.1 hc
    exact List.ne_nil_of_mem (List.mem_map_of_mem
      ((C07.Lemmas.mem_positions sc _ i).2 ⟨hi, (List.getElem_eq_getD 0).symm⟩))
  · intro v hv
    obtain ⟨i, hi, rfl⟩ := List.mem_map.1 hv
    have hil := ((C07.Lemmas.mem_positions sc c i).1 hi).1
    exact hst _ (Np.Lemmas.getD_mem st i 0 (hlen ▸ hil))

end PhyVerif.C08.Lemmas
