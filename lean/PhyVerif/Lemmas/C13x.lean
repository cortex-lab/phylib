import PhyVerif.Spec.C13c
import PhyVerif.Model.C13d
/-!
The example dataset of C13 — a curated 3-spike source with a temporary file and raw data, exported under the label
`p0` — and what the conversion returns on it (`exConverted`, `exConvert_eq`).  The examples of `Props/C13.lean` read
their values off `exConverted`.
-/
namespace PhyVerif.C13

def exView : View :=
  { rate := 30000, samples := [0, 15000, 45000], times := [0, 1/2, 3/2], spikeClusters := [0, 2, 2], spikeTemplates := [0, 1, 1],
    amplitudes := [1, 2, 3], nTemplates := 2, channelMap := [0, 1], channelProbes := [0, 0], featRows := some 2 }
def exSrc : FDir :=
  [ (["params", "py"], ⟨"h0", [], false⟩), (["spike_clusters", "npy"], ⟨"h1", [.z 0, .z 2, .z 2], true⟩),
    (["spike_templates", "npy"], ⟨"h2", [.z 0, .z 1, .z 1], false⟩),
    (["channel_positions", "npy"], ⟨"h3", tokRows "pos" 2, false⟩), (["temp_wh", "dat"], ⟨"h4", [], false⟩) ]
def exCfg : Cfg := { sameDir := false, force := false, label := "p0", hasTraces := true }
def exGen (k : Nat) : String := s!"id{k}"

/-- times are written as cells in half seconds; positions have two columns -/
def exI : Interp :=
  { encQ := fun q => (q * 2).floor, cells := fun w i => if w = "pos" then [.num (10 * i), .num (10 * i + 1)] else [.num i],
    trail := fun w => if w = "pos" then [2] else [] }

/-- both directories after the conversion of `exSrc` into an empty target: the source has lost `temp_wh.dat` and gained
the three (empty) subset files; the target holds the 15 computed tables under the label, then the copies — cluster ids
squeezed, both id tables cast to uint16 — and the subset files, which are no object files and keep their names -/
def exConverted : Outcome :=
  { fs :=
      { src :=
          exSrc.dropLast ++ subsetFiles.map fun n => (n, fresh [])
        out :=
          [ (["clusters", "channels", "p0", "npy"], fresh (tokRows "clusters_channels" 3)),
            (["clusters", "peakToTrough", "p0", "npy"], fresh (tokRows "clusters_waveforms_durations" 3)),
            (["clusters", "uuids", "p0", "csv"], fresh [.s "uuids", .s "id0", .s "id1", .s "id2"]),
            (["channels", "rawInd", "p0", "npy"], fresh (tokRows "rawInd" 2)),
            (["spikes", "times", "p0", "npy"], fresh [.q 0, .q (1/2), .q (3/2)]),
            (["spikes", "samples", "p0", "npy"], fresh [.z 0, .z 15000, .z 45000]),
            (["spikes", "amps", "p0", "npy"], fresh (tokRows "spikes.amps" 3)),
            (["templates", "amps", "p0", "npy"], fresh (tokRows "templates.amps" 2)),
            (["templates", "waveforms", "p0", "npy"], fresh (tokRows "templates.waveforms" 2)),
            (["templates", "waveformsChannels", "p0", "npy"], fresh (tokRows "templates.waveformsChannels" 2)),
            (["clusters", "waveforms", "p0", "npy"], fresh (tokRows "clusters.waveforms" 3)),
            (["clusters", "waveformsChannels", "p0", "npy"], fresh (tokRows "clusters.waveformsChannels" 3)),
            (["clusters", "amps", "p0", "npy"], fresh (tokRows "clusters.amps" 3)),
            (["spikes", "depths", "p0", "npy"],
              fresh [.tok "clusters.depths" 0, .tok "clusters.depths" 2, .tok "clusters.depths" 2]),
            (["clusters", "depths", "p0", "npy"], fresh (tokRows "clusters.depths" 3)),
            (["params", "py"], ⟨"h0", [], false⟩),
            (["spikes", "clusters", "p0", "npy"], ⟨"u16:squeeze:h1", [.z 0, .z 2, .z 2], false⟩),
            (["spikes", "templates", "p0", "npy"], ⟨"u16:h2", [.z 0, .z 1, .z 1], false⟩),
            (["channels", "localCoordinates", "p0", "npy"], ⟨"h3", tokRows "pos" 2, false⟩),
            (["_phy_spikes_subset", "channels", "npy"], fresh []),
            (["_phy_spikes_subset", "spikes", "npy"], fresh []),
            (["_phy_spikes_subset", "waveforms", "npy"], fresh []) ] }
    err := none }

theorem exConvertible : Convertible exCfg ⟨exSrc, []⟩ := by
  unfold Convertible
  decide +kernel

deriving instance DecidableEq for FS, Outcome

theorem exConvert_eq : convertFS exCfg exView exGen ⟨exSrc, []⟩ = exConverted := by
  decide +kernel

end PhyVerif.C13
