import PhyVerif.Model.C12c
import PhyVerif.Spec.C12
import PhyVerif.Lemmas.C12
/-! Optional matrices of `write_misc` (`mergeOptional`, `Model/C12c.lean`); arbitrary (gapped) channel maps keep the
raw indices of different probes apart (`chanOffsetsFrom`, `Model/C12.lean`). -/
namespace PhyVerif.C12.Lemmas
open PhyVerif PhyVerif.C12

variable {α : Type} [Zero α]

theorem loadAll_cons_some {β : Type} (v : β) (rest : List (Option β)) :
    loadAll (some v :: rest) = (loadAll rest).map (v :: ·) := by
  rw [loadAll]
  cases loadAll rest <;> rfl

theorem loadAll_none {β : Type} (ms : List (Option β)) : loadAll ms = none ↔ none ∈ ms := by
  induction ms with
  | nil => simp [loadAll]
  | cons m rest ih =>
    cases m with
    | none => simp [loadAll]
    | some v => simp [loadAll_cons_some, ih]

theorem loadAll_some {β : Type} (ms : List (Option β)) (l : List β) :
    loadAll ms = some l ↔ ms = l.map some := by
  induction ms generalizing l with
  | nil => cases l <;> simp [loadAll]
  | cons m rest ih =>
    cases m with
    | none => cases l <;> simp [loadAll]
    | some v =>
      cases l with
      | nil => simp [loadAll_cons_some]
      | cons a t => simpa [loadAll_cons_some, ih] using and_comm

theorem optional_skipped_iff (ms : List (Option (List (List α)))) :
    mergeOptional ms = none ↔ none ∈ ms := by
  rw [← loadAll_none]
  unfold mergeOptional
  cases loadAll ms <;> simp

theorem optional_written (ms : List (Option (List (List α)))) (M : List (List α)) :
    mergeOptional ms = some M ↔ ∃ l, ms = l.map some ∧ M = blockDiag l := by
  simp only [← loadAll_some, mergeOptional]
  cases loadAll ms <;> simp [eq_comm]

theorem nextRawOff_gt (off : Nat) (m : List Nat) :
    (∀ a ∈ m.map (· + off), a < (m.map (· + off)).foldl max 0 + 1) ∧
    (m ≠ [] → off < (m.map (· + off)).foldl max 0 + 1) := by
  have h := (Np.Lemmas.le_foldl_max (m.map (· + off)) 0).2
  refine ⟨fun a ha => Nat.lt_succ_of_le (h a ha), fun hne => ?_⟩
  obtain ⟨x, t, rfl⟩ := List.exists_cons_of_ne_nil hne
  exact Nat.lt_succ_of_le (Nat.le_trans (Nat.le_add_left off x) (h (x + off) List.mem_cons_self))

/-- `write_channel_data` as a `staircase`: the state is the raw offset, a block is a probe's shifted channel map -/
theorem chanBlocks_apart (maps : List (List Nat)) (hne : ∀ m ∈ maps, m ≠ []) (off k l : Nat) (hkl : k < l) :
    ∀ x ∈ ((maps.zip (chanOffsetsFrom off maps)).map fun p => p.1.map (· + p.2)).getD k [],
    ∀ y ∈ ((maps.zip (chanOffsetsFrom off maps)).map fun p => p.1.map (· + p.2)).getD l [], x < y := by
  intro x hx y hy
  refine Int.ofNat_lt.mp ((staircase
    (fun off maps => (maps.zip (chanOffsetsFrom off maps)).map fun p => p.1.map (· + p.2))
    (fun off m => m.map (· + off)) (fun off m => (m.map (· + off)).foldl max 0 + 1) (fun off => (off : Int))
    (fun x => (x : Int)) (· ≠ []) (fun _ => rfl) (fun _ _ _ => rfl) (fun off m hm => ?_) maps off hne).2
    k l hkl x hx y hy)
  obtain ⟨h1, h2⟩ := nextRawOff_gt off m
  refine ⟨Int.ofNat_le.mpr (Nat.le_of_lt (h2 hm)), fun x hx => ⟨?_, Int.ofNat_lt.mpr (h1 x hx)⟩⟩
  obtain ⟨y, _, rfl⟩ := List.mem_map.mp hx
  exact Int.ofNat_le.mpr (Nat.le_add_left off y)

theorem raw_indices_apart (maps : List (List Nat)) (hne : ∀ m ∈ maps, m ≠ []) (k l i j : Nat) (hkl : k < l)
    (hi : i < (maps.getD k []).length) (hj : j < (maps.getD l []).length) :
    (mergeChannelMaps maps).getD (prefixSum (maps.map List.length) k + i) 0 <
      (mergeChannelMaps maps).getD (prefixSum (maps.map List.length) l + j) 0 := by
  have hl := lt_length_of_lt_getD_length maps l j hj
  have hlen := chanOffsetsFrom_length maps 0
  rw [(channels_block_gapped maps k i hi).1, (channels_block_gapped maps l j hj).1]
  refine chanBlocks_apart maps hne 0 k l hkl _ ?_ _ ?_
  · rw [zipBlocks_getD _ maps _ k hlen (Nat.lt_trans hkl hl)]
    exact List.mem_map_of_mem (Np.Lemmas.getD_mem _ _ 0 hi)
  · rw [zipBlocks_getD _ maps _ l hlen hl]
    exact List.mem_map_of_mem (Np.Lemmas.getD_mem _ _ 0 hj)

/-- merged channel map with a starting raw offset -/
def mcmFrom (off : Nat) (maps : List (List Nat)) : List Nat :=
  ((maps.zip (chanOffsetsFrom off maps)).map fun p => p.1.map (· + p.2)).flatten

theorem mergeChannelMaps_eq (maps : List (List Nat)) : mergeChannelMaps maps = mcmFrom 0 maps := rfl

theorem mcmFrom_nodup (maps : List (List Nat)) (hne : ∀ m ∈ maps, m ≠ []) (hnd : ∀ m ∈ maps, m.Nodup)
    (off : Nat) : (mcmFrom off maps).Nodup := by
  rw [mcmFrom, List.Nodup, List.pairwise_flatten]
  refine ⟨fun B hB => ?_, ?_⟩
  · obtain ⟨p, hp, rfl⟩ := List.mem_map.mp hB
    have hm : p.1.Pairwise (· ≠ ·) := hnd _ (List.of_mem_zip hp).1
    exact List.pairwise_map.mpr (hm.imp fun h h' => h (Nat.add_right_cancel h'))
  · rw [List.pairwise_iff_getElem]
    intro i j hi hj hij x hx y hy
    rw [List.getElem_eq_getD []] at hx hy
    exact Nat.ne_of_lt (chanBlocks_apart maps hne off i j hij x hx y hy)

theorem merged_channel_map_nodup (maps : List (List Nat)) (hne : ∀ m ∈ maps, m ≠ [])
    (hnd : ∀ m ∈ maps, m.Nodup) : (mergeChannelMaps maps).Nodup :=
  mergeChannelMaps_eq maps ▸ mcmFrom_nodup maps hne hnd 0

end PhyVerif.C12.Lemmas
