import PhyVerif.Model.C11b
import PhyVerif.Lemmas.C04
import PhyVerif.Lemmas.C11
import PhyVerif.Lemmas.C11b
import PhyVerif.Lemmas.C12
/-! Composition (`Model/C11b.lean`): the directory written by the merge models loads with the loader model of C04:
the loader on seven arbitrary arrays under the merger's file names (`load_dir7`), then the merged arrays. -/
namespace PhyVerif.C11.Lemmas
open PhyVerif PhyVerif.C04 PhyVerif.C11

/-- a directory holding exactly the seven array files the merger writes -/
def dir7 (a1 a2 a3 a4 a5 a6 a7 : Arr) : Dir :=
  [ ("spike_times.npy", a1), ("amplitudes.npy", a2), ("spike_clusters.npy", a3),
    ("spike_templates.npy", a4), ("channel_map.npy", a5), ("channel_probe.npy", a6),
    ("channel_positions.npy", a7) ]

/-- `dir7` with empty arrays: all that `findPath` sees of it -/
def names7 : Dir := dir7 ⟨[], []⟩ ⟨[], []⟩ ⟨[], []⟩ ⟨[], []⟩ ⟨[], []⟩ ⟨[], []⟩ ⟨[], []⟩

theorem findPath_names (d d' : Dir) (h : d.map (·.1) = d'.map (·.1)) (pats : List String) :
    findPath d pats = findPath d' pats := by
  induction pats with
  | nil => rfl
  | cons pat rest ih =>
    have e (d : Dir) : findPath d (pat :: rest) =
        (((d.map (·.1)).filter (globMatch pat)).head?).or (findPath d rest) := by
      rw [findPath, List.filter_map, List.head?_map]
      show _ = (Option.map _ (d.filter fun f => globMatch pat f.1).head?).or _
      cases (d.filter fun f => globMatch pat f.1).head? <;> rfl
    rw [e, e, h, ih]

theorem lookup_cons_ne {α β : Type} [BEq α] [LawfulBEq α] {k a : α} (b : β) (es : List (α × β)) (h : k ≠ a) :
    List.lookup k ((a, b) :: es) = List.lookup k es := by
  rw [List.lookup_cons, beq_false_of_ne h]

/-- What each `_find_path` call of the loader finds among the seven names of `dir7` (and, for the last call, the
inverse whitening matrix the loader has added). All comparisons of names with patterns are made here, by the kernel
alone: turning a string literal into its characters is the dear step, and dearer still in the elaborator. -/
theorem dir7_paths :
    findPath names7 ["amplitudes.npy", "spikes.amps*.npy"] = some "amplitudes.npy" ∧
    findPath names7 ["spike_templates.npy", "spikes.templates*.npy"] = some "spike_templates.npy" ∧
    findPath names7 ["spike_clusters.npy"] = some "spike_clusters.npy" ∧
    findPath names7 ["spikes.clusters*.npy"] = none ∧
    findPath names7 ["spike_clusters.npy", "spikes.clusters*.npy"] = some "spike_clusters.npy" ∧
    findPath names7 ["channel_map.npy", "channels.rawInd*.npy"] = some "channel_map.npy" ∧
    findPath names7 ["channel_positions.npy", "channels.localCoordinates*.npy"] = some "channel_positions.npy" ∧
    findPath names7 ["channel_shanks.npy", "channels.shanks*.npy"] = none ∧
    findPath names7 ["channel_probe.npy", "channels.probes*.npy"] = some "channel_probe.npy" ∧
    findPath names7 ["templates.npy", "templates.waveforms.npy", "templates.waveforms.*.npy"] = none ∧
    findPath names7 ["whitening_mat.npy"] = none ∧
    findPath names7 ["whitening_mat_inv.npy"] = none ∧
    findPath (names7 ++ [("whitening_mat_inv.npy", ⟨[], []⟩)]) ["similar_templates.npy"] = none := by
  decide +kernel

theorem load_dir7 (inv : Arr → Arr) (a1 a2 a3 a4 a5 a6 a7 : Arr)
    (hm : monotone (scrub a1).data = true) :
    load inv (dir7 a1 a2 a3 a4 a5 a6 a7) = .ok
      ({ times := .samplesOverRate (squeeze (scrub a1)), samples := .file (squeeze (scrub a1)),
         amplitudes := some (squeeze (scrub a2)), spikeTemplates := squeeze (scrub a4),
         spikeClusters := squeeze (scrub a3), channelMap := atleast 1 (squeeze (scrub a5)),
         channelPositions := atleast 2 (squeeze (scrub a7)), channelShanks := none,
         channelProbes := some (atleast 1 (squeeze (scrub a6))), templates := none,
         templateCols := none, wm := none, wmi := none, similar := none },
       dir7 a1 a2 a3 a4 a5 a6 a7 ++
         [("whitening_mat_inv.npy", inv (eye (.num 1) ((atleast 1 (squeeze (scrub a5))).shape.headD 0)))]) := by
  generalize hd : dir7 a1 a2 a3 a4 a5 a6 a7 = d
  have hl : d.lookup "spike_times.npy" = some a1 ∧ d.lookup "amplitudes.npy" = some a2 ∧
      d.lookup "spike_clusters.npy" = some a3 ∧ d.lookup "spike_templates.npy" = some a4 ∧
      d.lookup "channel_map.npy" = some a5 ∧ d.lookup "channel_probe.npy" = some a6 ∧
      d.lookup "channel_positions.npy" = some a7 := by
    rw [← hd]
    simp only [dir7, List.lookup_cons_self, lookup_cons_ne, ne_eq, String.reduceEq, not_false_eq_true, and_self]
  obtain ⟨l1, l2, l3, l4, l5, l6, l7⟩ := hl
  obtain ⟨h1, h2, h3, h4, h5, h6, h7, h8, h9, h10, h11, h12, h13⟩ := dir7_paths
  have hp (pats : List String) : findPath names7 pats = findPath d pats :=
    findPath_names _ _ (by rw [← hd]; rfl) pats
  rw [hp] at h1 h2 h3 h4 h5 h6 h7 h8 h9 h10 h11 h12
  have h13 (x : Arr) : findPath (d ++ [("whitening_mat_inv.npy", x)]) ["similar_templates.npy"] = none :=
    (findPath_names _ _ (by rw [← hd]; rfl) _).trans h13
  -- The reads are put in by `rw`: `simp` is dear when it reduces a `match` on a found name, a string literal.
  have found {pats : List String} {f : String} {a : Arr} (h : findPath d pats = some f) (hl : d.lookup f = some a) :
      readFile d pats = some a := by rw [readFile, h]; exact hl
  have absent {d : Dir} {pats : List String} (h : findPath d pats = none) : readFile d pats = none := by
    rw [readFile, h]
  have hd1 : C04.Lemmas.d1Of d = d := C04.Lemmas.d1Of_some d _ h5
  refine (C04.Lemmas.load_ok_iff inv d _ _).2 ⟨_, _, a4, a3, a5, a7, ?_, ?_, .inl ⟨a1, l1, rfl, rfl, hm⟩, found h2 l4,
    ?_, .inl ⟨_, h5, l3⟩, hd1.symm ▸ found h6 l5, hd1.symm ▸ found h7 l7⟩
  · rw [hd1, C04.Lemmas.viewOf, C04.Lemmas.wmiStep, found h1 l2, absent h8, found h9 l6, absent h10, absent h11,
      absent h12]
    simp only [Option.map_none, Option.map_some, absent (h13 _)]
  · rw [hd1, C04.Lemmas.wmiStep, absent h11, absent h12]
    rfl
  · rw [h3, h4]
    rfl

theorem monotone_num_of_pairwise :
    ∀ l : List Int, l.Pairwise (· ≤ ·) → monotone (l.map Cell.num) = true
  | [], _ => rfl
  | [_], _ => rfl
  | a :: b :: t, h => by
    have h2 := monotone_num_of_pairwise (b :: t) (List.pairwise_cons.1 h).2
    rw [List.map_cons] at h2
    rw [List.map_cons, List.map_cons, monotone, h2, decide_eq_true ((List.pairwise_cons.1 h).1 b List.mem_cons_self)]
    rfl

theorem scrub_eq_self (a : Arr) (h : ∀ c ∈ a.data, ∃ i, c = Cell.num i) : scrub a = a := by
  cases a with
  | mk s d =>
    simp only [scrub, Arr.mk.injEq, true_and]
    conv => rhs; rw [← List.map_id d]
    apply List.map_congr_left
    intro c hc
    obtain ⟨i, rfl⟩ := h c hc
    rfl

theorem squeeze_vec (n : Nat) (d : List Cell) (h : n ≠ 1) : squeeze ⟨[n], d⟩ = ⟨[n], d⟩ := by
  simp [squeeze, h]

theorem squeeze_pairs (n : Nat) (d : List Cell) (h : n ≠ 1) : squeeze ⟨[n, 2], d⟩ = ⟨[n, 2], d⟩ := by
  simp [squeeze, h]

theorem natVec_load (l : List Nat) (h : l.length ≠ 1) : squeeze (scrub (natVec l)) = natVec l := by
  rw [scrub_eq_self]
  · exact squeeze_vec _ _ h
  · intro c hc
    obtain ⟨n, -, rfl⟩ := List.mem_map.1 hc
    exact ⟨_, rfl⟩

theorem scrub_intVec (l : List Int) : scrub (intVec l) = intVec l := by
  apply scrub_eq_self
  intro c hc
  obtain ⟨n, -, rfl⟩ := List.mem_map.1 hc
  exact ⟨_, rfl⟩

theorem intVec_load (l : List Int) (h : l.length ≠ 1) : squeeze (scrub (intVec l)) = intVec l := by
  rw [scrub_intVec]
  exact squeeze_vec _ _ h

theorem posArr_load (l : List (Int × Int)) (h : l.length ≠ 1) :
    squeeze (scrub (posArr l)) = posArr l := by
  rw [scrub_eq_self]
  · exact squeeze_pairs _ _ h
  · intro c hc
    obtain ⟨r, hr, hcr⟩ := List.mem_flatten.1 hc
    obtain ⟨xy, -, rfl⟩ := List.mem_map.1 hr
    simp only [List.mem_cons, List.not_mem_nil, or_false] at hcr
    rcases hcr with rfl | rfl <;> exact ⟨_, rfl⟩

theorem merged_dataset_loads (inv : Arr → Arr) (p : Probes) (h : ProbesOK p) :
    ∃ v d', load inv (mergedDir p) = .ok (v, d') ∧
      v.samples = .file (intVec (mergedTimes p.times)) ∧
      v.amplitudes = some (intVec (gather p.amps (spikeOrder p.times))) ∧
      v.spikeClusters = natVec (mergedIds p.times p.clusters) ∧
      v.spikeTemplates = natVec (mergedTemplateIds p.times p.templates p.ntemplates) ∧
      v.channelMap = natVec (C12.mergeChannelMaps p.maps) ∧
      v.channelProbes = some (natVec (C12.channelProbes p.maps)) ∧
      v.channelPositions = posArr (C12.mergePositions p.positions) := by
  obtain ⟨hn, hnt, hamps, hcl, htm, hc, hpos⟩ := h
  -- no merged array has length 1, so `squeeze` leaves every shape alone
  have hg {α : Type} (arrays : List (List α)) (hl : arrays.flatten.length = p.times.flatten.length) :
      (gather arrays (spikeOrder p.times)).length ≠ 1 := by
    rw [gather_length _ _ hl]; omega
  have hm : monotone (scrub (intVec (mergedTimes p.times))).data = true := by
    rw [scrub_intVec]; exact monotone_num_of_pairwise _ (merged_sorted p.times)
  refine ⟨_, _, load_dir7 inv _ _ _ _ _ _ _ hm, ?_, ?_, ?_, ?_, ?_, ?_, ?_⟩
  · exact congrArg SampleSrc.file (intVec_load _ (hg _ rfl))
  · exact congrArg some (intVec_load _ (hg _ (Np.Lemmas.flatten_length_of_shape _ _ hamps)))
  · exact natVec_load _ (hg _ ((shiftIds_flatten_length _).trans (Np.Lemmas.flatten_length_of_shape _ _ hcl)))
  · exact natVec_load _ (hg _ ((shiftBy_flatten_length _ _
      (templateOffsets_length _ _ (hnt.trans (by simpa using congrArg List.length htm.symm)))).trans
      (Np.Lemmas.flatten_length_of_shape _ _ htm)))
  · show atleast 1 (squeeze (scrub (natVec _))) = _
    rw [natVec_load _ (by rw [C12.Lemmas.mergeChannelMaps_length, ← List.length_flatten]; omega)]; rfl
  · show some (atleast 1 (squeeze (scrub (natVec _)))) = _
    rw [natVec_load _ (by rw [C12.Lemmas.channelProbes_length, ← List.length_flatten]; omega)]; rfl
  · show atleast 2 (squeeze (scrub (posArr _))) = _
    rw [posArr_load _ (by
      rw [C12.Lemmas.mergePositions_length, Np.Lemmas.flatten_length_of_shape _ _ hpos]; omega)]; rfl

end PhyVerif.C11.Lemmas
