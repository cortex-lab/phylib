import PhyVerif.Lemmas.C07
/-! Further lemmas for C07: the groups are increasing exactly when the supplied spike ids are
increasing inside every cluster, and the groups of supplied ids partition the supplied ids.
Statements: `Props/C07.lean`. -/
namespace PhyVerif.C07.Lemmas
open PhyVerif PhyVerif.C07

theorem members_pairwise_iff (sc l : List Nat) (c : Nat) :
    (members sc (some l) c).Pairwise (· < ·) ↔
      ∀ i j, i < j → j < sc.length → sc.getD i 0 = c → sc.getD j 0 = c →
        l.getD i 0 < l.getD j 0 := by
  rw [members_some, List.pairwise_map, positions, List.pairwise_filter, pairwise_range_iff]
  simp only [beq_iff_eq]

theorem forall_mem_specGroups (sc : List Nat) (ids : Option (List Nat))
    (P : Nat × List Nat → Prop) :
    (∀ p ∈ specGroups sc ids, P p) ↔ ∀ c ∈ sc, P (c, members sc ids c) := by
  simp only [specGroups, List.forall_mem_map, (distinctSorted_spec sc).2]

theorem groups_increasing_iff (w : Nat) (signed : Bool) (sc : List Nat) (ids : Option (List Nat))
    (hw : 0 < w) (hfit : FitsDtype w signed sc)
    (hids : ∀ l, ids = some l → l.length = sc.length) :
    (∀ p ∈ spikesPerCluster w signed sc ids, p.2.Pairwise (· < ·)) ↔
      ∀ l, ids = some l → ∀ i j, i < j → j < sc.length → sc.getD i 0 = sc.getD j 0 →
        l.getD i 0 < l.getD j 0 := by
  rw [spikesPerCluster_eq w signed sc ids hw hfit, forall_mem_specGroups]
  cases ids with
  | none =>
    refine iff_of_true (fun c _ => ?_) nofun
    rw [members_none]
    exact List.Pairwise.filter _ List.pairwise_lt_range
  | some l =>
    simp only [members_pairwise_iff]
    constructor
    · rintro h _ ⟨⟩ i j hij hj hsc
      exact h _ (Np.Lemmas.getD_mem sc j 0 hj) i j hij hj hsc rfl
    · intro h c _ i j hij hj hi hjc
      exact h l rfl i j hij hj (hi.trans hjc.symm)

theorem groups_increasing (w : Nat) (signed : Bool) (sc : List Nat) (ids : Option (List Nat))
    (hw : 0 < w) (hfit : FitsDtype w signed sc)
    (hids : ∀ l, ids = some l → l.length = sc.length ∧ l.Pairwise (· < ·)) :
    ∀ p ∈ spikesPerCluster w signed sc ids, p.2.Pairwise (· < ·) := by
  refine (groups_increasing_iff w signed sc ids hw hfit fun l hl => (hids l hl).1).2 ?_
  intro l hl i j hij hj _
  obtain ⟨hlen, hpw⟩ := hids l hl
  have hj' : j < l.length := hlen ▸ hj
  rw [← List.getElem_eq_getD (h := Nat.lt_trans hij hj') 0, ← List.getElem_eq_getD (h := hj') 0]
  exact List.pairwise_iff_getElem.1 hpw i j _ hj' hij

theorem groups_partition_ids (sc l : List Nat) (hlen : l.length = sc.length) :
    ((specGroups sc (some l)).map (·.1)).Pairwise (· < ·) ∧
    ((specGroups sc (some l)).map (·.2)).flatten.Perm l := by
  have h := Np.Lemmas.map_getD_range l 0
  rw [hlen] at h
  exact ⟨specGroups_keys_pairwise sc (some l), (groups_perm sc (some l)).trans (.of_eq h)⟩

end PhyVerif.C07.Lemmas
