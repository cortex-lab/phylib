import PhyVerif.Lemmas.C09c
import PhyVerif.Lemmas.C14b
/-! The three amplitude files of `exportAmpFiles` (Model/C14: spikes.amps, templates.amps, clusters.amps) entry by entry
in terms of the STORED arrays and the unit factor; composition of C09 `spikeAmpUnit_eq` / `ampsVUnit_eq_mean`. -/
namespace PhyVerif.C14.Lemmas
open PhyVerif PhyVerif.C09 PhyVerif.C14

/-- a mean over the member spikes of `t` of values that are, ON THE MEMBERS, the stored values times one constant -/
theorem meanOver_members_const (s : List Nat) (w a : List Rat) (K : Rat) (t : Nat)
    (h : ∀ i, i < s.length → s.getD i 0 = t → w.getD i 0 = a.getD i 0 * K) :
    meanOver s w t = (meanOver s a t).map (· * K) := by
  -- the mean reads `w` at the members only, where it is `a.map (· * K)`
  rw [← C09.Lemmas.meanOver_scale]
  unfold meanOver
  have hm : ((membersOf s t).map fun i => w.getD i 0) = (membersOf s t).map fun i => (a.map (· * K)).getD i 0 := by
    apply List.map_congr_left
    intro i hi
    obtain ⟨h1, h2⟩ := List.mem_filter.1 hi
    rw [C09.Lemmas.getD_map_mul]
    exact h i (List.mem_range.1 h1) (beq_iff_eq.1 h2)
  simp only [hm]

/-- third return value of `get_amplitudes_true`, entry by entry, on the stored arrays -/
theorem ampsVUnit_entry (d : Data) (f : Rat) (ha : d.amplitudes.length = d.spikes.length) (t : Nat)
    (ht : t < d.wfsW.length) :
    (ampsVUnit d f).getD t none =
      (meanOver d.spikes d.amplitudes t).map
        (· * (listMax (chAmps (matMul (d.wfsW.getD t []) d.wmi)) * f)) := by
  rw [(C09.Lemmas.ampsVUnit_eq_mean d f ha t ht).1]
  apply meanOver_members_const
  intro i hi hit
  rw [(C09.Lemmas.spikeAmpUnit_eq d f i hi ha (by rw [hit]; exact ht)).1, hit]
  ring

theorem amp_files_entries (dT dC : Data) (f : Rat) (indsT indsC : List (List Nat))
    (haT : dT.amplitudes.length = dT.spikes.length) (haC : dC.amplitudes.length = dC.spikes.length)
    (hsT : ∀ s ∈ dT.spikes, s < dT.wfsW.length) (_hsC : ∀ s ∈ dC.spikes, s < dC.wfsW.length) :
    (∀ i, i < dT.spikes.length →
      (exportAmpFiles dT dC f indsT indsC).spikesAmps.getD i 0 =
        dT.amplitudes.getD i 0 * listMax (chAmps (matMul (dT.wfsW.getD (dT.spikes.getD i 0) []) dT.wmi)) * f) ∧
    (∀ t, t < dT.wfsW.length →
      (exportAmpFiles dT dC f indsT indsC).templatesAmps.getD t none =
        (meanOver dT.spikes dT.amplitudes t).map
          (· * (listMax (chAmps (matMul (dT.wfsW.getD t []) dT.wmi)) * f)) ∧
      ((exportAmpFiles dT dC f indsT indsC).templatesAmps.getD t none = none ↔ t ∉ dT.spikes)) ∧
    (∀ c, c < dC.wfsW.length →
      (exportAmpFiles dT dC f indsT indsC).clustersAmps.getD c none =
        (meanOver dC.spikes dC.amplitudes c).map
          (· * (listMax (chAmps (matMul (dC.wfsW.getD c []) dC.wmi)) * f)) ∧
      ((exportAmpFiles dT dC f indsT indsC).clustersAmps.getD c none = none ↔ c ∉ dC.spikes)) ∧
    (exportAmpFiles dT dC f indsT indsC).spikesAmps.length = dT.spikes.length ∧
    (exportAmpFiles dT dC f indsT indsC).templatesAmps.length = dT.wfsW.length ∧
    (exportAmpFiles dT dC f indsT indsC).clustersAmps.length = dC.wfsW.length := by
  simp only [exportAmpFiles, amplitudesTrue]
  exact ⟨fun i hi => (C09.Lemmas.spikeAmpUnit_eq dT f i hi haT (hsT _ (Np.Lemmas.getD_mem dT.spikes i 0 hi))).1,
    fun t ht => ⟨ampsVUnit_entry dT f haT t ht, C09.Lemmas.ampsVUnit_none_iff dT f haT t ht⟩,
    fun c hc => ⟨ampsVUnit_entry dC f haC c hc, C09.Lemmas.ampsVUnit_none_iff dC f haC c hc⟩,
    (List.length_map _).trans (C09.Lemmas.spikeAmps_length dT haT),
    C09.Lemmas.ampsVUnit_length dT f, C09.Lemmas.ampsVUnit_length dC f⟩

end PhyVerif.C14.Lemmas
