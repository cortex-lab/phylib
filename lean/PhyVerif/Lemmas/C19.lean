import PhyVerif.Model.C19
import PhyVerif.Spec.C19
/-! The emitter and the reporter of `Model/C19.lean` against the history-based specifications of `Spec/C19.lean`.

The emitter is simulated twice, independently.  `Inv` reads the silence flag off `depthFlag`; it is kept only by
`WellNested` histories (`set_silent` outside contexts) and gives `emit_outcomes` and `silent_restores`.  `InvG` reads
it off the history backwards (`silentBack`), is kept by every history Python can produce (`ExitsMatched`) and gives
the `_any_nesting` theorems.  What an operation does to the registrations (`regStep`) is common to both. -/
namespace PhyVerif.C19.Lemmas
open PhyVerif PhyVerif.C19

theorem getOnName_on (e : String) (hne : e ≠ "") (hnl : e.toList.all (· != '\n') = true) :
    getOnName ("on_" ++ e) = some e := by
  have h : ("on_" ++ e).toList = 'o' :: 'n' :: '_' :: e.toList := by
    rw [String.toList_append]; rfl
  have hx : e.toList ≠ [] := fun h0 => hne (String.toList_eq_nil_iff.mp h0)
  have ht := List.takeWhile_append_of_pos (l₂ := []) (List.all_eq_true.1 hnl)
  have hd := List.dropWhile_append_of_pos (l₂ := []) (List.all_eq_true.1 hnl)
  rw [List.append_nil] at ht hd
  rw [getOnName, h]
  simp only [ht, hd, List.takeWhile_nil, List.dropWhile_nil, List.append_nil, List.isEmpty_iff, hx, if_false,
    List.isEmpty_nil, Bool.true_or, if_true, String.ofList_toList]

theorem connect_name_shape (f e : String) (h : getOnName f = some e) :
    e ≠ "" ∧ ∃ rest, f.toList = 'o' :: 'n' :: '_' :: (e.toList ++ rest) ∧ (rest = [] ∨ rest = ['\n']) := by
  unfold getOnName at h
  split at h
  next body hb =>
    simp only at h
    split at h
    · cases h
    next hx =>
      split at h
      next hr =>
        cases h
        refine ⟨fun h0 => hx ?_, _,
          by rw [hb, String.toList_ofList, List.takeWhile_append_dropWhile], by simpa using hr⟩
        rw [← String.toList_ofList (l := body.takeWhile _), h0]
        rfl
      · cases h
  · cases h

theorem connectCb_raises (r : ConnReq) (h : r.event = none) (hf : getOnName r.fname = none) :
    connectCb r = none := by
  simp [connectCb, h, hf]

theorem connectCb_id (r : ConnReq) (c : Cb) (h : connectCb r = some c) : c.id = r.id := by
  unfold connectCb at h
  split at h
  · injection h with h; rw [← h]
  · split at h
    · injection h with h; rw [← h]
    · cases h

theorem silenced_emit_none (result : Call → Nat) (st : EState) (e : String) (s : Nat) (a : List Nat)
    (kw : Kwargs) (h : st.silent = true) :
    emit result st e s a kw = ⟨[], .none⟩ := by
  simp [emit, h]

/-- the test `emitLoop` and `shouldCall` both make on a registration, under one name -/
def matchesEv (e : String) (s : Nat) (c : Cb) : Bool :=
  c.event == e && (match c.sender with | none => true | some x => x == s)

theorem emitLoop_cons (result : Call → Nat) (e : String) (s : Nat) (a : List Nat) (kw : Kwargs)
    (single : Bool) (c : Cb) (cs : List Cb) (calls : List Call) (res : List Nat) :
    emitLoop result e s a kw single (c :: cs) calls res =
      (if matchesEv e s c then
        (if single then ⟨calls ++ [⟨c.id, s, a, kw⟩], .one (result ⟨c.id, s, a, kw⟩)⟩
         else emitLoop result e s a kw single cs (calls ++ [⟨c.id, s, a, kw⟩]) (res ++ [result ⟨c.id, s, a, kw⟩]))
      else emitLoop result e s a kw single cs calls res) :=
  rfl

def callsOf (e : String) (s : Nat) (a : List Nat) (kw : Kwargs) (l : List Cb) : List Call :=
  ((l.filter (matchesEv e s)).map (·.id)).map fun i => (⟨i, s, a, kw⟩ : Call)

theorem callsOf_cons (e : String) (s : Nat) (a : List Nat) (kw : Kwargs) (c : Cb) (l : List Cb) :
    callsOf e s a kw (c :: l) =
      if matchesEv e s c then ⟨c.id, s, a, kw⟩ :: callsOf e s a kw l else callsOf e s a kw l := by
  unfold callsOf
  by_cases h : matchesEv e s c = true <;> simp [h]

theorem emitLoop_eq (result : Call → Nat) (e : String) (s : Nat) (a : List Nat) (kw : Kwargs)
    (single : Bool) (l : List Cb) (calls : List Call) (res : List Nat) :
    emitLoop result e s a kw single l calls res =
      (if single then
        match callsOf e s a kw l with
        | [] => ⟨calls, .list res⟩
        | c :: _ => ⟨calls ++ [c], .one (result c)⟩
      else ⟨calls ++ callsOf e s a kw l, .list (res ++ (callsOf e s a kw l).map result)⟩) := by
  induction l generalizing calls res with
  | nil => cases single <;> simp [emitLoop, callsOf]
  | cons c cs ih =>
    rw [emitLoop_cons, callsOf_cons]
    by_cases hm : matchesEv e s c = true
    · rw [if_pos hm, if_pos hm]
      cases single
      · simp [ih]
      · simp
    · rw [if_neg hm, if_neg hm, ih]

theorem filter_reorder (p : Cb → Bool) (l : List Cb) :
    (l.filter (fun c => !c.last) ++ l.filter (fun c => c.last)).filter p =
      (l.filter p).filter (fun c => !c.last) ++ (l.filter p).filter (fun c => c.last) := by
  simp only [List.filter_append, List.filter_filter, Bool.and_comm]

/-- where the model's `popSingle` meets the specification's two readings of the keyword arguments -/
theorem popSingle_eq (kw : Kwargs) : popSingle kw = (wantsSingle kw, forwarded kw) := rfl

theorem emit_eq_spec (result : Call → Nat) (st : EState) (e : String) (s : Nat) (a : List Nat)
    (kw : Kwargs) (h : st.silent = false) :
    emit result st e s a kw = emitSpec result st.cbs e s a kw := by
  have hs : callsOf e s a (forwarded kw)
      (st.cbs.filter (fun c => !c.last) ++ st.cbs.filter (fun c => c.last)) =
      (shouldCall st.cbs e s).map fun i => (⟨i, s, a, forwarded kw⟩ : Call) := by
    rw [callsOf, filter_reorder]; rfl
  rw [emit, if_neg (h ▸ Bool.false_ne_true), popSingle_eq, emitLoop_eq, hs, emitSpec]
  cases wantsSingle kw
  · rfl
  · generalize (shouldCall st.cbs e s).map _ = cl
    cases cl <;> rfl

theorem emit_eq (result : Call → Nat) (st : EState) (e : String) (s : Nat) (a : List Nat) (kw : Kwargs) :
    emit result st e s a kw =
      if st.silent then ⟨[], .none⟩ else emitSpec result st.cbs e s a kw := by
  cases h : st.silent
  · exact emit_eq_spec result st e s a kw h
  · exact silenced_emit_none result st e s a kw h

theorem emit_args_through (result : Call → Nat) (st : EState) (e : String) (s : Nat) (a : List Nat)
    (kw : Kwargs) :
    ∀ c ∈ (emit result st e s a kw).calls, c.sender = s ∧ c.args = a ∧ c.kwargs = forwarded kw := by
  intro c hc
  rw [emit_eq] at hc
  split at hc
  · cases hc
  · unfold emitSpec at hc
    generalize shouldCall st.cbs e s = ids at hc
    have : c ∈ ids.map fun i => (⟨i, s, a, forwarded kw⟩ : Call) := by
      split at hc
      · cases ids with
        | nil => cases hc
        | cons i _ => exact List.mem_cons.2 (.inl (List.mem_singleton.1 hc))
      · exact hc
    obtain ⟨i, _, rfl⟩ := List.mem_map.1 this
    exact ⟨rfl, rfl, rfl⟩

theorem emit_results_in_call_order (result : Call → Nat) (st : EState) (e : String) (s : Nat)
    (a : List Nat) (kw : Kwargs) (h : st.silent = false) :
    (wantsSingle kw = false → (emit result st e s a kw).ret = .list ((emit result st e s a kw).calls.map result)) ∧
    (wantsSingle kw = true →
      ((emit result st e s a kw).calls = [] ∧ (emit result st e s a kw).ret = .list []) ∨
      (∃ c, (emit result st e s a kw).calls = [c] ∧ (emit result st e s a kw).ret = .one (result c))) := by
  rw [emit_eq_spec _ _ _ _ _ _ h, emitSpec]
  generalize (shouldCall st.cbs e s).map _ = cl
  refine ⟨fun hw => ?_, fun hw => ?_⟩ <;> rw [hw]
  · rfl
  · cases cl with
    | nil => exact .inl ⟨rfl, rfl⟩
    | cons c _ => exact .inr ⟨c, rfl, rfl⟩

def regStep (acc : List Cb) : EOp → List Cb
  | .connect r => (match connectCb r with | some c => acc ++ [c] | none => acc)
  | .unconnect items => acc.filter (keeps items)
  | .reset => []
  | _ => acc

theorem registered_eq (ops : List EOp) : registered ops = ops.foldl regStep [] := by
  cases ops <;> rfl

theorem registered_snoc (pre : List EOp) (op : EOp) :
    registered (pre ++ [op]) = regStep (registered pre) op := by
  rw [registered_eq, registered_eq, List.foldl_append]; rfl

def depthStep (df : Nat × Bool) : EOp → Nat × Bool
  | .enterSilent => (df.1 + 1, df.2)
  | .exitSilent => (df.1 - 1, df.2)
  | .setSilent b => (df.1, b)
  | _ => df

theorem depthFlag_snoc (pre : List EOp) (op : EOp) :
    depthFlag (pre ++ [op]) = depthStep (depthFlag pre) op := by
  unfold depthFlag
  rw [List.foldl_append]; rfl

theorem estep_connect (result : Call → Nat) (st : EState) (r : ConnReq) :
    estep result st (.connect r) = ({ st with cbs := regStep st.cbs (.connect r) }, none) := by
  simp only [estep, regStep]
  cases connectCb r <;> rfl

theorem estep_cbs (result : Call → Nat) (st : EState) (op : EOp) :
    (estep result st op).1.cbs = regStep st.cbs op := by
  cases op with
  | connect r => rw [estep_connect]
  | exitSilent => simp only [estep]; cases st.saved <;> rfl
  | _ => rfl

/-- one step of `erun`, with the outcome of an emit in the form the specifications have -/
theorem erun_cons (result : Call → Nat) (st : EState) (op : EOp) (ops : List EOp) :
    erun result st (op :: ops) =
      (match op with
        | .emit e s a kw => [if st.silent then ⟨[], .none⟩ else emitSpec result st.cbs e s a kw]
        | _ => []) ++ erun result (estep result st op).1 ops := by
  cases op with
  | connect r => rw [erun, estep_connect]; rfl
  | exitSilent => simp only [erun, estep]; cases st.saved <;> rfl
  | emit e s a kw => exact congrArg (· :: _) (emit_eq result st e s a kw)
  | _ => rfl

/-- The values saved by `d` nested `silent()` frames (innermost first) when `set_silent` is not used inside a
context: the frame entered at depth `n` saved the flag of that moment, `true` inside a context and outside the flag
`f` of the last `set_silent`, which is still the present one. -/
def savedOf : Nat → Bool → List Bool
  | 0, _ => []
  | n + 1, f => (decide (n > 0) || f) :: savedOf n f

structure Inv (pre : List EOp) (st : EState) : Prop where
  cbs : st.cbs = registered pre
  saved : st.saved = savedOf (depthFlag pre).1 (depthFlag pre).2
  silent : st.silent = (decide ((depthFlag pre).1 > 0) || (depthFlag pre).2)

theorem inv_init : Inv [] EState.init := ⟨rfl, rfl, rfl⟩

/-- the silence part of `Inv` through one operation, with depth and flag `df` as variables -/
theorem estep_nested (result : Call → Nat) {st : EState} {df : Nat × Bool} (op : EOp) (ops : List EOp)
    (hsl : st.silent = (decide (df.1 > 0) || df.2)) (hsv : st.saved = savedOf df.1 df.2)
    (hw : WellNested (op :: ops) df.1) :
    (estep result st op).1.silent = (decide ((depthStep df op).1 > 0) || (depthStep df op).2) ∧
    (estep result st op).1.saved = savedOf (depthStep df op).1 (depthStep df op).2 ∧
    WellNested ops (depthStep df op).1 := by
  obtain ⟨c, sl, sv⟩ := st
  obtain ⟨d, f⟩ := df
  simp only at hsl hsv
  subst hsl hsv
  cases op with
  | connect r => rw [estep_connect]; exact ⟨rfl, rfl, hw⟩
  | setSilent b => obtain ⟨rfl, hw⟩ := hw; exact ⟨rfl, rfl, hw⟩
  -- the new frame saves the present flag, the head of `savedOf (d + 1) f`
  | enterSilent => exact ⟨rfl, rfl, hw⟩
  | exitSilent =>
    obtain ⟨hpos, hw⟩ := hw
    cases d with
    | zero => cases hpos
    | succ n => exact ⟨rfl, rfl, hw⟩
  | _ => exact ⟨rfl, rfl, hw⟩

theorem erun_nested (result : Call → Nat) (ops : List EOp) : ∀ (pre : List EOp) (st : EState),
    Inv pre st → WellNested ops (depthFlag pre).1 →
    erun result st ops = emitsSpec result pre ops ∧ Inv (pre ++ ops) (erunState result st ops) := by
  induction ops with
  | nil => intro pre st hi _; exact ⟨rfl, by rwa [List.append_nil]⟩
  | cons op ops ih =>
    intro pre st hi hw
    obtain ⟨hsl, hsv, hw'⟩ := estep_nested result op ops hi.silent hi.saved hw
    rw [← depthFlag_snoc] at hsl hsv hw'
    obtain ⟨h1, h2⟩ := ih (pre ++ [op]) _ ⟨by rw [estep_cbs, hi.cbs, registered_snoc], hsv, hsl⟩ hw'
    rw [List.append_assoc] at h2
    refine ⟨?_, h2⟩
    rw [erun_cons, h1, hi.silent, hi.cbs]
    cases op <;> rfl

theorem emit_outcomes (result : Call → Nat) (ops : List EOp) (h : WellNested ops 0) :
    erun result EState.init ops = emitsSpec result [] ops :=
  (erun_nested result ops [] _ inv_init h).1

theorem silent_restores (result : Call → Nat) (ops : List EOp) (h : WellNested ops 0) :
    (erunState result EState.init ops).silent = (decide ((depthFlag ops).1 > 0) || (depthFlag ops).2) :=
  (erun_nested result ops [] _ inv_init h).2.silent

/-- the values held by the open `silent()` frames (innermost first), read off the history backwards
in the same way as `silentBack` -/
def savedBack : List EOp → Nat → List Bool
  | [], _ => []
  | op :: r, 0 =>
    match op with
    | .enterSilent => silentBack r 0 :: savedBack r 0
    | .exitSilent => savedBack r 1
    | _ => savedBack r 0
  | op :: r, k + 1 =>
    match op with
    | .enterSilent => savedBack r k
    | .exitSilent => savedBack r (k + 2)
    | _ => savedBack r (k + 1)

/-- leaving the innermost open context: the flag becomes the value that frame saved.  Apart from the
enter that opened the frame, every operation moves both readings one step back in the same way. -/
theorem savedBack_pop : ∀ (r : List EOp) (k : Nat) (b : Bool) (rest : List Bool),
    savedBack r k = b :: rest → silentBack r (k + 1) = b ∧ savedBack r (k + 1) = rest
  | [], _, _, _, h => nomatch h
  | op :: r, 0, b, rest, h => by
    cases op with
    | enterSilent => exact List.cons.inj h
    | exitSilent => exact savedBack_pop r 1 b rest h
    | _ => exact savedBack_pop r 0 b rest h
  | op :: r, k + 1, b, rest, h => by
    cases op with
    | enterSilent => exact savedBack_pop r k b rest h
    | exitSilent => exact savedBack_pop r (k + 2) b rest h
    | _ => exact savedBack_pop r (k + 1) b rest h

/-- `len`: an exit must find a frame, and `ExitsMatched` speaks of the depth, not of `savedBack`. -/
structure InvG (pre : List EOp) (st : EState) : Prop where
  cbs : st.cbs = registered pre
  silent : st.silent = silentBack pre.reverse 0
  saved : st.saved = savedBack pre.reverse 0
  len : st.saved.length = (depthFlag pre).1

theorem invG_init : InvG [] EState.init := ⟨rfl, rfl, rfl, rfl⟩

/-- the silence part of `InvG` through one operation, with the reversed history `r` and the depth as
variables -/
theorem estep_back (result : Call → Nat) {st : EState} {r : List EOp} {df : Nat × Bool} (op : EOp)
    (ops : List EOp) (hsl : st.silent = silentBack r 0) (hsv : st.saved = savedBack r 0)
    (hlen : st.saved.length = df.1) (hw : ExitsMatched (op :: ops) df.1) :
    (estep result st op).1.silent = silentBack (op :: r) 0 ∧
    (estep result st op).1.saved = savedBack (op :: r) 0 ∧
    (estep result st op).1.saved.length = (depthStep df op).1 ∧
    ExitsMatched ops (depthStep df op).1 := by
  obtain ⟨c, sl, sv⟩ := st
  simp only at hsl hsv hlen
  subst hsl hsv
  cases op with
  | connect c => rw [estep_connect]; exact ⟨rfl, rfl, hlen, hw⟩
  | enterSilent => exact ⟨rfl, rfl, congrArg (· + 1) hlen, hw⟩
  | exitSilent =>
    obtain ⟨hpos, hw⟩ := hw
    cases hs : savedBack r 0 with
    | nil => rw [hs] at hlen; exact absurd hlen (Nat.ne_of_lt hpos)
    | cons b rest =>
      obtain ⟨h1, h2⟩ := savedBack_pop r 0 b rest hs
      rw [hs] at hlen
      simp only [estep]
      exact ⟨h1.symm, h2.symm, congrArg (· - 1) hlen, hw⟩
  | _ => exact ⟨rfl, rfl, hlen, hw⟩

theorem erun_back (result : Call → Nat) (ops : List EOp) : ∀ (pre : List EOp) (st : EState),
    InvG pre st → ExitsMatched ops (depthFlag pre).1 →
    erun result st ops = emitsSpecG result pre ops ∧ InvG (pre ++ ops) (erunState result st ops) := by
  induction ops with
  | nil => intro pre st hi _; exact ⟨rfl, by rwa [List.append_nil]⟩
  | cons op ops ih =>
    intro pre st hi hw
    obtain ⟨hsl, hsv, hlen, hw'⟩ := estep_back result op ops hi.silent hi.saved hi.len hw
    rw [← depthFlag_snoc] at hlen hw'
    have hrev : (pre ++ [op]).reverse = op :: pre.reverse := List.reverse_append
    obtain ⟨h1, h2⟩ :=
      ih (pre ++ [op]) _ ⟨by rw [estep_cbs, hi.cbs, registered_snoc], hrev ▸ hsl, hrev ▸ hsv, hlen⟩ hw'
    rw [List.append_assoc] at h2
    refine ⟨?_, h2⟩
    rw [erun_cons, h1, hi.silent, hi.cbs]
    cases op <;> rfl

theorem emit_outcomes_any_nesting (result : Call → Nat) (ops : List EOp) (h : ExitsMatched ops 0) :
    erun result EState.init ops = emitsSpecG result [] ops :=
  (erun_back result ops [] _ invG_init h).1

theorem silent_flag_any_nesting (result : Call → Nat) (ops : List EOp) (h : ExitsMatched ops 0) :
    (erunState result EState.init ops).silent = silencedAfter ops :=
  (erun_back result ops [] _ invG_init h).2.silent

theorem setValue_eq (st : RState) (v : Int) :
    setValue st v = (⟨v, st.max, decide (st.max ≤ v)⟩,
      ⟨some (v, st.max), decide (st.max ≤ v) && !st.completed⟩) := by
  unfold setValue
  by_cases h : v < st.max
  · simp [h, Int.not_le.mpr h]
  · cases st.completed <;> simp [h, Int.not_lt.mp h]

/-- The reporter's invariant is that the completion flag is `announcedSince` of the steps observed so far (`before`,
most recent first).  A value update keeps it and announces as `shouldAnnounce` says. -/
theorem setValue_obs (st : RState) (v : Int) (before : List RObs)
    (hinv : st.completed = announcedSince before) :
    let o : RObs := { valueUpdate := true, valueSet := true, value := v, maxBefore := st.max, max := st.max,
                      announced := (setValue st v).2.complete }
    (o.announced == shouldAnnounce before true v st.max) = true ∧
      (setValue st v).1.completed = announcedSince (o :: before) := by
  rw [setValue_eq]
  simp only [shouldAnnounce, announcedSince, ← hinv]
  by_cases h : st.max ≤ v
  · cases st.completed <;> simp [h, Int.not_lt.mpr h]
  · simp [h]

theorem rstep_obs (st : RState) (op : ROp) (before : List RObs) (hinv : st.completed = announcedSince before) :
    let o := obsOf (st, op, rstep st op)
    (o.announced == shouldAnnounce before o.valueUpdate o.value o.maxBefore) = true ∧
      (rstep st op).1.completed = announcedSince (o :: before) := by
  obtain ⟨x, mx, c⟩ := st
  subst hinv
  cases op with
  | setMax m => exact ⟨rfl, by simp [obsOf, rstep, announcedSince]⟩
  | reset m => exact ⟨rfl, rfl⟩
  | _ => exact setValue_obs _ _ before rfl

theorem announceOK_run (ops : List ROp) : ∀ (st : RState) (before : List RObs),
    st.completed = announcedSince before →
    announceOK before ((rrun st ops).map obsOf) = true := by
  induction ops with
  | nil => intros; rfl
  | cons op ops ih =>
    intro st before hinv
    obtain ⟨h1, h2⟩ := rstep_obs st op before hinv
    exact Bool.and_eq_true _ _ ▸ ⟨h1, ih _ _ h2⟩

theorem reporter_announce_ok (ops : List ROp) :
    announceOK [] ((rrun RState.init ops).map obsOf) = true :=
  announceOK_run ops RState.init [] rfl

end PhyVerif.C19.Lemmas
