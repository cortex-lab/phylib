import PhyVerif.Model.C13c
/-! Directories as finite maps (`FDir`, `Model/C13c.lean`): lookups after `write` / `remove`, a sequence of writes (`writeAll`),
and `mapFirst`. Nothing here knows about the export. -/
namespace PhyVerif.C13.Lemmas
open PhyVerif PhyVerif.C13

theorem lookup_cons (x : Name × Entry) (d : FDir) (k : Name) :
    FDir.lookup (x :: d) k = if k = x.1 then some x.2 else FDir.lookup d k := by
  rw [FDir.lookup, List.find?_cons]
  by_cases h : k = x.1
  · rw [if_pos h, h, beq_self_eq_true]; rfl
  · rw [if_neg h, beq_eq_false_iff_ne.mpr (Ne.symm h)]; rfl

theorem FDir_lookup_eq (d : FDir) (n : Name) : d.lookup n = List.lookup n d := by
  induction d with
  | nil => rfl
  | cons x d ih =>
    rw [lookup_cons, ih, List.lookup_cons]
    by_cases h : n = x.1
    · rw [if_pos h, h, beq_self_eq_true]
    · rw [if_neg h, beq_eq_false_iff_ne.mpr h]

theorem lookup_isSome (d : FDir) (n : Name) : (d.lookup n).isSome = d.has n := by
  rw [FDir.lookup, Option.isSome_map, List.isSome_find?]
  rfl

theorem has_eq_true {d : FDir} {n : Name} : d.has n = true ↔ ∃ e, (n, e) ∈ d := by
  simp only [FDir.has, List.any_eq_true, beq_iff_eq]
  constructor
  · rintro ⟨f, hf, rfl⟩; exact ⟨f.2, hf⟩
  · rintro ⟨e, he⟩; exact ⟨(n, e), he, rfl⟩

theorem lookup_mem {d : FDir} {n : Name} {e : Entry} (h : d.lookup n = some e) : (n, e) ∈ d := by
  induction d with
  | nil => cases h
  | cons x d ih =>
    rw [lookup_cons] at h
    split at h
    · next hx => cases h; exact hx ▸ List.mem_cons_self
    · exact List.mem_cons_of_mem _ (ih h)

theorem lookup_none_of_not_has {d : FDir} {n : Name} (h : d.has n = false) : d.lookup n = none :=
  Option.not_isSome_iff_eq_none.mp (by rw [lookup_isSome, h]; exact Bool.false_ne_true)

theorem lookup_of_mem_nodup {d : FDir} (h : d.keys.Nodup) {n : Name} {e : Entry} (hm : (n, e) ∈ d) :
    d.lookup n = some e := by
  induction d with
  | nil => cases hm
  | cons x d ih =>
    rw [FDir.keys, List.map_cons, List.nodup_cons] at h
    rw [lookup_cons]
    rcases List.mem_cons.mp hm with rfl | h1
    · simp
    · have hx : n ≠ x.1 := fun hxn => h.1 (hxn ▸ List.mem_map.mpr ⟨(n, e), h1, rfl⟩)
      rw [if_neg hx]
      exact ih h.2 h1

theorem has_of_keys {d d' : FDir} (h : d'.keys = d.keys) (k : Name) : d'.has k = d.has k := by
  have hk : ∀ x : FDir, x.has k = x.keys.any (· == k) := fun x => by
    simp [FDir.has, FDir.keys, List.any_map, Function.comp_def]
  rw [hk, hk, h]

theorem lookup_filter_ne (d : FDir) (n k : Name) (h : k ≠ n) :
    FDir.lookup (d.filter (fun f => f.1 != n)) k = d.lookup k := by
  induction d with
  | nil => rfl
  | cons x d ih =>
    rw [List.filter_cons]
    by_cases hx : x.1 = n
    · simp [hx, lookup_cons, ih, h]
    · simp [hx, lookup_cons, ih]

theorem lookup_filter_self (d : FDir) (n : Name) : FDir.lookup (d.filter (fun f => f.1 != n)) n = none := by
  apply lookup_none_of_not_has
  simp [FDir.has, List.any_filter]

theorem lookup_append (d d' : FDir) (k : Name) :
    FDir.lookup (d ++ d') k = (d.lookup k).or (d'.lookup k) := by
  induction d with
  | nil => rfl
  | cons x d ih =>
    rw [List.cons_append, lookup_cons, lookup_cons, ih]
    split <;> rfl

theorem lookup_write (d : FDir) (n k : Name) (e : Entry) :
    (d.write n e).lookup k = if k = n then some e else d.lookup k := by
  rw [FDir.write, lookup_append, lookup_cons]
  split
  · next h => rw [h, lookup_filter_self]; rfl
  · next h => rw [lookup_filter_ne _ _ _ h]; exact Option.or_none

theorem lookup_write_ne (d : FDir) (n k : Name) (e : Entry) (h : k ≠ n) :
    (d.write n e).lookup k = d.lookup k := by
  rw [lookup_write, if_neg h]

theorem lookup_write_self (d : FDir) (n : Name) (e : Entry) : (d.write n e).lookup n = some e := by
  rw [lookup_write, if_pos rfl]

theorem has_write (d : FDir) (n k : Name) (e : Entry) :
    (d.write n e).has k = (k == n || d.has k) := by
  rw [← lookup_isSome, ← lookup_isSome, lookup_write]
  by_cases h : k = n <;> simp [h]

theorem mem_write {d : FDir} {n : Name} {e : Entry} {f : Name × Entry} :
    f ∈ d.write n e ↔ (f ∈ d ∧ f.1 ≠ n) ∨ f = (n, e) := by
  simp [FDir.write, List.mem_filter]

theorem forall_mem_write {P : Name × Entry → Prop} {d : FDir} {n : Name} {e : Entry}
    (hd : ∀ f ∈ d, P f) (hn : P (n, e)) : ∀ f ∈ d.write n e, P f := by
  intro f hf
  rcases mem_write.mp hf with ⟨h1, _⟩ | rfl
  · exact hd f h1
  · exact hn

theorem lookup_remove_ne (d : FDir) (n k : Name) (h : k ≠ n) : (d.remove n).lookup k = d.lookup k :=
  lookup_filter_ne d n k h

theorem lookup_remove_self (d : FDir) (n : Name) : (d.remove n).lookup n = none :=
  lookup_filter_self d n

theorem has_remove_self (d : FDir) (n : Name) : (d.remove n).has n = false := by
  rw [← lookup_isSome, lookup_remove_self]; rfl

theorem write_write (d : FDir) (n : Name) (e e' : Entry) : (d.write n e).write n e' = d.write n e' := by
  simp [FDir.write, List.filter_filter]

theorem keys_write_nodup {d : FDir} (n : Name) (e : Entry) (h : d.keys.Nodup) : (d.write n e).keys.Nodup := by
  simp only [FDir.keys, FDir.write, List.map_append, List.map_cons, List.map_nil] at h ⊢
  rw [List.nodup_append]
  refine ⟨List.Nodup.sublist (List.Sublist.map _ List.filter_sublist) h, by simp, ?_⟩
  intro a ha b hb
  simp only [List.mem_map, List.mem_filter, bne_iff_ne, ne_eq] at ha
  obtain ⟨f, ⟨_, hf⟩, rfl⟩ := ha
  rw [List.mem_singleton.mp hb]
  exact hf

def writeAll (d : FDir) (ws : List (Name × Entry)) : FDir := ws.foldl (fun d w => d.write w.1 w.2) d

theorem writeAll_append (d : FDir) (ws ws' : List (Name × Entry)) :
    writeAll d (ws ++ ws') = writeAll (writeAll d ws) ws' := List.foldl_append

theorem forall_mem_writeAll {P : Name × Entry → Prop} {ws : List (Name × Entry)} :
    ∀ {d : FDir}, (∀ f ∈ d, P f) → (∀ w ∈ ws, P w) → ∀ f ∈ writeAll d ws, P f := by
  induction ws with
  | nil => intro d hd _; exact hd
  | cons w ws ih =>
    intro d hd hw
    exact ih (forall_mem_write hd (hw _ List.mem_cons_self)) fun w' hw' => hw w' (List.mem_cons_of_mem _ hw')

/-- the last write to `k` decides, and without one the file is as before -/
theorem lookup_writeAll (ws : List (Name × Entry)) (k : Name) :
    ∀ d : FDir, (writeAll d ws).lookup k = (FDir.lookup ws.reverse k).or (d.lookup k) := by
  induction ws with
  | nil => intro d; rfl
  | cons w ws ih =>
    intro d
    rw [writeAll, List.foldl_cons, ← writeAll, ih, lookup_write, List.reverse_cons, lookup_append, lookup_cons]
    cases FDir.lookup ws.reverse k
    · split <;> rfl
    · rfl

theorem lookup_writeAll_ne {ws : List (Name × Entry)} {k : Name} (hk : ∀ w ∈ ws, k ≠ w.1) (d : FDir) :
    (writeAll d ws).lookup k = d.lookup k := by
  rw [lookup_writeAll, lookup_none_of_not_has, Option.none_or]
  rw [FDir.has, List.any_eq_false]
  intro w hw
  simpa using Ne.symm (hk w (List.mem_reverse.mp hw))

theorem has_writeAll (d : FDir) (ws : List (Name × Entry)) (k : Name) :
    (writeAll d ws).has k = (FDir.has ws.reverse k || d.has k) := by
  rw [← lookup_isSome, ← lookup_isSome, ← lookup_isSome, lookup_writeAll]
  cases FDir.lookup ws.reverse k <;> rfl

theorem has_writeAll_of_mem {ws : List (Name × Entry)} {k : Name} (hk : k ∈ ws.map (·.1)) (d : FDir) :
    (writeAll d ws).has k = true := by
  obtain ⟨w, hw, rfl⟩ := List.mem_map.mp hk
  rw [has_writeAll, has_eq_true.mpr ⟨w.2, List.mem_reverse.mpr hw⟩, Bool.true_or]

theorem mapFirst_eq_some {p : Name → Bool} {g : Entry → Entry} :
    ∀ {d d' : FDir}, mapFirst p g d = some d' →
      ∃ l x r, d = l ++ x :: r ∧ d' = l ++ (x.1, g x.2) :: r ∧ p x.1 = true ∧ ∀ y ∈ l, p y.1 = false
  | [], _, h => by cases h
  | y :: rest, d', h => by
    rw [mapFirst] at h
    split at h
    · next hp => cases h; exact ⟨[], y, rest, rfl, rfl, hp, nofun⟩
    · next hp =>
      obtain ⟨d1, hr, rfl⟩ := Option.map_eq_some_iff.mp h
      obtain ⟨l, x, r, rfl, rfl, hx, hl⟩ := mapFirst_eq_some hr
      exact ⟨y :: l, x, r, rfl, rfl, hx, List.forall_mem_cons.mpr ⟨by simpa using hp, hl⟩⟩

theorem mapFirst_mem (p : Name → Bool) (g : Entry → Entry) (d d' : FDir) (h : mapFirst p g d = some d') :
      ∀ x' ∈ d', ∃ x ∈ d, x'.1 = x.1 ∧ (x'.2 = x.2 ∨ x'.2 = g x.2) := by
  obtain ⟨l, x, r, rfl, rfl, _, _⟩ := mapFirst_eq_some h
  intro x' hx'
  rcases List.mem_append.mp hx' with h1 | h1
  · exact ⟨x', List.mem_append_left _ h1, rfl, .inl rfl⟩
  · rcases List.mem_cons.mp h1 with rfl | h1
    · exact ⟨x, List.mem_append_right _ List.mem_cons_self, rfl, .inr rfl⟩
    · exact ⟨x', List.mem_append_right _ (List.mem_cons_of_mem _ h1), rfl, .inl rfl⟩

theorem mapFirst_keys (p : Name → Bool) (g : Entry → Entry) (d d' : FDir) (h : mapFirst p g d = some d') :
    d'.keys = d.keys := by
  obtain ⟨l, x, r, rfl, rfl, _, _⟩ := mapFirst_eq_some h
  simp [FDir.keys]

theorem lookup_mapFirst_ne (p : Name → Bool) (g : Entry → Entry) (k : Name) (hk : p k = false)
    (d d' : FDir) (h : mapFirst p g d = some d') : d'.lookup k = d.lookup k := by
  obtain ⟨l, x, r, rfl, rfl, hx, _⟩ := mapFirst_eq_some h
  have : k ≠ x.1 := fun hkx => by rw [hkx, hx] at hk; cases hk
  rw [lookup_append, lookup_append, lookup_cons, lookup_cons, if_neg this, if_neg this]

theorem lookup_mapFirst_unique (p : Name → Bool) (g : Entry → Entry) (k0 : Name) (hk0 : p k0 = true)
    (d d' : FDir) (hu : ∀ n ∈ d.keys, p n = true → n = k0) (h : mapFirst p g d = some d') :
    d'.lookup k0 = (d.lookup k0).map g := by
  obtain ⟨l, x, r, rfl, rfl, hx, hl⟩ := mapFirst_eq_some h
  have hk : k0 = x.1 :=
    (hu x.1 (List.mem_map_of_mem (List.mem_append_right _ List.mem_cons_self)) hx).symm
  have hn : FDir.lookup l k0 = none := by
    cases hl0 : FDir.lookup l k0
    · rfl
    · rw [hl _ (lookup_mem hl0)] at hk0; cases hk0
  rw [lookup_append, lookup_append, hn, lookup_cons, lookup_cons, if_pos hk, if_pos hk]
  rfl

theorem mapFirst_some_of_has (p : Name → Bool) (g : Entry → Entry) (k : Name) (hk : p k = true) :
    ∀ d : FDir, d.has k = true → ∃ d', mapFirst p g d = some d'
  | [], h => by cases h
  | y :: rest, h => by
    rw [mapFirst]
    split
    · exact ⟨_, rfl⟩
    · next hp =>
      have hyk : (y.1 == k) = false := beq_eq_false_iff_ne.mpr fun hyk => hp (hyk ▸ hk)
      rw [FDir.has, List.any_cons, hyk, Bool.false_or] at h
      obtain ⟨d', hd'⟩ := mapFirst_some_of_has p g k hk rest h
      exact ⟨y :: d', by rw [hd']; rfl⟩

end PhyVerif.C13.Lemmas
