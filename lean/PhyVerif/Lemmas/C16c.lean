import PhyVerif.Model.C16c
import PhyVerif.Lemmas.C16t
import PhyVerif.Lemmas.C04d
/-! About `Model/C16c.lean`: the chunk length `int(round(600·rate))` with the exact product (`pyRound` is the `np.round` of
the cluster loader, specified in `Lemmas/C04d.lean`), the chunk table mtscomp writes, and how long the intervals of the
compressed iterator get.  No Mathlib here: `grind` does the ordered-field arithmetic over `Rat`. -/
namespace PhyVerif.C16.Lemmas
open PhyVerif.C16

theorem mul_den (x : Rat) : x * ((x.den : Int) : Rat) = (x.num : Rat) := by
  have h := Rat.num_divInt_den x
  rw [Rat.divInt_eq_div] at h
  have hq : ((x.den : Int) : Rat) ≠ 0 := by exact_mod_cast x.den_nz
  exact (congrArg (· * ((x.den : Int) : Rat)) h.symm).trans (Rat.div_mul_cancel hq)

theorem half_cmp (t : Rat) (r q : Int) (hq : 0 < q) (h : t * q = r) :
    (2 * r < q ↔ t < 1 / 2) ∧ (q < 2 * r ↔ 1 / 2 < t) := by
  have hqR : (0 : Rat) < q := by exact_mod_cast hq
  rw [← Rat.mul_lt_mul_right hqR (a := t), ← Rat.mul_lt_mul_right hqR (b := t), h,
    ← Rat.intCast_lt_intCast, ← Rat.intCast_lt_intCast, Rat.intCast_mul]
  -- both sides of either equivalence differ by the factor 2
  exact ⟨by grind, by grind⟩

theorem frac_mul_den (x : Rat) : (x - x.floor) * ((x.den : Int) : Rat) = ((x.num % x.den : Int) : Rat) := by
  have hm := mul_den x
  have h : ((x.den : Int) : Rat) * ((x.num / x.den : Int) : Rat) + ((x.num % x.den : Int) : Rat) = x.num := by
    rw [← Rat.intCast_mul, ← Rat.intCast_add, Int.mul_ediv_add_emod]
  rw [Rat.floor_def]
  grind

theorem pyRound_eq (x : Rat) : pyRound x =
    if x - x.floor < 1 / 2 then x.floor else if 1 / 2 < x - x.floor then x.floor + 1
    else if x.floor % 2 = 0 then x.floor else x.floor + 1 := by
  obtain ⟨h1, h2⟩ := half_cmp _ _ _ (Int.natCast_pos.2 x.den_pos) (frac_mul_den x)
  simp only [pyRound, h1, h2, Rat.floor_def]

/-- `round` is the `np.round` of the cluster loader, whose lemmas (`Lemmas/C04d.lean`) therefore hold of it -/
theorem pyRound_eq_roundHalfEven (x : Rat) : pyRound x = C04.roundHalfEven x := pyRound_eq x

theorem pyRound_bounds (x : Rat) : x - 1/2 ≤ (pyRound x : Rat) ∧ (pyRound x : Rat) ≤ x + 1/2 :=
  pyRound_eq_roundHalfEven x ▸ (C04.Lemmas.roundHalfEven_spec x).1

theorem pyRound_unique (x : Rat) (m : Int) (h1 : x - 1/2 < m) (h2 : (m : Rat) < x + 1/2) :
    pyRound x = m :=
  pyRound_eq_roundHalfEven x ▸ C04.Lemmas.roundHalfEven_of_near x m (by grind) (by grind)

theorem pyRound_tie (x : Rat) (k : Int) (h : x = k + 1/2) :
    pyRound x % 2 = 0 ∧ (pyRound x = k ∨ pyRound x = k + 1) := by
  have hf : x.floor = k := by
    rw [h, Rat.add_comm, Rat.floor_add_intCast, show (1 / 2 : Rat).floor = 0 by decide +kernel, Int.zero_add]
  have ht : x - x.floor = 1 / 2 := by rw [hf, h]; grind
  rw [pyRound_eq, ht, hf, if_neg (by decide +kernel), if_neg (by decide +kernel)]
  split <;> omega

theorem pyRound_pos_iff (x : Rat) : 0 < pyRound x ↔ 1 / 2 < x := by
  obtain ⟨b1, b2⟩ := pyRound_bounds x
  constructor
  · intro hpos
    have h1 : ((1 : Int) : Rat) ≤ (pyRound x : Rat) := by exact_mod_cast hpos
    rw [Rat.intCast_one] at h1
    rcases Rat.le_iff_lt_or_eq.1 (show (1 : Rat) / 2 ≤ x by grind) with h | h
    · exact h
    · -- `round(0.5) = 0`
      obtain ⟨he, hk⟩ := pyRound_tie x 0 (by rw [← h, Rat.intCast_zero]; decide +kernel)
      omega
  · intro h
    have : ((0 : Int) : Rat) < (pyRound x : Rat) := by rw [Rat.intCast_zero]; grind
    exact_mod_cast this

/-- with the EXACT product; the readers multiply in floating point, and their threshold is `chunkSizeFl_pos_iff_rate` -/
theorem chunkSize_pos_iff (rate : Rat) : 0 < chunkSize rate ↔ 1/1200 < rate :=
  (pyRound_pos_iff _).trans (by unfold defaultChunkDuration; grind)

/-- `ceil(n / cs)`, the length of `range(0, n, cs)` -/
theorem ceilDiv (n cs : Nat) (hcs : 0 < cs) :
    (n + cs - 1) / cs = n / cs + if cs * (n / cs) = n then 0 else 1 := by
  have h := Nat.div_add_mod n cs
  have hr := Nat.mod_lt n hcs
  generalize n / cs = q at h ⊢
  generalize n % cs = r at h hr
  subst h
  cases r with
  | zero =>
    rw [Nat.add_zero, if_pos rfl, Nat.add_sub_assoc hcs, Nat.mul_add_div hcs,
      Nat.div_eq_of_lt (Nat.sub_lt hcs Nat.one_pos)]
  | succ r =>
    rw [if_neg (by omega), Nat.add_right_comm, Nat.add_succ_sub_one, Nat.add_assoc, Nat.mul_add_div hcs,
      Nat.add_div_left _ hcs, Nat.div_eq_of_lt (Nat.lt_of_succ_lt hr)]

theorem mtsTable_eq (n cs : Nat) (hn : 1 ≤ n) (hcs : 0 < cs) :
    mtsTable n cs = some (getChunkBounds [n] cs) := by
  have hq := Nat.mul_div_le n cs
  simp only [mtsTable, getChunkBounds, List.foldl_cons, List.foldl_nil, gcbStep, List.isEmpty_nil, Bool.not_true,
    Bool.false_and, Bool.false_eq_true, if_false, List.nil_append]
  rw [pyRange_succ 0 n cs hcs, getLast?_range'_succ, ← List.range'_succ, pyRange_eq, Nat.sub_zero, ceilDiv n cs hcs,
    Nat.zero_add]
  generalize n / cs = q at hq ⊢
  by_cases hd : cs * q = n
  · -- `cs` divides `n`: `range(0, n + 1, cs)` already ends with `n`
    cases q with
    | zero => omega
    | succ q =>
      rw [if_pos hd, Nat.add_zero, List.range'_concat (n := q + 1), List.range'_concat, List.getLast?_concat, hd]
      rw [Nat.mul_succ] at hd
      simp only [Nat.zero_add, bne_self_eq_false, Bool.false_eq_true, if_false]
      rw [if_pos (by omega)]
  · rw [if_neg hd, List.range'_concat, List.getLast?_concat, Nat.zero_add, Nat.zero_add]
    simp only
    rw [if_pos (by omega), if_pos (by simpa using hd)]

theorem mtsTable_ok (n cs : Nat) (hn : 1 ≤ n) (hcs : 0 < cs) :
    ∃ t, mtsTable n cs = some t ∧ boundsOK [n] cs t = true :=
  ⟨_, mtsTable_eq n cs hn hcs, getChunkBounds_ok [n] cs hcs (by simp)⟩

/-- the readers' `assert chunk_size > 0` followed by `_get_chunk_bounds`, for a positive chunk length however computed -/
theorem boundsOfChunkSize_ok (sizes : List Nat) (cs : Int) (hne : sizes ≠ []) (hcs : 0 < cs) :
    ∃ cb, (if cs ≤ 0 then none else some (getChunkBounds sizes cs.toNat)) = some cb ∧
      boundsOK sizes cs.toNat cb = true :=
  ⟨_, if_neg (Int.not_le.2 hcs), getChunkBounds_ok sizes _ (Int.lt_toNat.2 hcs) hne⟩

theorem readerChunkBounds_ok (sizes : List Nat) (rate : Rat) (hne : sizes ≠ []) (hr : 1/1200 < rate) :
    ∃ cb, readerChunkBounds sizes rate = some cb ∧
      boundsOK sizes (chunkSize rate).toNat cb = true :=
  boundsOfChunkSize_ok sizes _ hne ((chunkSize_pos_iff rate).2 hr)

theorem readerChunkBounds_none (sizes : List Nat) (rate : Rat) (hr : rate ≤ 1/1200) :
    readerChunkBounds sizes rate = none :=
  if_pos (Int.not_lt.1 fun h => absurd ((chunkSize_pos_iff rate).1 h) (Rat.not_lt.2 hr))

theorem gaps_span (cs : Nat) : ∀ (l : List Nat), gapsLe cs l = true →
    ∀ d i, i + d < l.length → l.getD (i + d) 0 ≤ l.getD i 0 + d * cs
  | [], _, d, i, h => by simp at h
  | [a], _, d, i, h => by
    obtain ⟨rfl, rfl⟩ : i = 0 ∧ d = 0 := by simp at h; omega
    simp
  | a :: b :: t, hg, d, i, h => by
    simp only [gapsLe, Bool.and_eq_true, decide_eq_true_eq] at hg
    cases i with
    | succ i =>
      rw [Nat.succ_add] at h ⊢
      simpa using gaps_span cs (b :: t) hg.2 d i (Nat.lt_of_succ_lt_succ h)
    | zero =>
      cases d with
      | zero => simp
      | succ d =>
        have := gaps_span cs (b :: t) hg.2 d 0 (Nat.lt_of_succ_lt_succ h)
        simp only [Nat.zero_add, List.getD_cons_succ, List.getD_cons_zero] at this ⊢
        rw [Nat.succ_mul]; omega

theorem iterChunksMts_len_le (bs cs : Nat) (hbs : 0 < bs) (cb : List Nat) (hg : gapsLe cs cb = true)
    (hlen : 2 ≤ cb.length) : ∀ p ∈ iterChunksMts bs cb, p.2 - p.1 ≤ bs * cs := by
  intro p hp
  unfold iterChunksMts at hp
  obtain ⟨ij, hij, rfl⟩ := List.mem_map.1 hp
  obtain ⟨h1, h2, h3⟩ := iterMtsIdx_spans bs (cb.length - 1) hbs (by omega) ij hij
  have hs := gaps_span cs cb hg (ij.2 - ij.1) ij.1 (by omega)
  rw [Nat.add_sub_cancel' h1] at hs
  exact Nat.sub_le_iff_le_add'.2 (Nat.le_trans hs (Nat.add_le_add_left (Nat.mul_le_mul_right _ h3) _))

end PhyVerif.C16.Lemmas
