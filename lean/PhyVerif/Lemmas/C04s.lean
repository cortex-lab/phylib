import PhyVerif.Model.C04c
import PhyVerif.Model.C04f
import PhyVerif.Lemmas.Np
/-! The array helpers of `Model/C04`, `C04c` and `C04f` (`atleast`, `colsFix`, `featCols`, `transpose021`,
`zeroNanTemplates`), by shape and by entries. -/
namespace PhyVerif.C04.Lemmas
open PhyVerif PhyVerif.C04

theorem grid_length {α : Type} (m n : Nat) (f : Nat → Nat → α) :
    (((List.range m).map fun i => (List.range n).map fun j => f i j).flatten).length = m * n := by
  rw [Np.Lemmas.length_flatten_const n _ fun b hb => by obtain ⟨_, _, rfl⟩ := List.mem_map.1 hb; simp]
  simp

theorem flatten_const_getElem? {α : Type} (n : Nat) (f : Nat → Nat → α) (m i j : Nat) (hi : i < m) (hj : j < n) :
    (((List.range m).map fun i => (List.range n).map fun j => f i j).flatten)[i * n + j]? = some (f i j) := by
  rw [Np.Lemmas.flatten_uniform_getElem? n _ (fun b hb => by obtain ⟨_, _, rfl⟩ := List.mem_map.1 hb; simp) i j hj]
  simp [hi, hj]

theorem transpose021_spec (a : Arr) (n p q : Nat) (hs : a.shape = [n, p, q]) (hl : a.data.length = n * (p * q)) :
    (transpose021 a).shape = [n, q, p] ∧ (transpose021 a).data.length = n * (q * p) ∧
    ∀ i j k, i < n → j < p → k < q →
      (transpose021 a).data[i * (q * p) + (k * p + j)]? = a.data[i * (p * q) + (j * q + k)]? := by
  unfold transpose021
  rw [hs]
  simp only
  have hblocks : ∀ b ∈ (List.range n).map (fun i =>
      ((List.range q).map fun k => (List.range p).map fun j =>
        a.data.getD (i * (p * q) + j * q + k) (Cell.num 0)).flatten), b.length = q * p := by
    intro b hb
    obtain ⟨i, -, rfl⟩ := List.mem_map.1 hb
    exact grid_length q p _
  refine ⟨trivial, ?_, ?_⟩
  · rw [Np.Lemmas.length_flatten_const (q * p) _ hblocks, List.length_map, List.length_range]
  · intro i j k hi hj hk
    rw [Np.Lemmas.flatten_uniform_getElem? (q * p) _ hblocks i (k * p + j) (Np.Lemmas.mul_add_lt hk hj)]
    simp only [List.getElem?_map, List.getElem?_range hi, Option.map_some, Option.bind_some]
    rw [flatten_const_getElem? p _ q k j hk hj, List.getD_eq_getElem?_getD, Nat.add_assoc,
      List.getElem?_eq_getElem (by rw [hl]; exact Np.Lemmas.mul_add_lt hi (Np.Lemmas.mul_add_lt hj hk))]
    rfl

theorem atleast_data (k : Nat) (a : Arr) : (atleast k a).data = a.data := by
  unfold atleast
  split <;> rfl

theorem atleast_shape (k : Nat) (a : Arr) :
    ((atleast k a).shape.filter (· != 1) = a.shape.filter (· != 1)) ∧
    (k ≤ a.shape.length → atleast k a = a) ∧
    (a.shape = [] → (atleast 1 a).shape = [1] ∧ (atleast 2 a).shape = [1, 1] ∧ (atleast 3 a).shape = [1, 1, 1]) ∧
    (∀ n, a.shape = [n] → (atleast 2 a).shape = [1, n] ∧ (atleast 3 a).shape = [1, n, 1]) ∧
    (∀ m n, a.shape = [m, n] → (atleast 3 a).shape = [m, n, 1]) := by
  obtain ⟨sh, da⟩ := a
  refine ⟨?_, fun hk => ?_, by rintro rfl; exact ⟨rfl, rfl, rfl⟩, by rintro n rfl; exact ⟨rfl, rfl⟩,
    by rintro m n rfl; rfl⟩
  · unfold atleast
    dsimp only
    split <;> rfl
  · unfold atleast
    dsimp only at hk ⊢
    -- the six arms that change the shape have fewer than `k` dimensions; the last arm returns `a`
    split <;> first | rfl | exact absurd hk (by simp)

theorem colsFix_spec (a : Arr) :
    (colsFix a).data = a.data ∧ (∀ n, a.shape = [n] → (colsFix a).shape = [n, 1]) ∧
    (a.shape.length = 2 → colsFix a = a) ∧ (colsFix a).shape.filter (· != 1) = a.shape.filter (· != 1) :=
  match a with
  | ⟨[], _⟩ => ⟨rfl, nofun, nofun, rfl⟩
  | ⟨[n], _⟩ => ⟨rfl, fun _ h => by cases h; rfl, nofun, rfl⟩
  | ⟨_ :: _ :: _, _⟩ => ⟨rfl, nofun, fun _ => rfl, rfl⟩

theorem squeeze_of_no_one (c : Arr) (h : ∀ x ∈ c.shape, x ≠ 1) : squeeze c = c := by
  obtain ⟨sh, da⟩ := c
  exact congrArg (Arr.mk · da) (List.filter_eq_self.2 fun x hx => by simpa using h x hx)

theorem featCols_spec (c : Arr) :
    (featCols c).data = c.data ∧
    (∀ nt nloc, c.shape = [nt, nloc] → nt ≠ 1 → nloc ≠ 1 → featCols c = c) ∧
    (∀ nt, nt ≠ 1 → (c.shape = [nt] ∨ c.shape = [nt, 1]) → (featCols c).shape = [nt, 1]) := by
  refine ⟨?_, ?_, ?_⟩
  · unfold featCols addAxis squeeze; dsimp only; split <;> rfl
  · intro nt nloc hs h1 h2
    have : squeeze c = c := squeeze_of_no_one c (by simp [hs, h1, h2])
    simp [featCols, this, hs]
  · intro nt h1 hs
    rcases hs with hs | hs <;> simp [featCols, squeeze, addAxis, hs, h1]

theorem block_getElem? (l : List Cell) (sz t j : Nat) (hj : j < sz) :
    ((l.drop (t * sz)).take sz)[j]? = l[t * sz + j]? := by
  rw [List.getElem?_take_of_lt hj, List.getElem?_drop]

theorem block_length (l : List Cell) (sz nt t : Nat) (hl : l.length = nt * sz) (ht : t < nt) :
    ((l.drop (t * sz)).take sz).length = sz := by
  rw [List.length_take, List.length_drop, hl]
  apply Nat.min_eq_left
  apply Nat.le_sub_of_add_le
  rw [Nat.add_comm, ← Nat.succ_mul]
  exact Nat.mul_le_mul_right sz ht

theorem all_beq_iff {α : Type} [BEq α] [LawfulBEq α] (l : List α) (x : α) :
    l.all (· == x) = true ↔ ∀ j, j < l.length → l[j]? = some x := by
  rw [List.all_eq_true]
  constructor
  · intro h j hj
    rw [List.getElem?_eq_getElem hj, beq_iff_eq.1 (h _ (List.getElem_mem hj))]
  · intro h y hy
    obtain ⟨j, hj, rfl⟩ := List.getElem_of_mem hy
    have := h j hj
    rw [List.getElem?_eq_getElem hj, Option.some.injEq] at this
    exact beq_iff_eq.2 this

theorem zeroNanTemplates_spec (a : Arr) (nt ns nc : Nat) (hs : a.shape = [nt, ns, nc])
    (hl : a.data.length = nt * (ns * nc)) :
    (zeroNanTemplates a).shape = a.shape ∧
    ∀ t j, t < nt → j < ns * nc →
      (zeroNanTemplates a).data[t * (ns * nc) + j]? =
        if (∀ j', j' < ns * nc → a.data[t * (ns * nc) + j']? = some Cell.nan) then some (.num 0)
        else a.data[t * (ns * nc) + j]? := by
  unfold zeroNanTemplates
  rw [hs]
  refine ⟨rfl, fun t j ht hj => ?_⟩
  simp only
  generalize ns * nc = sz at *
  have hlen := fun t' ht' => block_length a.data sz nt t' hl ht'
  rw [Np.Lemmas.flatten_uniform_getElem? sz _ (fun b hb => by
    simp only [List.map_map, List.mem_map, List.mem_range, Function.comp] at hb
    obtain ⟨t', ht', rfl⟩ := hb
    split
    · rw [List.length_map]; exact hlen t' ht'
    · exact hlen t' ht') t j hj]
  simp only [List.getElem?_map, List.getElem?_range ht, Option.map_some, Option.bind_some]
  have hall : ((a.data.drop (t * sz)).take sz).all (· == Cell.nan) = true ↔
      ∀ j', j' < sz → a.data[t * sz + j']? = some Cell.nan := by
    rw [all_beq_iff, hlen t ht]
    exact forall₂_congr fun j' hj' => by rw [block_getElem? a.data sz t j' hj']
  have hsz0 : (sz != 0) = true := by simp; omega
  by_cases hc : ∀ j', j' < sz → a.data[t * sz + j']? = some Cell.nan
  · rw [if_pos hc, if_pos (by rw [hsz0, hall.2 hc]; rfl), List.getElem?_map,
      List.getElem?_eq_getElem (by rw [hlen t ht]; exact hj)]
    rfl
  · rw [if_neg hc, if_neg (by rw [hsz0, Bool.true_and]; exact fun h => hc (hall.1 h))]
    exact block_getElem? a.data sz t j hj

end PhyVerif.C04.Lemmas
