import PhyVerif.Model.Fl
import PhyVerif.Lemmas.C04d
import Mathlib.Algebra.Order.Field.Rat
import Mathlib.Algebra.Order.Field.Power
import Mathlib.Algebra.Order.Ring.Abs
import Mathlib.Tactic.Linarith
import Mathlib.Tactic.Ring
import Mathlib.Tactic.NormNum
import Mathlib.Tactic.Positivity
/-! Proofs about `Model/Fl.lean` (binary64 rounding on rationals).  The route: `rne` (nearest integer, ties to even) →
`ilog2` / `expOf` (the binade of `q`) → integer multiples of the last place `2^e` → `roundPos`, nearest among ALL
numbers with 53 significant bits by `on_grid_or_further` → `roundDouble` by odd symmetry.  The statements headed in
capitals are repeated in `Props/C15.lean`. -/
namespace PhyVerif.Fl.Lemmas
open PhyVerif.Fl

theorem pow2_eq (e : Int) : pow2 e = (2 : ℚ) ^ e := rfl

theorem pow2_pos (e : Int) : 0 < pow2 e := by
  rw [pow2_eq]; positivity

theorem pow2_ne (e : Int) : pow2 e ≠ 0 := ne_of_gt (pow2_pos e)

theorem pow2_add (a b : Int) : pow2 (a + b) = pow2 a * pow2 b := by
  simp only [pow2_eq]; exact zpow_add₀ (by norm_num) a b

theorem pow2_sub (a b : Int) : pow2 (a - b) = pow2 a / pow2 b := by
  simp only [pow2_eq]; exact zpow_sub₀ (by norm_num) a b

theorem pow2_zero : pow2 0 = 1 := zpow_zero 2

theorem pow2_one : pow2 1 = 2 := zpow_one 2

theorem pow2_succ (a : Int) : pow2 (a + 1) = 2 * pow2 a := by
  rw [pow2_add, pow2_one]; ring

theorem pow2_pred (a : Int) : pow2 (a - 1) = pow2 a / 2 := by
  rw [pow2_sub, pow2_one]

theorem pow2_le_iff (a b : Int) : pow2 a ≤ pow2 b ↔ a ≤ b := by
  simp only [pow2_eq]; exact zpow_le_zpow_iff_right₀ (by norm_num)

theorem pow2_lt_iff (a b : Int) : pow2 a < pow2 b ↔ a < b := by
  simp only [pow2_eq]; exact zpow_lt_zpow_iff_right₀ (by norm_num)

theorem pow2_intCast (n : Nat) : pow2 (n : Int) = (((2 : Int) ^ n : Int) : ℚ) := by
  simp [pow2_eq]

theorem pow2_52 : pow2 52 = (((2 : Int) ^ 52 : Int) : ℚ) := pow2_intCast 52
theorem pow2_53 : pow2 53 = (((2 : Int) ^ 53 : Int) : ℚ) := pow2_intCast 53

theorem absR_eq (x : ℚ) : absR x = |x| := by
  unfold absR
  split
  · next h => exact (abs_of_nonneg h).symm
  · next h => exact (abs_of_neg (not_le.1 h)).symm

theorem absR_neg (x : ℚ) : absR (-x) = absR x := by simp [absR_eq]

theorem absR_of_pos (x : ℚ) (h : 0 < x) : absR x = x := by rw [absR_eq, abs_of_pos h]

theorem absR_pos (x : ℚ) (h : x ≠ 0) : 0 < absR x := by rw [absR_eq]; exact abs_pos.mpr h

theorem abs_sub_lt_of_lt_of_le {a b q : ℚ} (hab : a < b) (hbq : b ≤ q) : |b - q| < |a - q| := by
  rw [abs_sub_comm b, abs_sub_comm a, abs_of_nonneg (sub_nonneg.2 hbq),
    abs_of_pos (sub_pos.2 (lt_of_lt_of_le hab hbq))]
  exact sub_lt_sub_left hab q

/-- `rne` is the `np.round` of the cluster loader (`C04.roundHalfEven`, the same body), specified in `Lemmas/C04d.lean` -/
theorem rne_spec (x : ℚ) : C04.IsRoundHalfEven x (rne x) := C04.Lemmas.roundHalfEven_spec x

theorem rne_dist_even (x : ℚ) :
    |(rne x : ℚ) - x| ≤ 1 / 2 ∧ (|(rne x : ℚ) - x| = 1 / 2 → rne x % 2 = 0) := by
  obtain ⟨⟨h1, h2⟩, he⟩ := rne_spec x
  refine ⟨abs_sub_le_iff.2 ⟨sub_le_iff_le_add'.2 h2, sub_le_comm.1 h1⟩, fun h => he ?_⟩
  rcases (abs_eq (by norm_num)).1 h with h | h
  · exact .inr (sub_eq_iff_eq_add'.1 h)
  · exact .inl (by rw [sub_eq_add_neg]; exact sub_eq_iff_eq_add'.1 h)

theorem rne_dist (x : ℚ) : |(rne x : ℚ) - x| ≤ 1 / 2 := (rne_dist_even x).1

theorem one_le_dist_add (k n : Int) (h : k ≠ n) (x : ℚ) : 1 ≤ |(k : ℚ) - x| + |(n : ℚ) - x| := by
  have h1 : (1 : ℚ) ≤ |(k : ℚ) - n| := by exact_mod_cast Int.one_le_abs (sub_ne_zero.2 h)
  calc (1 : ℚ) ≤ |((k : ℚ) - x) - ((n : ℚ) - x)| := by rwa [sub_sub_sub_cancel_right]
    _ ≤ _ := abs_sub _ _

theorem rne_nearest (x : ℚ) (k : Int) : |(rne x : ℚ) - x| ≤ |(k : ℚ) - x| := by
  by_cases hk : k = rne x
  · rw [hk]
  · linarith [one_le_dist_add k (rne x) hk x, rne_dist x]

theorem rne_tie_even (x : ℚ) (k : Int) (hk : k ≠ rne x) (hd : |(k : ℚ) - x| = |(rne x : ℚ) - x|) :
    rne x % 2 = 0 :=
  (rne_dist_even x).2 (le_antisymm (rne_dist x) (by linarith [one_le_dist_add k (rne x) hk x]))

theorem rne_intCast (z : Int) : rne (z : ℚ) = z := C04.Lemmas.roundHalfEven_intCast z

theorem rne_mono (x y : ℚ) (h : x ≤ y) : rne x ≤ rne y := by
  by_contra hc
  have hq : ((rne y + 1 : Int) : ℚ) ≤ (rne x : ℚ) := Int.cast_le.2 (Int.add_one_le_iff.2 (not_le.1 hc))
  rw [Int.cast_add, Int.cast_one] at hq
  obtain ⟨⟨-, ux⟩, -⟩ := rne_spec x
  obtain ⟨⟨ly, -⟩, -⟩ := rne_spec y
  -- both roundings are within a half, so `rne y + 1 ≤ rne x` leaves only `x = y`
  exact hc (le_of_eq (congrArg rne (le_antisymm h (by linarith only [hq, ux, ly]))))

theorem natCast_log2_bounds (n : Nat) (h : n ≠ 0) :
    pow2 (n.log2 : Nat) ≤ (n : ℚ) ∧ (n : ℚ) < 2 * pow2 (n.log2 : Nat) := by
  constructor
  · rw [pow2_eq, zpow_natCast]; exact_mod_cast Nat.log2_self_le h
  · rw [← pow2_succ, pow2_eq]; exact_mod_cast Nat.lt_log2_self (n := n)

theorem div_binade (N D : ℚ) (a b : Int) (a1 : pow2 a ≤ N) (a2 : N < 2 * pow2 a)
    (b1 : pow2 b ≤ D) (b2 : D < 2 * pow2 b) :
    pow2 (a - b - 1) < N / D ∧ N / D < pow2 (a - b + 1) := by
  have hA := pow2_pos a
  have hB := pow2_pos b
  have hD : 0 < D := lt_of_lt_of_le hB b1
  constructor
  · rw [pow2_pred, pow2_sub, div_div, div_lt_div_iff₀ (mul_pos hB two_pos) hD, mul_comm (pow2 b)]
    exact mul_lt_mul' a1 b2 (le_of_lt hD) (lt_of_lt_of_le hA a1)
  · rw [pow2_succ, pow2_sub, ← mul_div_assoc, div_lt_div_iff₀ hD hB]
    exact mul_lt_mul a2 b1 hB (le_of_lt (mul_pos two_pos hA))

/-- one comparison decides between the two candidates `e` and `e - 1` -/
theorem binade_of_near (q : ℚ) (e : Int) (lo : pow2 (e - 1) < q) (up : q < pow2 (e + 1)) :
    pow2 (if pow2 e ≤ q then e else e - 1) ≤ q ∧ q < pow2 ((if pow2 e ≤ q then e else e - 1) + 1) := by
  split
  · rename_i h
    exact ⟨h, up⟩
  · rename_i h
    rw [sub_add_cancel]
    exact ⟨le_of_lt lo, not_le.1 h⟩

theorem ilog2_spec (q : ℚ) (hq : 0 < q) : pow2 (ilog2 q) ≤ q ∧ q < pow2 (ilog2 q + 1) := by
  have hn : 0 < q.num := Rat.num_pos.mpr hq
  obtain ⟨a1, a2⟩ := natCast_log2_bounds q.num.toNat (by omega)
  obtain ⟨b1, b2⟩ := natCast_log2_bounds q.den q.den_nz
  obtain ⟨lo, up⟩ := div_binade _ _ _ _ a1 a2 b1 b2
  rw [← Int.cast_natCast q.num.toNat, Int.toNat_of_nonneg (le_of_lt hn), Rat.num_div_den] at lo up
  exact binade_of_near q _ lo up

theorem ilog2_unique (q : ℚ) (hq : 0 < q) (e : Int) (h1 : pow2 e ≤ q) (h2 : q < pow2 (e + 1)) : ilog2 q = e := by
  obtain ⟨s1, s2⟩ := ilog2_spec q hq
  have c1 : ilog2 q < e + 1 := (pow2_lt_iff _ _).1 (lt_of_le_of_lt s1 h2)
  have c2 : e < ilog2 q + 1 := (pow2_lt_iff _ _).1 (lt_of_le_of_lt h1 s2)
  omega

theorem ilog2_eq_expOf (q : ℚ) : ilog2 q = expOf q + 52 := (sub_add_cancel _ _).symm

theorem expOf_spec (q : ℚ) (hq : 0 < q) : pow2 (expOf q + 52) ≤ q ∧ q < pow2 (expOf q + 53) := by
  have h := ilog2_spec q hq
  rwa [ilog2_eq_expOf, add_assoc] at h

theorem expOf_unique (q : ℚ) (hq : 0 < q) (e : Int) (h1 : pow2 (e + 52) ≤ q) (h2 : q < pow2 (e + 53)) :
    expOf q = e := by
  have h := ilog2_unique q hq (e + 52) h1 (by rwa [add_assoc])
  rw [ilog2_eq_expOf] at h
  exact add_right_cancel h

theorem expOf_mono (p q : ℚ) (hp : 0 < p) (h : p ≤ q) : expOf p ≤ expOf q := by
  obtain ⟨s1, _⟩ := expOf_spec p hp
  obtain ⟨_, t2⟩ := expOf_spec q (lt_of_lt_of_le hp h)
  have : expOf p + 52 < expOf q + 53 := (pow2_lt_iff _ _).1 (lt_of_le_of_lt (le_trans s1 h) t2)
  omega

theorem le_intCast_mul_pow2 (k : Int) (n : Nat) (e : Int) : pow2 (e + n) ≤ (k : ℚ) * pow2 e ↔ 2 ^ n ≤ k := by
  rw [add_comm, pow2_add, mul_le_mul_iff_of_pos_right (pow2_pos e), pow2_intCast, Int.cast_le]

theorem intCast_mul_pow2_le (k : Int) (n : Nat) (e : Int) : (k : ℚ) * pow2 e ≤ pow2 (e + n) ↔ k ≤ 2 ^ n := by
  rw [add_comm, pow2_add, mul_le_mul_iff_of_pos_right (pow2_pos e), pow2_intCast, Int.cast_le]

theorem intCast_mul_pow2_lt (k : Int) (n : Nat) (e : Int) : (k : ℚ) * pow2 e < pow2 (e + n) ↔ k < 2 ^ n := by
  rw [← not_le, le_intCast_mul_pow2, not_le]

theorem grid_dist (q : ℚ) (e : Int) (k : Int) :
    |(k : ℚ) * pow2 e - q| = |(k : ℚ) - q / pow2 e| * pow2 e := by
  have hp := pow2_pos e
  rw [← abs_of_pos hp, ← abs_mul, abs_of_pos hp]
  congr 1
  rw [sub_mul, div_mul_cancel₀ q (pow2_ne e)]

theorem roundPos_eq (q : ℚ) : roundPos q = (rne (q / pow2 (expOf q)) : ℚ) * pow2 (expOf q) := rfl

/-- the scaled significand `q / 2^e` lies in `[2^52, 2^53)`, so the rounded one in `[2^52, 2^53]` -/
theorem sig_bounds (q : ℚ) (hq : 0 < q) :
    (2 : Int) ^ 52 ≤ rne (q / pow2 (expOf q)) ∧ rne (q / pow2 (expOf q)) ≤ (2 : Int) ^ 53 := by
  obtain ⟨s1, s2⟩ := expOf_spec q hq
  have hp := pow2_pos (expOf q)
  rw [add_comm, pow2_add] at s1 s2
  have l := rne_mono _ _ ((le_div_iff₀ hp).2 s1)
  have u := rne_mono _ _ (le_of_lt ((div_lt_iff₀ hp).2 s2))
  rw [pow2_52, rne_intCast] at l
  rw [pow2_53, rne_intCast] at u
  exact ⟨l, u⟩

theorem roundPos_bounds (q : ℚ) (hq : 0 < q) :
    pow2 (expOf q + 52) ≤ roundPos q ∧ roundPos q ≤ pow2 (expOf q + 53) :=
  ⟨(le_intCast_mul_pow2 _ 52 _).2 (sig_bounds q hq).1, (intCast_mul_pow2_le _ 53 _).2 (sig_bounds q hq).2⟩

theorem roundPos_pos (q : ℚ) (hq : 0 < q) : 0 < roundPos q :=
  lt_of_lt_of_le (pow2_pos _) (roundPos_bounds q hq).1

theorem roundPos_half_ulp (q : ℚ) : |roundPos q - q| ≤ pow2 (expOf q - 1) := by
  rw [roundPos_eq, grid_dist, pow2_pred, div_eq_inv_mul (pow2 _) 2, ← one_div]
  exact mul_le_mul_of_nonneg_right (rne_dist _) (le_of_lt (pow2_pos _))

/-- the result in normalised form; the significand is even when the rounded significand `rne (q / 2^e)` is
(`2^53` becomes `2^52` one binade up) -/
theorem roundPos_normal (q : ℚ) (hq : 0 < q) :
    ∃ (m e : Int), 2 ^ 52 ≤ m ∧ m < 2 ^ 53 ∧ roundPos q = (m : ℚ) * pow2 e ∧
      (rne (q / pow2 (expOf q)) % 2 = 0 → m % 2 = 0) := by
  obtain ⟨s1, s2⟩ := sig_bounds q hq
  rcases Int.lt_or_eq_of_le s2 with h | h
  · exact ⟨_, expOf q, s1, h, rfl, id⟩
  · refine ⟨2 ^ 52, expOf q + 1, by norm_num, by norm_num, ?_, fun _ => by norm_num⟩
    rw [roundPos_eq, h, pow2_succ]
    push_cast
    ring

theorem normal_bounds (m e : Int) (h1 : 2 ^ 52 ≤ m) (h2 : m < 2 ^ 53) :
    pow2 (e + 52) ≤ (m : ℚ) * pow2 e ∧ (m : ℚ) * pow2 e < pow2 (e + 53) :=
  ⟨(le_intCast_mul_pow2 m 52 e).2 h1, (intCast_mul_pow2_lt m 53 e).2 h2⟩

theorem roundPos_nearest_on_grid (q : ℚ) (k : Int) : |roundPos q - q| ≤ |(k : ℚ) * pow2 (expOf q) - q| := by
  rw [roundPos_eq, grid_dist, grid_dist]
  exact mul_le_mul_of_nonneg_right (rne_nearest _ _) (le_of_lt (pow2_pos _))

theorem isDouble_neg (r : ℚ) (h : IsDouble r) : IsDouble (-r) := by
  obtain ⟨k, e, hk, rfl⟩ := h
  exact ⟨-k, e, by simpa using hk, by push_cast; ring⟩

theorem isDouble_abs_iff (r : ℚ) : IsDouble |r| ↔ IsDouble r := by
  rcases abs_choice r with h | h
  · rw [h]
  · rw [h]; exact ⟨fun h' => neg_neg r ▸ isDouble_neg _ h', isDouble_neg r⟩

/-- a double is either a multiple of the last place of `q`'s binade, or strictly further from `q` than the
rounded value -/
theorem on_grid_or_further (q : ℚ) (hq : 0 < q) (r : ℚ) (hr : IsDouble r) :
    (∃ k : Int, r = (k : ℚ) * pow2 (expOf q)) ∨ |roundPos q - q| < |r - q| := by
  obtain ⟨k, e', hk, rfl⟩ := hr
  by_cases he : expOf q ≤ e'
  · -- a coarser grid
    left
    refine ⟨k * 2 ^ (e' - expOf q).toNat, ?_⟩
    have : pow2 e' = pow2 (((e' - expOf q).toNat : Nat) : Int) * pow2 (expOf q) := by
      rw [← pow2_add, Int.toNat_of_nonneg (sub_nonneg.2 he), sub_add_cancel]
    rw [this, pow2_intCast, Int.cast_mul, mul_assoc]
  · -- a finer grid: 53 bits do not reach beyond the lower end `2^52 · 2^e` of the binade, itself on the grid
    have hg : (((2 : Int) ^ 52 : Int) : ℚ) * pow2 (expOf q) = pow2 (expOf q + 52) := by
      rw [add_comm, pow2_add, pow2_52]
    have hrle : (k : ℚ) * pow2 e' ≤ pow2 (expOf q + 52) :=
      le_trans ((intCast_mul_pow2_le k 53 e').2 (by omega)) ((pow2_le_iff _ _).2 (by omega))
    rcases eq_or_lt_of_le hrle with heq | hlt
    · exact Or.inl ⟨2 ^ 52, by rw [heq, hg]⟩
    · right
      have hn := roundPos_nearest_on_grid q (2 ^ 52)
      rw [hg] at hn
      exact lt_of_le_of_lt hn (abs_sub_lt_of_lt_of_le hlt (expOf_spec q hq).1)

theorem roundPos_nearest (q : ℚ) (hq : 0 < q) (r : ℚ) (hr : IsDouble r) : |roundPos q - q| ≤ |r - q| := by
  rcases on_grid_or_further q hq r hr with ⟨k, rfl⟩ | h
  · exact roundPos_nearest_on_grid q k
  · exact le_of_lt h

theorem roundPos_tie (q : ℚ) (hq : 0 < q) (r : ℚ) (hr : IsDouble r) (hne : r ≠ roundPos q)
    (hd : |r - q| = |roundPos q - q|) : rne (q / pow2 (expOf q)) % 2 = 0 := by
  rcases on_grid_or_further q hq r hr with ⟨k, rfl⟩ | h
  · apply rne_tie_even _ k
    · intro hk; apply hne; rw [roundPos_eq, hk]
    · rw [roundPos_eq, grid_dist, grid_dist] at hd
      exact mul_right_cancel₀ (pow2_ne _) hd
  · exact (ne_of_gt h hd).elim

theorem roundPos_mono (p q : ℚ) (hp : 0 < p) (h : p ≤ q) : roundPos p ≤ roundPos q := by
  have hq : 0 < q := lt_of_lt_of_le hp h
  rcases eq_or_lt_of_le (expOf_mono p q hp h) with heq | hlt
  · rw [roundPos_eq, roundPos_eq, heq]
    have hpw := le_of_lt (pow2_pos (expOf q))
    exact mul_le_mul_of_nonneg_right (Int.cast_le.2 (rne_mono _ _ (div_le_div_of_nonneg_right h hpw))) hpw
  · calc roundPos p ≤ pow2 (expOf p + 53) := (roundPos_bounds p hp).2
      _ ≤ pow2 (expOf q + 52) := (pow2_le_iff _ _).2 (by omega)
      _ ≤ roundPos q := (roundPos_bounds q hq).1

/-- rounding does not cross a power of two from above -/
theorem le_roundPos (a : ℚ) (ha : 0 < a) (n : Int) (h : pow2 n ≤ a) : pow2 n ≤ roundPos a := by
  have : n < expOf a + 53 := (pow2_lt_iff _ _).1 (lt_of_le_of_lt h (expOf_spec a ha).2)
  exact le_trans ((pow2_le_iff _ _).2 (by omega)) (roundPos_bounds a ha).1

/-- … and from below it reaches `2^n` only from the last half of a last place, `2^(n-54)`, before it -/
theorem roundPos_lt_pow2 (a : ℚ) (ha : 0 < a) (n : Int) (h : a < pow2 n - pow2 (n - 54)) : roundPos a < pow2 n := by
  have : expOf a + 52 < n :=
    (pow2_lt_iff _ _).1 (lt_of_le_of_lt (expOf_spec a ha).1 (lt_trans h (sub_lt_self _ (pow2_pos _))))
  have : pow2 (expOf a - 1) ≤ pow2 (n - 54) := (pow2_le_iff _ _).2 (by omega)
  have b := (abs_le.1 (roundPos_half_ulp a)).2
  linarith only [h, this, b]

/-- in the normal range below the overflow threshold the exponent of the result is within binary64's -/
theorem roundPos_binary64 (a : ℚ) (hlo : pow2 (-1022) ≤ a) (hhi : a < pow2 1024 - pow2 970) :
    ∃ (m e : Int), 2 ^ 52 ≤ m ∧ m < 2 ^ 53 ∧ -1074 ≤ e ∧ e ≤ 971 ∧ roundPos a = (m : ℚ) * pow2 e := by
  have ha : 0 < a := lt_of_lt_of_le (pow2_pos _) hlo
  obtain ⟨m, e, h1, h2, h3, _⟩ := roundPos_normal a ha
  obtain ⟨n1, n2⟩ := normal_bounds m e h1 h2
  rw [← h3] at n1 n2
  have := (pow2_lt_iff _ _).1 (lt_of_le_of_lt (le_roundPos a ha _ hlo) n2)
  have := (pow2_lt_iff _ _).1 (lt_of_le_of_lt n1 (roundPos_lt_pow2 a ha 1024 hhi))
  exact ⟨m, e, h1, h2, by omega, by omega, h3⟩

theorem roundDouble_zero : roundDouble 0 = 0 := if_pos rfl

theorem roundDouble_of_pos (q : ℚ) (h : 0 < q) : roundDouble q = roundPos q := by
  unfold roundDouble; rw [if_neg (ne_of_gt h), if_pos h]

theorem roundDouble_of_neg (q : ℚ) (h : q < 0) : roundDouble q = -roundPos (-q) := by
  unfold roundDouble; rw [if_neg (ne_of_lt h), if_neg (not_lt.2 (le_of_lt h))]

theorem roundDouble_neg (q : ℚ) : roundDouble (-q) = -roundDouble q := by
  rcases lt_trichotomy q 0 with h | h | h
  · rw [roundDouble_of_neg q h, roundDouble_of_pos (-q) (neg_pos.2 h), neg_neg]
  · rw [h, neg_zero, roundDouble_zero, neg_zero]
  · rw [roundDouble_of_pos q h, roundDouble_of_neg (-q) (neg_neg_of_pos h), neg_neg]

theorem roundDouble_pos (q : ℚ) (h : 0 < q) : 0 < roundDouble q := by
  rw [roundDouble_of_pos q h]; exact roundPos_pos q h

theorem roundDouble_neg_of_neg (q : ℚ) (h : q < 0) : roundDouble q < 0 := by
  rw [roundDouble_of_neg q h]; exact neg_neg_of_pos (roundPos_pos _ (neg_pos.2 h))

theorem roundDouble_nonneg (q : ℚ) (h : 0 ≤ q) : 0 ≤ roundDouble q := by
  rcases eq_or_lt_of_le h with h' | h'
  · rw [← h', roundDouble_zero]
  · exact le_of_lt (roundDouble_pos q h')

theorem roundDouble_nonpos (q : ℚ) (h : q ≤ 0) : roundDouble q ≤ 0 := by
  have := roundDouble_nonneg (-q) (neg_nonneg.2 h)
  rwa [roundDouble_neg, neg_nonneg] at this

theorem absR_roundDouble (q : ℚ) (hq : q ≠ 0) : absR (roundDouble q) = roundPos (absR q) := by
  rcases lt_or_gt_of_ne hq with h | h
  · rw [roundDouble_of_neg q h, absR_neg, absR_of_pos _ (roundPos_pos _ (neg_pos.2 h)), absR_eq,
      abs_of_neg h]
  · rw [roundDouble_of_pos q h, absR_of_pos _ (roundPos_pos _ h), absR_of_pos _ h]

theorem dist_roundDouble (q : ℚ) (hq : q ≠ 0) : |roundDouble q - q| = |roundPos (absR q) - absR q| := by
  rcases lt_or_gt_of_ne hq with h | h
  · rw [roundDouble_of_neg q h, absR_eq, abs_of_neg h, ← abs_neg, neg_sub', neg_neg]
  · rw [roundDouble_of_pos q h, absR_of_pos _ h]

theorem roundDouble_eq_zero_iff (q : ℚ) : roundDouble q = 0 ↔ q = 0 := by
  constructor
  · intro h
    by_contra hq
    rcases lt_or_gt_of_ne hq with h' | h'
    · exact ne_of_lt (roundDouble_neg_of_neg q h') h
    · exact ne_of_gt (roundDouble_pos q h') h
  · rintro rfl; exact roundDouble_zero

/-- REPRESENTABLE: the result is zero (only for `q = 0`) or `± m · 2^e` with `2^52 ≤ m < 2^53` -/
theorem roundDouble_representable (q : ℚ) : (q = 0 ∧ roundDouble q = 0) ∨ (q ≠ 0 ∧ Normal53 (roundDouble q)) := by
  by_cases hq : q = 0
  · exact .inl ⟨hq, by rw [hq, roundDouble_zero]⟩
  · obtain ⟨m, e, h1, h2, h3, _⟩ := roundPos_normal (absR q) (absR_pos q hq)
    exact .inr ⟨hq, m, e, h1, h2, by rw [absR_roundDouble q hq, h3]⟩

/-- HALF AN ULP: `|roundDouble q - q| ≤ 2^(e-1)`, `2^e` the unit in the last place of `q`'s binade -/
theorem roundDouble_half_ulp (q : ℚ) (hq : q ≠ 0) : absR (roundDouble q - q) ≤ pow2 (ulpExp q - 1) := by
  rw [absR_eq, dist_roundDouble q hq]; exact roundPos_half_ulp (absR q)

/-- … and the last place is relative: `2^(e+52) ≤ |q| < 2^(e+53)` -/
theorem ulpExp_spec (q : ℚ) (hq : q ≠ 0) : pow2 (ulpExp q + 52) ≤ absR q ∧ absR q < pow2 (ulpExp q + 53) :=
  expOf_spec (absR q) (absR_pos q hq)

theorem roundDouble_rel (q : ℚ) : absR (roundDouble q - q) ≤ pow2 (-53) * absR q := by
  by_cases hq : q = 0
  · subst hq; simp [roundDouble_zero, absR]
  · calc absR (roundDouble q - q) ≤ pow2 (ulpExp q - 1) := roundDouble_half_ulp q hq
      _ = pow2 (-53) * pow2 (ulpExp q + 52) := by rw [← pow2_add]; congr 1; ring
      _ ≤ pow2 (-53) * absR q := mul_le_mul_of_nonneg_left (ulpExp_spec q hq).1 (le_of_lt (pow2_pos _))

/-- NEAREST: no number with 53 significant bits is closer to `q` -/
theorem roundDouble_nearest (q r : ℚ) (hr : IsDouble r) : absR (roundDouble q - q) ≤ absR (r - q) := by
  rw [absR_eq, absR_eq]
  by_cases hq : q = 0
  · rw [hq, roundDouble_zero, sub_zero, abs_zero]; exact abs_nonneg _
  · -- `|r|` is a double as well, and no further from `|q|` than `r` from `q`
    rw [dist_roundDouble q hq, absR_eq]
    exact le_trans (roundPos_nearest |q| (abs_pos.2 hq) |r| ((isDouble_abs_iff r).2 hr)) (abs_abs_sub_abs_le_abs_sub r q)

/-- above the mid-point of `d` and a double `d' > d`, nothing rounds to `d` (`d'` is closer) -/
theorem roundDouble_ne_of_mid_lt (x d d' : ℚ) (hd' : IsDouble d') (hlt : d < d') (hx : (d + d') / 2 < x) :
    roundDouble x ≠ d := by
  intro h
  have := roundDouble_nearest x d' hd'
  rw [h, absR_eq, absR_eq, abs_of_neg (by linarith only [hlt, hx])] at this
  rcases le_abs.1 this with ha | ha
  · linarith only [ha, hx]
  · linarith only [ha, hlt]

/-- TIES TO EVEN: when another 53-bit number is exactly as close, the result has an even significand -/
theorem roundDouble_tie_even (q r : ℚ) (hr : IsDouble r) (hne : r ≠ roundDouble q)
    (hd : absR (r - q) = absR (roundDouble q - q)) :
    ∃ (m e : Int), 2 ^ 52 ≤ m ∧ m < 2 ^ 53 ∧ m % 2 = 0 ∧ absR (roundDouble q) = (m : ℚ) * pow2 e := by
  rw [absR_eq, absR_eq] at hd
  have hq : q ≠ 0 := by
    rintro rfl
    rw [roundDouble_zero, sub_zero, sub_zero, abs_zero, abs_eq_zero] at hd
    exact hne (by rw [hd, roundDouble_zero])
  have key : rne (absR q / pow2 (expOf (absR q))) % 2 = 0 := by
    rcases lt_or_gt_of_ne hq with h | h
    · -- mirror `r` and the result
      rw [roundDouble_of_neg q h] at hne hd
      rw [← abs_neg, neg_sub', ← abs_neg (_ - q), neg_sub', neg_neg] at hd
      rw [absR_eq, abs_of_neg h]
      exact roundPos_tie (-q) (neg_pos.2 h) (-r) (isDouble_neg r hr) (fun hh => hne (neg_eq_iff_eq_neg.1 hh)) hd
    · rw [roundDouble_of_pos q h] at hne hd
      rw [absR_of_pos q h]
      exact roundPos_tie q h r hr hne hd
  obtain ⟨m, e, h1, h2, h3, h4⟩ := roundPos_normal (absR q) (absR_pos q hq)
  exact ⟨m, e, h1, h2, h4 key, by rw [absR_roundDouble q hq, h3]⟩

/-- MONOTONE -/
theorem roundDouble_mono (p q : ℚ) (h : p ≤ q) : roundDouble p ≤ roundDouble q := by
  rcases lt_or_ge 0 p with hp | hp
  · rw [roundDouble_of_pos p hp, roundDouble_of_pos q (lt_of_lt_of_le hp h)]
    exact roundPos_mono p q hp h
  · rcases lt_or_ge q 0 with hq | hq
    · rw [roundDouble_of_neg p (lt_of_le_of_lt h hq), roundDouble_of_neg q hq]
      exact neg_le_neg (roundPos_mono (-q) (-p) (neg_pos.2 hq) (neg_le_neg h))
    · exact le_trans (roundDouble_nonpos p hp) (roundDouble_nonneg q hq)

/-- IDENTITY on the numbers with 53 significant bits: nothing is nearer to `x` than `x` itself -/
theorem roundDouble_of_isDouble (x : ℚ) (h : IsDouble x) : roundDouble x = x := by
  have := roundDouble_nearest x x h
  rwa [absR_eq, absR_eq, sub_self, abs_zero, abs_nonpos_iff, sub_eq_zero] at this

theorem normal53_isDouble (x : ℚ) (h : Normal53 x) : IsDouble x := by
  obtain ⟨m, e, h1, h2, h3⟩ := h
  rw [absR_eq] at h3
  exact (isDouble_abs_iff x).1 ⟨m, e, by omega, h3⟩

theorem roundDouble_isDouble (q : ℚ) : IsDouble (roundDouble q) := by
  rcases roundDouble_representable q with ⟨_, h⟩ | ⟨_, h⟩
  · rw [h]; exact ⟨0, 0, by simp, by simp⟩
  · exact normal53_isDouble _ h

/-- IDEMPOTENT -/
theorem roundDouble_idem (q : ℚ) : roundDouble (roundDouble q) = roundDouble q :=
  roundDouble_of_isDouble _ (roundDouble_isDouble q)

theorem isDoubleB_iff (x : ℚ) : isDoubleB x = true ↔ IsDouble x := by
  unfold isDoubleB
  rw [beq_iff_eq]
  exact ⟨fun h => h ▸ roundDouble_isDouble x, roundDouble_of_isDouble x⟩

theorem isDouble_intCast (z : Int) (h : z.natAbs ≤ 2 ^ 53) : IsDouble (z : ℚ) :=
  ⟨z, 0, h, by rw [pow2_zero, mul_one]⟩

theorem roundDouble_intCast (z : Int) (h : z.natAbs ≤ 2 ^ 53) : roundDouble (z : ℚ) = z :=
  roundDouble_of_isDouble _ (isDouble_intCast z h)

theorem isDouble_mul_pow2 (x : ℚ) (j : Int) (h : IsDouble x) : IsDouble (x * pow2 j) := by
  obtain ⟨k, e, hk, rfl⟩ := h
  exact ⟨k, e + j, hk, by rw [pow2_add]; ring⟩

/-- halving is exact (no underflow in this model) -/
theorem roundDouble_half (x : ℚ) (h : IsDouble x) : roundDouble (1 / 2 * x) = 1 / 2 * x := by
  have := isDouble_mul_pow2 x (-1) h
  rw [show pow2 (-1) = 1 / 2 by simp [pow2_eq], mul_comm] at this
  exact roundDouble_of_isDouble _ this

/-- BINARY64: on `InRange` the result is zero or a NORMAL double (exponent within the format: no overflow, no
subnormal) -/
theorem roundDouble_binary64 (q : ℚ) (h : InRange q) :
    (q = 0 ∧ roundDouble q = 0) ∨ (q ≠ 0 ∧ NormalBinary64 (roundDouble q)) := by
  by_cases hq : q = 0
  · exact .inl ⟨hq, by rw [hq, roundDouble_zero]⟩
  · obtain ⟨hlo, hhi⟩ := h.resolve_left hq
    refine .inr ⟨hq, ?_⟩
    rw [NormalBinary64, absR_roundDouble q hq]
    exact roundPos_binary64 (absR q) hlo hhi

end PhyVerif.Fl.Lemmas
