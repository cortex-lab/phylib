import PhyVerif.Model.C12b
import PhyVerif.Spec.C12
import PhyVerif.Lemmas.C11b
/-! Template-index tables (`mergeTfInd`, `Model/C12b.lean`) land in the merged template numbering. -/
namespace PhyVerif.C12.Lemmas
open PhyVerif PhyVerif.C12

theorem tf_ind_in_block (ids : List (List Nat)) (counts : List Nat) (tables : List (List (List Nat)))
    (k r j : Nat) (hk : k < ids.length) (hlenc : counts.length = ids.length) (hlent : tables.length = ids.length)
    (hr : r < (tables.getD k []).length) (hj : j < ((tables.getD k []).getD r []).length)
    (hc : ((tables.getD k []).getD r []).getD j 0 < (C11.templateSizes ids counts).getD k 0) :
    let c := ((tables.getD k []).getD r []).getD j 0
    let c' := ((mergeTfInd ids counts tables).getD (prefixSum (tables.map List.length) k + r) []).getD j 0
    let off := fun i => (C11.templateOffsets ids counts).getD i 0
    let size := fun i => (C11.templateSizes ids counts).getD i 0
    c' = c + off k ∧ off k ≤ c' ∧ c' < off k + size k ∧
    ∀ l, l < ids.length → l ≠ k → ¬ (off l ≤ c' ∧ c' < off l + size l) := by
  intro c c' off size
  have hsl : (C11.templateSizes ids counts).length = ids.length := by
    rw [C11.templateSizes, List.length_map, List.length_zip, hlenc, Nat.min_self]
  obtain ⟨hol, hoff⟩ := C11.Lemmas.sizeOffsetsFrom_spec 0 (C11.templateSizes ids counts)
  have hpre : ∀ i, i < ids.length → off i = prefixSum (C11.templateSizes ids counts) i := fun i hi =>
    (hoff i (hsl.symm ▸ hi)).trans (Nat.zero_add _)
  have hc' : c' = c + off k :=
    (tables_shifted tables _ (hol.trans (hsl.trans hlent.symm)) k r j hr).trans (if_pos hj)
  have hin : off k ≤ c' ∧ c' < off k + size k := by
    rw [hc', Nat.add_comm c]
    exact ⟨Nat.le_add_right _ _, Nat.add_lt_add_left hc _⟩
  refine ⟨hc', hin.1, hin.2, fun l hl hne => ?_⟩
  rw [hpre k hk] at hin
  rw [hpre l hl]
  exact prefixSum_blocks_disjoint _ hne hin

end PhyVerif.C12.Lemmas
