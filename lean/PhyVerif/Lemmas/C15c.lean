import PhyVerif.Model.C15c
import PhyVerif.Spec.C15c
import PhyVerif.Lemmas.C15b
import PhyVerif.Lemmas.Fl
/-! Proofs for the float part of C15 (`Model/C15c.lean`). Statements: `Props/C15.lean`. -/
namespace PhyVerif.C15.Lemmas
open PhyVerif PhyVerif.C15 PhyVerif.Fl PhyVerif.Fl.Lemmas

theorem truncInt_mono (p q : ℚ) (h : p ≤ q) : truncInt p ≤ truncInt q := by
  unfold truncInt
  split <;> split
  · exact Rat.floor_monotone h
  · next h1 h2 => exact absurd (le_trans h1 h) h2
  · next h1 h2 =>
    exact le_trans (Int.neg_nonpos_of_nonneg (floor_nonneg (-p) (neg_nonneg.mpr (le_of_not_ge h1))))
      (floor_nonneg q h2)
  · exact Int.neg_le_neg (Rat.floor_monotone (neg_le_neg h))

theorem truncInt_nonneg (q : ℚ) (h : 0 ≤ q) : 0 ≤ truncInt q := by
  rw [truncInt_eq_floor q h]; exact floor_nonneg q h

theorem samplesOfFl_sorted (rate : ℚ) (times : List ℚ) (hr : 0 < rate) (hs : times.Pairwise (· ≤ ·)) :
    (samplesOfFl rate times).Pairwise (· ≤ ·) := by
  unfold samplesOfFl
  rw [List.pairwise_map]
  exact hs.imp fun {a b} hab =>
    truncInt_mono _ _ (roundDouble_mono _ _ (mul_le_mul_of_nonneg_right hab (le_of_lt hr)))

theorem samplesOfFl_length (rate : ℚ) (times : List ℚ) : (samplesOfFl rate times).length = times.length := by
  simp [samplesOfFl]

theorem clip_ge_lo (x : ℚ) : clipLo ≤ clip x clipLo clipHi := by
  have h0 : clipLo ≤ clipHi := by unfold clipLo clipHi; norm_num
  unfold clip
  split
  · exact le_refl _
  · split
    · exact h0
    · next h _ => exact not_lt.1 h

theorem clip_pos (x : ℚ) : 0 < clip x clipLo clipHi := lt_of_lt_of_le clipLo_pos (clip_ge_lo x)

theorem halfQuotFl_pos (window bin : ℚ) : 0 < halfQuotFl window bin :=
  roundDouble_pos _ (div_pos (roundDouble_pos _ (mul_pos one_half_pos (clip_pos window))) (clip_pos bin))

theorem winsizeFl_spec (window bin : ℚ) :
    0 ≤ truncInt (halfQuotFl window bin) ∧
    winsizeBinsFl window bin = 2 * (halfOfFl window bin : Int) + 1 ∧
    (halfOfFl window bin : Int) = truncInt (halfQuotFl window bin) := by
  have h := truncInt_nonneg _ (le_of_lt (halfQuotFl_pos window bin))
  have e2 : (halfOfFl window bin : Int) = truncInt (halfQuotFl window bin) := by
    unfold halfOfFl winsizeBinsFl
    rw [odd_ediv_two, Int.toNat_of_nonneg h]
  exact ⟨h, by rw [e2]; rfl, e2⟩

theorem correlogramsFl_eq_spec (times : List ℚ) (sc : List Int) (ids : List Nat) (rate bin window : ℚ) (sym : Bool)
    (hr : 0 < rate) (hsorted : times.Pairwise (· ≤ ·)) (hlen : sc.length = times.length) (hdom : InDom sc ids)
    (hb : 1 ≤ binsizeOfFl rate bin) :
    correlogramsFl times sc (some ids) rate bin window sym =
      some (if sym then symmetrize (specCcg (samplesOfFl rate times) sc ids (binsizeOfFl rate bin) (halfOfFl window bin))
            else specCcg (samplesOfFl rate times) sc ids (binsizeOfFl rate bin) (halfOfFl window bin)) :=
  correlogramsOfInts_eq_spec _ _ _ times sc ids rate sym hr hsorted hlen hdom hb
    (samplesOfFl_sorted rate times hr hsorted) (samplesOfFl_length rate times)

theorem correlogramsFl_rejects (times : List ℚ) (sc : List Int) (ids : Option (List Nat)) (rate bin window : ℚ)
    (sym : Bool) (hb : binsizeOfFl rate bin < 1) : correlogramsFl times sc ids rate bin window sym = none := by
  unfold correlogramsFl correlogramsOfInts
  simp only [hb, ↓reduceIte, ite_self]

theorem samplesOfFl_eq_prods (rate : ℚ) (times : List ℚ) :
    samplesOfFl rate times = (prodsFl rate times).map truncInt := by
  simp [samplesOfFl, prodsFl, List.map_map, Function.comp_def]

/-! ### where rounding changes nothing -/

theorem samplesOfFl_onGrid (rate : ℚ) (times : List ℚ) (T : List Int)
    (hT : times.map (· * rate) = T.map fun (z : Int) => (z : ℚ))
    (hfit : ∀ a, a < T.length → (T.getD a 0).natAbs ≤ 2 ^ 53) :
    samplesOfFl rate times = T := by
  refine map_onGrid (fun q => truncInt (roundDouble q)) rate times T hT fun z hz => ?_
  obtain ⟨a, ha, rfl⟩ := List.mem_iff_getElem.mp hz
  rw [roundDouble_intCast _ (Np.Lemmas.getD_of_lt T a 0 ha ▸ hfit a ha), truncInt_intCast]

theorem fl_eq_exact (times : List ℚ) (rate bin window : ℚ) (T : List Int) (B : Int)
    (g : GridOK times rate bin window T B) (x : FlExact bin window T B) :
    samplesOfFl rate times = samplesOf rate times ∧ binsizeOfFl rate bin = binsizeOf rate bin ∧
    winsizeBinsFl window bin = winsizeBins window bin := by
  have hT := map_mul_onGrid times rate T g.len g.onGrid
  refine ⟨?_, ?_, ?_⟩
  · rw [samplesOfFl_onGrid rate times T hT x.samplesFit, samplesOf_onGrid rate times T hT]
  · unfold binsizeOfFl binsizeOf
    rw [clip_id _ _ _ g.bin_lo g.bin_hi, g.binGrid, roundDouble_intCast _ x.binFit]
  · unfold winsizeBinsFl winsizeBins halfQuotFl
    rw [clip_id _ _ _ g.bin_lo g.bin_hi, clip_id _ _ _ g.win_lo g.win_hi, roundDouble_half _ x.windowDouble,
      roundDouble_of_isDouble _ x.quotDouble]

theorem correlogramsFl_eq_Q (times : List ℚ) (sc : List Int) (ids : Option (List Nat)) (rate bin window : ℚ)
    (T : List Int) (B : Int) (g : GridOK times rate bin window T B) (x : FlExact bin window T B) (sym : Bool) :
    correlogramsFl times sc ids rate bin window sym = correlogramsQ times sc ids rate bin window sym := by
  obtain ⟨h1, h2, h3⟩ := fl_eq_exact times rate bin window T B g x
  rw [correlogramsQ_ofInts, ← h1, ← h2, ← h3]
  rfl

theorem correlogramsFl_as_run (times : List ℚ) (sc : List Int) (ids : Option (List Nat)) (rate bin window : ℚ)
    (sym : Bool) :
    samplesOfFl rate times = (prodsFl rate times).map truncInt ∧
    correlogramsFl times sc ids rate bin window sym =
      correlogramsOfInts ((prodsFl rate times).map truncInt) (binsizeOfFl rate bin) (winsizeBinsFl window bin)
        times sc ids rate sym :=
  ⟨samplesOfFl_eq_prods rate times, by rw [← samplesOfFl_eq_prods]; rfl⟩

end PhyVerif.C15.Lemmas
