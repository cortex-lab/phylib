import PhyVerif.Model.C03
import PhyVerif.Spec.C03
import PhyVerif.Lemmas.Np
/-! The four routes of `Model/C03.lean` one by one (statements: `Props/C03.lean`): direct extraction is a slice padded
with zeros (`padSlice_eq_map`); the chunk-wise iteration filters the sorted spikes by tiling intervals (`chain_filter`;
`intervalsTile`, `chainFrom`: `Spec/C16.lean`); the exported file loads back because `np.load` inverts flattening
(`npLoad_flatten`); the store lookup reads each query spike at its position (`lookup_some`), and on a store of scaled
windows returns `lookupSpec` (`lookup_scaled`). -/
namespace PhyVerif.C03.Lemmas
open PhyVerif PhyVerif.C16 PhyVerif.C03

variable {α : Type} [Zero α]

/-! ### `extract_eq_window` -/

theorem take_drop_pad {β : Type} (B : List β) (z : β) (m : Nat) (hm : m ≤ B.length) (n : Nat) :
    (B.drop m).take n ++ List.replicate (m + n - B.length) z =
      (List.range n).map fun i => B.getD (m + i) z := by
  induction n with
  | zero => simp [Nat.sub_eq_zero_of_le hm]
  | succ n ih =>
    rw [List.range_succ, List.map_append, ← ih, List.take_add_one, List.getElem?_drop, List.append_assoc,
      List.append_assoc, List.map_singleton, List.getD_eq_getElem?_getD]
    congr 1
    by_cases h : m + n < B.length
    · rw [List.getElem?_eq_getElem h, Nat.sub_eq_zero_of_le (Nat.le_of_lt h),
        Nat.sub_eq_zero_of_le (show m + (n + 1) ≤ B.length from h)]
      rfl
    · have hle := Nat.le_of_not_lt h
      rw [List.getElem?_eq_none hle, ← Nat.add_assoc, Nat.sub_add_comm hle, List.replicate_succ']
      rfl

/-- the shape `_extract_waveform` assembles: `-t0` rows of zeros if `t0 < 0`, the slice `B[max(0, t0) : t0 + n]`, and zeros
for the rows of the slice beyond the end of `B` -/
def padSlice (B : List (List α)) (z : List α) (t0 : Int) (n : Nat) : List (List α) :=
  List.replicate (-t0).toNat z ++ rowsSlice B (max 0 t0) (t0 + n) ++ List.replicate (t0 + n - B.length).toNat z

omit [Zero α] in
/-- `f`: any way of reading row `r : Int` of `B` that gives `z` outside `B` -/
theorem padSlice_eq_map (B : List (List α)) (z : List α) (f : Int → List α) (hneg : ∀ r < 0, f r = z)
    (hnat : ∀ j : Nat, f j = B.getD j z) (t0 : Int) (n : Nat) (h0 : t0 ≤ B.length) (h1 : 0 ≤ t0 + n) :
    padSlice B z t0 n = (List.range n).map fun (i : Nat) => f (t0 + i) := by
  unfold padSlice rowsSlice
  by_cases h : 0 ≤ t0
  · -- `t0 = m ≥ 0`: no zeros in front
    obtain ⟨m, rfl⟩ := Int.eq_ofNat_of_zero_le h
    simp only [Int.toNat_neg_natCast, Int.max_eq_right h, ← Int.natCast_add, Int.toNat_natCast, Int.toNat_sub,
      Nat.add_sub_cancel_left, List.replicate_zero, List.nil_append]
    rw [take_drop_pad B z m (Int.ofNat_le.1 h0)]
    exact List.map_congr_left fun i _ => (hnat (m + i)).symm
  · -- `t0 = -L < 0`, `n = L + k`: `L` rows of zeros, then the padded slice from row 0
    obtain ⟨L, rfl⟩ := Int.exists_eq_neg_ofNat (Int.le_of_not_le h)
    obtain ⟨k, rfl⟩ := Nat.exists_eq_add_of_le (show L ≤ n by omega)
    simp only [Int.neg_neg, Int.toNat_natCast, Int.max_eq_left (Int.le_of_not_le h), Int.natCast_add,
      Int.neg_add_cancel_left, Int.toNat_sub, Int.toNat_zero, Nat.sub_zero, List.drop_zero]
    have hp := take_drop_pad B z 0 (Nat.zero_le _) k
    simp only [Nat.zero_add, List.drop_zero] at hp
    rw [List.append_assoc, hp, List.range_add, List.map_append, List.map_map]
    congr 1
    · symm
      rw [List.eq_replicate_iff, List.length_map, List.length_range]
      refine ⟨rfl, fun r hr => ?_⟩
      obtain ⟨i, hi, rfl⟩ := List.mem_map.1 hr
      have hi := List.mem_range.1 hi
      exact hneg _ (by omega)
    · refine List.map_congr_left fun j _ => ?_
      rw [← hnat, Function.comp_apply, Int.natCast_add, Int.neg_add_cancel_left]

/-- `row[ch]` with the −1 columns zeroed, as a function of the raw row -/
def mrow (ch : List Int) (row : List α) : List α :=
  ch.map fun c => if c ≠ -1 then row.getD c.toNat 0 else 0

theorem row_pick (nch : Nat) (row : List α) (ch : List Int) (hch : ChOK nch ch) :
    ((ch.map (pickCol row)).zip ch).map (fun (v, c) => if c == -1 then 0 else v) = mrow ch row := by
  rw [List.zip_eq_zipWith, List.map_zipWith, List.zipWith_map_left, List.zipWith_self]
  refine List.map_congr_left fun c hc => ?_
  rcases hch c hc with rfl | ⟨h0, _⟩
  · rfl
  · have hne : c ≠ -1 := by omega
    dsimp only
    rw [if_neg (mt beq_iff_eq.1 hne), if_pos hne, pickCol, if_neg (Int.not_lt.2 h0)]

theorem rowsSlice_pick (A : List (List α)) (nch : Nat) (ch : List Int) (hch : ChOK nch ch) (lo hi : Int) :
    ((rowsSlice A lo hi).map fun row => ch.map (pickCol row)).map
        (fun row => (row.zip ch).map fun (v, c) => if c == -1 then 0 else v) =
      rowsSlice (A.map (mrow ch)) lo hi := by
  rw [List.map_map, rowsSlice, rowsSlice, List.map_take, List.map_drop]
  congr 2
  exact List.map_congr_left fun row _ => row_pick nch row ch hch

theorem extract_form (A : List (List α)) (nch : Nat) (s : Int) (n : Nat) (ch : List Int) (hch : ChOK nch ch) :
    extractWaveform A s n ch =
      padSlice (A.map (mrow ch)) (List.replicate ch.length 0) (s - (n / 2 : Nat)) n := by
  unfold extractWaveform padSlice
  dsimp only
  rw [show (n : Int) / 2 = ((n / 2 : Nat) : Int) from (Int.natCast_ediv n 2).symm,
    show s + ((n : Int) - ((n / 2 : Nat) : Int)) = s - ((n / 2 : Nat) : Int) + n by omega,
    rowsSlice_pick A nch ch hch, List.length_map]
  generalize s - ((n / 2 : Nat) : Int) = t0
  unfold zeroRows
  generalize rowsSlice (A.map (mrow ch)) (max 0 t0) (t0 + n) = w
  generalize List.replicate ch.length (0 : α) = z
  -- a side the window does not leave gets no block in the code and an empty one in `padSlice`
  have hpre : (if t0 < 0 then List.replicate (-t0).toNat z ++ w else w) = List.replicate (-t0).toNat z ++ w := by
    split
    · rfl
    · next h =>
      rw [Int.toNat_of_nonpos (Int.neg_nonpos_of_nonneg (Int.not_lt.1 h))]
      rfl
  rw [hpre]
  split
  · rfl
  · next h =>
    rw [Int.toNat_of_nonpos (Int.sub_nonpos_of_le (Int.not_lt.1 h))]
    exact (List.append_nil _).symm

/-- row `r` of the recording as `window` shows it: channels `ch`, zeros if `r` is outside the recording -/
def wrow (A : List (List α)) (ch : List Int) (r : Int) : List α :=
  ch.map fun c => if 0 ≤ r ∧ r < (A.length : Int) ∧ c ≠ -1 then (A.getD r.toNat []).getD c.toNat 0 else 0

theorem window_eq_wrow (A : List (List α)) (s : Int) (n : Nat) (ch : List Int) :
    window A s n ch = (List.range n).map fun (i : Nat) => wrow A ch (s - (n / 2 : Nat) + i) := rfl

theorem wrow_out (A : List (List α)) (ch : List Int) (r : Int) (h : ¬ (0 ≤ r ∧ r < (A.length : Int))) :
    wrow A ch r = List.replicate ch.length 0 := by
  have : ∀ c : Int, ¬ (0 ≤ r ∧ r < (A.length : Int) ∧ c ≠ -1) := fun c hc => h ⟨hc.1, hc.2.1⟩
  simp only [wrow, this, if_false]
  exact List.map_const' ..

theorem wrow_natCast (A : List (List α)) (ch : List Int) (j : Nat) :
    wrow A ch j = (A.map (mrow ch)).getD j (List.replicate ch.length 0) := by
  rw [List.getD_eq_getElem?_getD, List.getElem?_map]
  by_cases hj : j < A.length
  · have hj' : (j : Int) < A.length := Int.ofNat_lt.2 hj
    simp only [wrow, mrow, List.getD_eq_getElem?_getD, List.getElem?_eq_getElem hj, Int.toNat_natCast,
      Int.natCast_nonneg, hj', true_and, Option.map_some, Option.getD_some]
  · rw [List.getElem?_eq_none (Nat.le_of_not_lt hj), wrow_out A ch j fun h => hj (Int.ofNat_lt.1 h.2)]
    rfl

/-- the window may begin anywhere up to the end of the recording and must not end before its first row: the samples
`-(n - n/2) ≤ s ≤ dur + n/2`, some of them outside the recording -/
theorem extract_eq_window_of_overlap (A : List (List α)) (nch : Nat) (s : Int) (n : Nat) (ch : List Int)
    (hch : ChOK nch ch) (h0 : s - (n / 2 : Nat) ≤ A.length) (h1 : 0 ≤ s - (n / 2 : Nat) + n) :
    extractWaveform A s n ch = window A s n ch := by
  rw [extract_form A nch s n ch hch, window_eq_wrow]
  exact padSlice_eq_map _ _ (wrow A ch) (fun r hr => wrow_out A ch r fun h => Int.not_le.2 hr h.1)
    (wrow_natCast A ch) _ n (by rwa [List.length_map]) h1

theorem extract_eq_window (A : List (List α)) (nch : Nat) (s : Int)
    (hs0 : 0 ≤ s) (hs : s < A.length) (n : Nat) (ch : List Int) (hch : ChOK nch ch) :
    extractWaveform A s n ch = window A s n ch := by
  refine extract_eq_window_of_overlap A nch s n ch hch ?_ ?_
  · exact Int.le_trans (Int.sub_le_self s (Int.natCast_nonneg _)) (Int.le_of_lt hs)
  · -- of the division only `n / 2 ≤ n` matters; `omega` is slow when it sees it
    have ha : ((n / 2 : Nat) : Int) ≤ n := Int.ofNat_le.2 (Nat.div_le_self n 2)
    generalize ((n / 2 : Nat) : Int) = a at ha ⊢
    omega

theorem extract_all_eq_window (A : List (List α)) (nch : Nat) (samples : List Int) (chans : List (List Int))
    (hb : ∀ s ∈ samples, 0 ≤ s ∧ s < A.length) (n : Nat) (hch : ∀ c ∈ chans, ChOK nch c) :
    ∀ sc ∈ samples.zip chans, extractWaveform A sc.1 n sc.2 = window A sc.1 n sc.2 := by
  intro z hz
  have hz' := List.of_mem_zip (a := z.1) (b := z.2) hz
  exact extract_eq_window A nch z.1 (hb z.1 hz'.1).1 (hb z.1 hz'.1).2 n z.2 (hch z.2 hz'.2)

/-! ### `iter_concat_eq_map` -/

theorem ssRight_pair (a b x : Int) (hab : a ≤ b) :
    (Np.ssRight [a, b] x == 1) = (decide (a ≤ x) && decide (x < b)) := by
  simp only [Np.ssRight, List.countP_cons, List.countP_nil]
  by_cases h1 : a ≤ x
  · by_cases h2 : b ≤ x
    · simp [h1, h2, Int.not_lt.2 h2]
    · simp [h1, h2, Int.not_le.1 h2]
  · simp [h1, Int.lt_of_lt_of_le (Int.not_le.1 h1) hab]

theorem pairwise_zip_fst {β : Type} : ∀ (l : List Int) (c : List β), l.Pairwise (· ≤ ·) →
    (l.zip c).Pairwise (fun x y => x.1 ≤ y.1)
  | [], _, _ => by simp
  | _ :: _, [], _ => by simp
  | x :: l, c :: cs, h => by
    rw [List.pairwise_cons] at h
    rw [List.zip_cons_cons, List.pairwise_cons]
    exact ⟨fun y hy => h.1 y.1 (List.of_mem_zip (b := y.2) hy).1, pairwise_zip_fst l cs h.2⟩

theorem filter_split {β : Type} (a b : Int) (hab : a ≤ b) (Z : List (Int × β))
    (hZ : Z.Pairwise (fun x y => x.1 ≤ y.1)) :
    Z.filter (fun z => decide (a ≤ z.1) && decide (z.1 < b)) ++ Z.filter (fun z => decide (b ≤ z.1)) =
      Z.filter (fun z => decide (a ≤ z.1)) := by
  induction Z with
  | nil => rfl
  | cons z t ih =>
    rw [List.pairwise_cons] at hZ
    by_cases h2 : z.1 < b
    · -- `z` is not `≥ b`, and in `[a, b)` iff it is `≥ a`
      by_cases h1 : a ≤ z.1 <;> simp [h1, h2, Int.not_le.2 h2, ih hZ.2]
    · -- `z` and all that follows is `≥ b ≥ a`
      have hzb : b ≤ z.1 := Int.not_lt.1 h2
      have hge : ∀ y ∈ z :: t, b ≤ y.1 := fun y hy =>
        (List.mem_cons.1 hy).elim (fun e => e ▸ hzb) fun hy => Int.le_trans hzb (hZ.1 y hy)
      rw [List.filter_eq_nil_iff.2, List.nil_append]
      · exact List.filter_congr fun y hy => by
          rw [decide_eq_true (hge y hy), decide_eq_true (Int.le_trans hab (hge y hy))]
      · intro y hy
        rw [decide_eq_false (Int.not_lt.2 (hge y hy)), Bool.and_false]
        exact Bool.false_ne_true

theorem chain_filter {β : Type} (dur : Nat) (Z : List (Int × β))
    (hZ : Z.Pairwise (fun x y => x.1 ≤ y.1)) (hlt : ∀ z ∈ Z, z.1 < (dur : Int)) (ivs : List (Nat × Nat)) :
    ∀ (cur : Nat), chainFrom cur ivs = some dur →
      (ivs.map fun iv => Z.filter fun z => Np.ssRight [(iv.1 : Int), (iv.2 : Int)] z.1 == 1).flatten =
        Z.filter (fun z => decide ((cur : Int) ≤ z.1)) := by
  induction ivs with
  | nil =>
    intro cur h
    obtain rfl : cur = dur := Option.some.inj h
    refine (List.filter_eq_nil_iff.2 fun z hz => ?_).symm
    rw [decide_eq_false (Int.not_le.2 (hlt z hz))]
    exact Bool.false_ne_true
  | cons iv t ih =>
    obtain ⟨a, b⟩ := iv
    intro cur h
    rw [List.map_cons, List.flatten_cons]
    by_cases hab : a = b
    · -- an empty interval holds no spike
      subst hab
      rw [chainFrom, if_pos (beq_self_eq_true a)] at h
      rw [ih cur h, List.filter_eq_nil_iff.2, List.nil_append]
      intro z _
      rw [ssRight_pair _ _ _ (Int.le_refl _)]
      simp
    · rw [chainFrom, if_neg (by rwa [beq_iff_eq])] at h
      split at h
      · rename_i hc
        rw [Bool.and_eq_true, beq_iff_eq, decide_eq_true_eq] at hc
        obtain ⟨rfl, hlt'⟩ := hc
        have hle : (a : Int) ≤ b := Int.ofNat_le.2 (Nat.le_of_lt hlt')
        rw [ih b h, List.filter_congr fun z _ => ssRight_pair a b z.1 hle]
        exact filter_split (a : Int) (b : Int) hle Z hZ
      · cases h

theorem iter_concat_eq_map (A : List (List α)) (ivs : List (Nat × Nat))
    (hT : intervalsTile A.length ivs = true) (spikes : List Int) (chans : List (List Int))
    (hsorted : spikes.Pairwise (· ≤ ·))
    (hb : ∀ s ∈ spikes, 0 ≤ s ∧ s < A.length) (n : Nat) :
    (iterWaveforms A ivs spikes chans n).flatten =
      (spikes.zip chans).map fun sc => extractWaveform A sc.1 n sc.2 := by
  have hchain : chainFrom 0 ivs = some A.length := by
    simpa [intervalsTile] using hT
  have hZ := pairwise_zip_fst spikes chans hsorted
  have hmem : ∀ z ∈ spikes.zip chans, 0 ≤ z.1 ∧ z.1 < (A.length : Int) := fun z hz =>
    hb z.1 (List.of_mem_zip (b := z.2) hz).1
  -- the spikes from `cur = 0` on are all of them
  have key := (chain_filter A.length (spikes.zip chans) hZ (fun z hz => (hmem z hz).2) ivs 0 hchain).trans
    (List.filter_eq_self.2 fun z hz => decide_eq_true (hmem z hz).1)
  unfold iterWaveforms
  rw [List.flatten_filter_ne_nil]
  conv => rhs; rw [← key]
  rw [List.map_flatten, List.map_map]
  rfl

/-! ### `export_loads_windows` -/

omit [Zero α] in
theorem chunk_flatten (k : Nat) : ∀ (xs : List (List α)), (∀ x ∈ xs, x.length = k) →
    chunk k xs.length xs.flatten = xs
  | [], _ => rfl
  | x :: xs, hk => by
    have hx := hk x List.mem_cons_self
    rw [List.length_cons, chunk, List.flatten_cons, List.take_left' hx, List.drop_left' hx,
      chunk_flatten k xs fun y hy => hk y (List.mem_cons_of_mem _ hy)]

omit [Zero α] in
theorem npLoad_flatten (Ws : List (List (List α))) (n nloc : Nat) (h1 : ∀ w ∈ Ws, w.length = n)
    (h2 : ∀ w ∈ Ws, ∀ row ∈ w, row.length = nloc) :
    npLoad ⟨(Ws.length, n, nloc), (Ws.map List.flatten).flatten⟩ = some Ws := by
  have hflat : ∀ x ∈ Ws.map List.flatten, x.length = n * nloc := by
    intro x hx
    obtain ⟨w, hw, rfl⟩ := List.mem_map.1 hx
    rw [Np.Lemmas.length_flatten_const nloc w (h2 w hw), h1 w hw]
  have hlen : (Ws.map List.flatten).flatten.length = Ws.length * n * nloc := by
    rw [Np.Lemmas.length_flatten_const (n * nloc) _ hflat, List.length_map, Nat.mul_assoc]
  simp only [npLoad]
  have hchunk := chunk_flatten (n * nloc) _ hflat
  rw [List.length_map] at hchunk
  rw [if_pos hlen, hchunk, List.map_map]
  exact congrArg some
    ((List.map_congr_left fun w hw => h1 w hw ▸ chunk_flatten nloc w (h2 w hw)).trans (List.map_id Ws))

theorem length_window (A : List (List α)) (s : Int) (n : Nat) (ch : List Int) :
    (window A s n ch).length = n := by
  rw [window, List.length_map, List.length_range]

theorem length_row_window (A : List (List α)) (s : Int) (n : Nat) (ch : List Int) :
    ∀ row ∈ window A s n ch, row.length = ch.length := by
  intro row hrow
  obtain ⟨i, _, rfl⟩ := List.mem_map.1 hrow
  exact List.length_map _

theorem export_loads_windows (scale : α → α) (A : List (List α)) (nch : Nat)
    (ivs : List (Nat × Nat)) (hT : intervalsTile A.length ivs = true) (spikes : List Int)
    (chans : List (List Int)) (hlen : chans.length = spikes.length)
    (hsorted : spikes.Pairwise (· ≤ ·)) (hb : ∀ s ∈ spikes, 0 ≤ s ∧ s < A.length) (n : Nat)
    (nloc : Nat) (hch : ∀ c ∈ chans, c.length = nloc ∧ ChOK nch c) :
    npLoad (exportWaveforms scale A ivs spikes chans n nloc) =
      some ((spikes.zip chans).map fun sc => (window A sc.1 n sc.2).map fun row => row.map scale) := by
  have hext : ((spikes.zip chans).map fun sc => extractWaveform A sc.1 n sc.2) =
      (spikes.zip chans).map fun sc => window A sc.1 n sc.2 :=
    List.map_congr_left (extract_all_eq_window A nch spikes chans hb n fun c hc => (hch c hc).2)
  have hfile : exportWaveforms scale A ivs spikes chans n nloc =
      ⟨(((spikes.zip chans).map fun sc => scaleW scale (window A sc.1 n sc.2)).length, n, nloc),
        (((spikes.zip chans).map fun sc => scaleW scale (window A sc.1 n sc.2)).map List.flatten).flatten⟩ := by
    simp only [exportWaveforms, iter_concat_eq_map A ivs hT spikes chans hsorted hb n, hext,
      List.map_map, List.length_map, List.length_zip, hlen, Nat.min_self]
    rfl
  rw [hfile]
  refine npLoad_flatten _ n nloc (List.forall_mem_map.2 fun z _ => ?_) (List.forall_mem_map.2 fun z hz row hrow => ?_)
  · rw [scaleW, List.length_map, length_window]
  · obtain ⟨row', hrow', rfl⟩ := List.mem_map.1 hrow
    rw [List.length_map, length_row_window A z.1 n z.2 row' hrow', (hch z.2 (List.of_mem_zip (a := z.1) hz).2).1]

/-! ### `lookup_eq_window` -/

theorem lookup_some (st : Store α) (hl1 : st.spikeChannels.length = st.spikeIds.length)
    (hl2 : st.waveforms.length = st.spikeIds.length) (query : List Nat) (hq : ∀ q ∈ query, q ∈ st.spikeIds)
    (chq : List Nat) (n : Nat) (hn : 0 < n) (hchq : chq ≠ []) :
    getSpikeWaveforms st query chq n = some (query.map fun q =>
      let ind := st.spikeChannels.getD (st.spikeIds.idxOf q) []
      (List.range n).map fun r => chq.map fun (c : Nat) =>
        if ind.contains (Int.ofNat c)
        then ((st.waveforms.getD (st.spikeIds.idxOf q) []).getD r []).getD (ind.idxOf (Int.ofNat c)) 0 else 0) := by
  have hall : query.all st.spikeIds.contains = true :=
    List.all_eq_true.2 fun q hq' => List.contains_iff_mem.mpr (hq q hq')
  have hnz : (n == 0 || chq.isEmpty) = false :=
    Bool.or_eq_false_iff.2 ⟨beq_eq_false_iff_ne.2 (Nat.ne_of_gt hn), List.isEmpty_eq_false_iff.2 hchq⟩
  rw [getSpikeWaveforms, hall, hnz, Bool.not_true, if_neg Bool.false_ne_true, if_neg Bool.false_ne_true]
  apply Np.Lemmas.mapM_option_eq_some
  intro q hq'
  have hp : st.spikeIds.idxOf q < st.spikeIds.length := List.idxOf_lt_length_of_mem (hq q hq')
  simp only [List.getD_eq_getElem?_getD, List.getElem?_eq_getElem (hl1 ▸ hp), List.getElem?_eq_getElem (hl2 ▸ hp),
    Option.getD_some]

theorem getElem?_window (A : List (List α)) (s : Int) (n : Nat) (ch : List Int) (i : Nat) (hi : i < n) :
    (window A s n ch)[i]? = some (ch.map (wcell A s n i)) := by
  rw [window_eq_wcell, List.getElem?_map, List.getElem?_range hi]
  rfl

theorem scaled_cell (scale : α → α) (A : List (List α)) (s : Int) (n : Nat) (ind : List Int)
    (r : Nat) (hr : r < n) (c : Int) (hc : c ∈ ind) :
    ((scaleW scale (window A s n ind)).getD r []).getD (ind.idxOf c) 0 = scale (wcell A s n r c) := by
  have hlt : ind.idxOf c < ind.length := List.idxOf_lt_length_of_mem hc
  simp only [List.getD_eq_getElem?_getD, scaleW, List.getElem?_map, getElem?_window A s n ind r hr, Option.map_some,
    Option.getD_some, List.getElem?_eq_getElem hlt, List.getElem_idxOf hlt]

theorem lookup_scaled (scale : α → α) (st : Store α) (A : List (List α)) (samples : List Int) (n : Nat)
    (hl1 : st.spikeChannels.length = st.spikeIds.length) (hl2 : st.waveforms.length = st.spikeIds.length)
    (hstore : ∀ p, p < st.spikeIds.length →
      st.waveforms.getD p [] = scaleW scale (window A (samples.getD p 0) n (st.spikeChannels.getD p [])))
    (query : List Nat) (hq : ∀ q ∈ query, q ∈ st.spikeIds) (chq : List Nat) (hn : 0 < n) (hchq : chq ≠ []) :
    getSpikeWaveforms st query chq n = some (query.map fun q =>
      lookupSpec scale A (samples.getD (st.spikeIds.idxOf q) 0) n
        (st.spikeChannels.getD (st.spikeIds.idxOf q) []) chq) := by
  refine (lookup_some st hl1 hl2 query hq chq n hn hchq).trans (congrArg some (List.map_congr_left fun q hq' => ?_))
  rw [hstore _ (List.idxOf_lt_length_of_mem (hq q hq'))]
  refine List.map_congr_left fun r hr => List.map_congr_left fun c _ => ?_
  split
  · rename_i hc
    exact scaled_cell scale A _ n _ r (List.mem_range.1 hr) _ (List.contains_iff_mem.mp hc)
  · rfl

omit [Zero α] in
theorem scaleW_id (w : List (List α)) : scaleW id w = w := by
  rw [scaleW, List.map_congr_left fun row _ => List.map_id row, List.map_id']

theorem lookup_eq_window (st : Store α) (A : List (List α)) (samples : List Int) (n : Nat)
    (hl1 : st.spikeChannels.length = st.spikeIds.length) (hl2 : st.waveforms.length = st.spikeIds.length)
    (hstore : ∀ p, p < st.spikeIds.length →
      st.waveforms.getD p [] = window A (samples.getD p 0) n (st.spikeChannels.getD p []))
    (query : List Nat) (hq : ∀ q ∈ query, q ∈ st.spikeIds) (chq : List Nat)
    (hn : 0 < n) (hchq : chq ≠ []) :
    getSpikeWaveforms st query chq n = some (query.map fun q =>
      let p := st.spikeIds.idxOf q
      (List.range n).map fun r => chq.map fun (c : Nat) =>
        if (st.spikeChannels.getD p []).contains (Int.ofNat c)
        then ((window A (samples.getD p 0) n [Int.ofNat c]).getD r []).getD 0 0 else 0) := by
  refine (lookup_scaled id st A samples n hl1 hl2 (fun p hp => (hstore p hp).trans (scaleW_id _).symm) query hq chq hn
    hchq).trans (congrArg some ?_)
  refine List.map_congr_left fun q _ => List.map_congr_left fun r hr => List.map_congr_left fun c _ => ?_
  simp only [List.getD_eq_getElem?_getD, getElem?_window _ _ _ _ r (List.mem_range.1 hr), Option.getD_some,
    List.map_cons, List.getElem?_cons_zero, id]

end PhyVerif.C03.Lemmas
