import PhyVerif.Model.C16e
import PhyVerif.Lemmas.C16d
/-! Proofs for the chunk-length envelope of non-binary64 sample rates (`Model/C16e.lean`), for the compressed iterator at
batch size 0, and the witness that the float product matters.  Statements: `Props/C16.lean`. -/
namespace PhyVerif.C16.Lemmas
open PhyVerif.C16 PhyVerif.Fl PhyVerif.Fl.Lemmas

theorem envSlack_nonneg (p : Nat) (rate : ℚ) : 0 ≤ envSlack p rate := by
  have := relErr_nonneg (-(p : Int)) (defaultChunkDuration * rate)
  unfold envSlack
  linarith

theorem chunkSizeLo_le_iff (p : Nat) (rate : ℚ) (z : Int) :
    chunkSizeLo p rate ≤ z ↔ 600 * rate - 1 / 2 - pow2 (-(p : Int)) * absR (600 * rate) ≤ (z : ℚ) := by
  unfold chunkSizeLo envSlack defaultChunkDuration
  rw [neg_le, Rat.le_floor_iff, Int.cast_neg, neg_le_neg_iff, sub_sub]

theorem le_chunkSizeHi_iff (p : Nat) (rate : ℚ) (z : Int) :
    z ≤ chunkSizeHi p rate ↔ (z : ℚ) ≤ 600 * rate + 1 / 2 + pow2 (-(p : Int)) * absR (600 * rate) := by
  unfold chunkSizeHi envSlack defaultChunkDuration
  rw [Rat.le_floor_iff, add_assoc]

theorem pyRound_in_envelope (p : Nat) (rate y : ℚ)
    (h : absR (y - 600 * rate) ≤ pow2 (-(p : Int)) * absR (600 * rate)) :
    chunkSizeLo p rate ≤ pyRound y ∧ pyRound y ≤ chunkSizeHi p rate := by
  rw [chunkSizeLo_le_iff, le_chunkSizeHi_iff]
  exact pyRound_near _ y _ h

theorem chunkSizeFl_in_envelope (rate : ℚ) :
    chunkSizeLo 53 rate ≤ chunkSizeFl rate ∧ chunkSizeFl rate ≤ chunkSizeHi 53 rate := by
  unfold chunkSizeFl defaultChunkDuration
  exact pyRound_in_envelope 53 rate _ (roundDouble_rel (600 * rate))

theorem envelope_nonempty (p : Nat) (rate : ℚ) :
    chunkSizeLo p rate ≤ chunkSize rate ∧ chunkSize rate ≤ chunkSizeHi p rate := by
  unfold chunkSize defaultChunkDuration
  exact pyRound_in_envelope p rate _ (relErr_self _ _)

theorem envelope_decides (p : Nat) (rate y : ℚ)
    (h : absR (y - 600 * rate) ≤ pow2 (-(p : Int)) * absR (600 * rate)) :
    (chunkSizeHi p rate ≤ 0 → pyRound y ≤ 0) ∧ (1 ≤ chunkSizeLo p rate → 0 < pyRound y) := by
  obtain ⟨h1, h2⟩ := pyRound_in_envelope p rate y h
  constructor <;> intro h' <;> omega

theorem iterChunksMts_bs_zero (cb : List Nat) : iterChunksMts 0 cb = [] := by
  simp [iterChunksMts, iterMtsIdx, nBatches]

theorem iterChunksMts_bs_zero_not_tile (cb : List Nat) (n : Nat) (hn : 0 < n) :
    intervalsTile n (iterChunksMts 0 cb) = false := by
  simp [iterChunksMts_bs_zero, intervalsTile, chainFrom, Nat.ne_of_lt hn]

theorem chunkSizeFl_ne_chunkSize_witness :
    chunkSizeFl (3242591731706757 / 144115188075855872) = 14 ∧
    chunkSize (3242591731706757 / 144115188075855872) = 13 := by decide +kernel

end PhyVerif.C16.Lemmas
