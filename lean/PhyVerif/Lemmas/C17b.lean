import PhyVerif.Lemmas.C17
/-! The stride-independent reading of C17 (`keptOKAny`, `SpecOKIn` of `Spec/C17.lean`). Core Lean only. -/
namespace PhyVerif.C17.Lemmas
open PhyVerif PhyVerif.C17

/-! Each predicate that names the code's stride is, by definition, the stride-independent one taken at the code's
stride, or at the intervals it keeps. -/

theorem keptIntervals_eq_at (bounds : List Int) (nKept : Nat) :
    keptIntervals bounds nKept = keptIntervalsAt bounds (stride (bounds.length - 1) nKept) := rfl

theorem inKept_eq_inIvs (bounds : List Int) (nKept : Nat) (t : Int) :
    inKept bounds nKept t = inIvs (keptIntervals bounds nKept) t := rfl

theorem eligibleSpec_eq_in (x : Inp) (c : Nat) :
    eligibleSpec x c = eligibleSpecIn (keptIntervals x.bounds x.nKept) x c := rfl

theorem specOK_eq_in (x : Inp) (out : List Nat) :
    SpecOK x out = SpecOKIn (keptIntervals x.bounds x.nKept) x out := rfl

theorem pairsOf_flatOf (ivs : List (Int × Int)) : pairsOf (flatOf ivs) = ivs := by
  induction ivs with
  | nil => rfl
  | cons p t ih => exact congrArg (p :: ·) ih

theorem stride_le (n k : Nat) (hn : 1 ≤ n) (hk : 1 ≤ k) : stride n k ≤ n :=
  (stride_le_iff n k n hk hn).2 (Nat.le_mul_of_pos_right n hk)

theorem chunksKept_any_stride (bounds : List Int) (nKept : Nat) (hg : GridOK bounds) (hk : 1 ≤ nKept) :
    keptOKAny bounds nKept (chunksKept bounds nKept) = true := by
  unfold keptOKAny
  rw [List.any_eq_true]
  have hs := stride_pos (bounds.length - 1) nKept
  have hle := stride_le (bounds.length - 1) nKept (Nat.le_sub_one_of_lt hg.1) hk
  refine ⟨stride (bounds.length - 1) nKept - 1,
    List.mem_range.mpr (Nat.lt_of_lt_of_le (Nat.sub_lt hs Nat.one_pos) (Nat.le_trans hle (Nat.sub_le _ _))), ?_⟩
  rw [Nat.sub_add_cancel hs, ← keptIntervals_eq_at]
  exact chunksKept_ok bounds nKept hk

theorem stride_minimal (n k : Nat) (hk : 1 ≤ k) :
    (n + stride n k - 1) / stride n k ≤ k ∧
    ∀ s, 1 ≤ s → (n + s - 1) / s ≤ k → stride n k ≤ s := by
  refine ⟨chunkCount_le n k hk, fun s hs h => ?_⟩
  -- ⌈n/s⌉ ≤ k  →  n ≤ k·s  →  ⌈n/k⌉ ≤ s
  rw [ceilDiv_le_iff n s k hs, Nat.mul_comm] at h
  exact (stride_le_iff n k s hk hs).2 h

end PhyVerif.C17.Lemmas
