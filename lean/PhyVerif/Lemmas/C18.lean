import PhyVerif.Model.C18
import PhyVerif.Model.C18b
import PhyVerif.Spec.C18
import PhyVerif.Lemmas.Np
/-! JSON values and tables of cells (`Model/C18.lean`, `Model/C18b.lean`): `decode ∘ encode = canon`, arrays keep
every element under any memory layout, `readTsv ∘ writeTsv` gives the rows back, and `toString` on `Int` meets
`IntStrOK`. -/
namespace PhyVerif.C18.Lemmas
open PhyVerif PhyVerif.C18

theorem decodeList_ofInts : ∀ (items : List Int), decodeList (ofInts items) = ofInts items
  | [] => rfl
  | i :: is => congrArg (PVList.cons (.int i)) (decodeList_ofInts is)

theorem natsOf_ofNats : ∀ (l : List Nat), natsOf (ofNats l) = l
  | [] => rfl
  | n :: ns => congrArg (n :: ·) (natsOf_ofNats ns)

theorem decode_marker (dtype : String) (shape : List Nat) (items : List Int) :
    decode (marker dtype shape items) = .arr dtype shape (cStrides shape) 0 items := by
  simp [marker, decode, findArr, findKey, fromMarker, natsOf_ofNats]

/-- a user dictionary without the reserved keys is not mistaken for an encoded array / Qt array -/
theorem findArr_encodeDict : ∀ (kv : PVDict), WFDict kv →
    findArr (encodeDict kv) = none ∧ findKey "__qbytearray__" (encodeDict kv) = none
  | .nil, _ => by simp [encodeDict, findArr, findKey]
  | .cons k v t, h => by
    have ih := findArr_encodeDict t h.2.2.2
    simp only [findArr] at ih
    simp [encodeDict, findArr, findKey, h.1, h.2.1, ih.1, ih.2]

theorem decode_dict {kv : PVDict} (h : findArr kv = none ∧ findKey "__qbytearray__" kv = none) :
    decode (.dict kv) = .dict (decodeDict kv) := by
  rw [decode, h.1, h.2]

theorem decode_encode_arr (dtype : String) (shape : List Nat) (st : List Int) (off : Int) (mem : List Int) :
    decode (encode (.arr dtype shape st off mem)) = canon (.arr dtype shape st off mem) :=
  match shape with
  | [] => decode_marker ..
  | [n] => by
    -- `encode` and `canon` make the same test: a short array of a listable dtype becomes the list of its items
    show decode (if n ≤ 10 && !noListDtype dtype then _ else _) = if n ≤ 10 && !noListDtype dtype then _ else _
    split
    · exact congrArg PV.list (decodeList_ofInts _)
    · exact decode_marker ..
  | _ :: _ :: _ => decode_marker ..

/- The equations of `encode`, `decode`, `canon` hold by unfolding, so the steps below are congruences. -/
mutual
theorem value_roundtrip (v : PV) (h : WF v) : decode (encode v) = canon v :=
  match v, h with
  | .none, _ => rfl
  | .bool _, _ => rfl
  | .int _, _ => rfl
  | .float _, _ => rfl
  | .str _, _ => rfl
  | .npScalar _, _ => rfl
  | .npExotic dtype tok, _ => decode_marker dtype [] [tok]
  | .payload _ _, _ => rfl
  | .arr .., _ => decode_encode_arr ..
  | .list l, h => congrArg PV.list (vrL l h)
  | .dict kv, h => (decode_dict (findArr_encodeDict kv h)).trans (congrArg PV.dict (vrD kv h))
theorem vrL : ∀ (l : PVList), WFList l → decodeList (encodeList l) = canonList l
  | .nil, _ => rfl
  | .cons x t, h =>
    show PVList.cons _ _ = PVList.cons _ _ from congr (congrArg _ (value_roundtrip x h.1)) (vrL t h.2)
theorem vrD : ∀ (kv : PVDict), WFDict kv → decodeDict (encodeDict kv) = canonDict kv
  | .nil, _ => rfl
  | .cons k x t, h =>
    show PVDict.cons k _ _ = PVDict.cons k _ _ from congr (congrArg _ (value_roundtrip x h.2.2.1)) (vrD t h.2.2.2)
end

theorem length_flatMap_range {α : Type} (f : Nat → List α) (n k : Nat) (h : ∀ i, (f i).length = k) :
    ((List.range n).flatMap f).length = n * k := by
  rw [List.flatMap_def, Np.Lemmas.length_flatten_const k _ (List.forall_mem_map.2 fun i _ => h i), List.length_map,
    List.length_range]

theorem gather_length (mem : List Int) : ∀ (shape : List Nat) (strides : List Int) (pos : Int),
    (gather mem shape strides pos).length = size shape
  | [], _, _ => rfl
  | n :: shape, _ :: strides, _ => length_flatMap_range _ n _ fun _ => gather_length mem shape strides _
  | n :: shape, [], _ => length_flatMap_range _ n _ fun _ => gather_length mem shape [] _

theorem rank_lt : ∀ (shape idx : List Nat), IdxOK shape idx → rank shape idx < size shape
  | [], [], _ => Nat.zero_lt_one
  | [], _ :: _, h => h.elim
  | _ :: _, [], h => h.elim
  | _ :: shape, _ :: idx, h => Np.Lemmas.mul_add_lt h.1 (rank_lt shape idx h.2)

theorem gather_getD (mem : List Int) : ∀ (shape : List Nat) (strides : List Int) (pos : Int)
    (idx : List Nat), strides.length = shape.length → IdxOK shape idx →
    (gather mem shape strides pos).getD (rank shape idx) 0 = getMem mem (memPos strides pos idx)
  | [], [], pos, [], _, _ => rfl
  | [], _ :: _, _, _, hl, _ => (Nat.succ_ne_zero _ hl).elim
  | [], [], _, _ :: _, _, h => h.elim
  | _ :: _, [], _, _, hl, _ => (Nat.succ_ne_zero _ hl.symm).elim
  | _ :: _, _ :: _, _, [], _, h => h.elim
  | n :: shape, s :: strides, pos, i :: idx, hl, h => by
    show (List.flatMap _ (List.range n)).getD (i * size shape + rank shape idx) 0 = getMem mem (memPos strides _ idx)
    rw [List.flatMap_def, List.getD_eq_getElem?_getD, Np.Lemmas.flatten_uniform_getElem? (size shape) _
        (List.forall_mem_map.2 fun _ _ => gather_length mem shape strides _) i _ (rank_lt shape idx h.2),
      List.getElem?_map, List.getElem?_range h.1]
    exact gather_getD mem shape strides _ idx (Nat.succ.inj hl) h.2

theorem memPos_cStrides : ∀ (shape idx : List Nat) (pos : Int), IdxOK shape idx →
    memPos (cStrides shape) pos idx = pos + (rank shape idx : Nat)
  | [], [], pos, _ => (Int.add_zero pos).symm
  | [], _ :: _, _, h => h.elim
  | _ :: _, [], _, h => h.elim
  | n :: shape, i :: idx, pos, h => by
    show memPos (cStrides shape) (pos + (i : Int) * (size shape : Nat)) idx = pos + ((i * size shape + rank shape idx : Nat) : Int)
    rw [memPos_cStrides shape idx _ h.2, Int.natCast_add, Int.natCast_mul, Int.add_assoc]

theorem getMem_natCast (mem : List Int) (k : Nat) : getMem mem k = mem.getD k 0 :=
  if_neg (Int.not_lt.mpr (Int.natCast_nonneg k))

theorem array_elements_preserved (shape : List Nat) (strides : List Int) (off : Int) (mem : List Int)
    (idx : List Nat) (hl : strides.length = shape.length) (hi : IdxOK shape idx) :
    getAt (cStrides shape) 0 (gather mem shape strides off) idx = getAt strides off mem idx := by
  unfold getAt
  rw [memPos_cStrides shape idx 0 hi, Int.zero_add, getMem_natCast, gather_getD mem shape strides off idx hl hi]

theorem array_roundtrip (dtype : String) (shape : List Nat) (strides : List Int) (off : Int) (mem : List Int)
    (hbig : ∀ n, shape = [n] → (n ≤ 10 && !noListDtype dtype) = false) :
    decode (encode (.arr dtype shape strides off mem)) =
      .arr dtype shape (cStrides shape) 0 (gather mem shape strides off) := by
  rw [decode_encode_arr]
  match shape, hbig with
  | [], _ => rfl
  | [n], hbig => exact if_neg (Bool.eq_false_iff.mp (hbig n rfl))
  | _ :: _ :: _, _ => rfl

theorem gather_1d (mem : List Int) (n : Nat) (s : Int) (off : Int) :
    gather mem [n] [s] off = (List.range n).map fun (i : Nat) => getMem mem (off + (i : Int) * s) :=
  List.map_eq_flatMap.symm

theorem small_array_roundtrip (dtype : String) (n : Nat) (s : Int) (off : Int) (mem : List Int)
    (hn : n ≤ 10) (hc : noListDtype dtype = false) :
    decode (encode (.arr dtype [n] [s] off mem)) =
      .list (ofInts ((List.range n).map fun (i : Nat) => getMem mem (off + (i : Int) * s))) := by
  rw [decode_encode_arr, ← gather_1d]
  exact if_pos (by simp [hn, hc])

theorem key_roundtrip (hs : IntStrOK) (k : Key) (hk : KeyOK k) : intifyKey (stringifyKey k) = k := by
  cases k with
  | int i => simp [stringifyKey, intifyKey, (hs i).1, (hs i).2]
  | str s =>
    have : isIntString s = false := hk
    simp [stringifyKey, intifyKey, this]

theorem json_roundtrip (hs : IntStrOK) (d : List (Key × PV)) (hk : ∀ kv ∈ d, KeyOK kv.1 ∧ WF kv.2) :
    roundTrip d = d.map fun kv => (kv.1, canon kv.2) := by
  unfold roundTrip
  apply List.map_congr_left
  intro kv hkv
  rw [key_roundtrip hs kv.1 (hk kv hkv).1, value_roundtrip kv.2 (hk kv hkv).2]

theorem isIntString_neg_example : isIntString "-1" = true ∧ isIntString "12" = true ∧
    isIntString "1x" = false ∧ isIntString "-" = false ∧ isIntString "" = false := by
  decide +kernel

theorem insert_perm (x : String) (l : List String) : (sortStrings.insert x l).Perm (x :: l) := by
  induction l with
  | nil => exact List.Perm.refl _
  | cons y ys ih =>
    unfold sortStrings.insert
    split
    · exact List.Perm.refl _
    · exact (List.Perm.cons y ih).trans (List.Perm.swap x y ys)

theorem sortStrings_perm (l : List String) : (sortStrings l).Perm l := by
  induction l with
  | nil => exact List.Perm.refl _
  | cons x xs ih =>
    show (sortStrings.insert x (sortStrings xs)).Perm _
    exact (insert_perm x _).trans (List.Perm.cons x ih)

theorem nodup_eraseDups (l : List String) : l.eraseDups.Nodup := by
  generalize hn : l.length = n
  induction n using Nat.strongRecOn generalizing l with
  | _ n ih =>
    cases l with
    | nil => simp
    | cons a as =>
      rw [List.eraseDups_cons, List.nodup_cons]
      refine ⟨?_, ih _ ?_ _ rfl⟩
      · simp [List.mem_eraseDups]
      · have := List.length_filter_le (fun b => !b == a) as
        simp at hn; omega

/-- the header line of `write_tsv` -/
def header {γ : Type} (rows : List (List (String × γ))) (first : Option String) : List String :=
  let fields := (rows.flatMap fun r => r.map (·.1)).eraseDups
  match first with
  | some f => if fields.contains f then f :: sortStrings (fields.erase f) else sortStrings fields
  | none => sortStrings fields

theorem writeTsv_eq {γ : Type} (render : γ → String) (rows : List (List (String × γ))) (first : Option String) :
    writeTsv render rows first =
      if rows.isEmpty then none else
        some (header rows first, rows.map fun r => (header rows first).map fun f =>
          renderOpt render (r.lookup f)) := rfl

theorem writeTsv_eq_some {γ : Type} {render : γ → String} {rows : List (List (String × γ))} {first : Option String}
    {file : List String × List (List String)} (hw : writeTsv render rows first = some file) :
    file = (header rows first, rows.map fun r => (header rows first).map fun f => renderOpt render (r.lookup f)) := by
  rw [writeTsv_eq] at hw
  split at hw
  · exact absurd hw (by simp)
  · exact (Option.some.inj hw).symm

theorem header_perm {γ : Type} (rows : List (List (String × γ))) (first : Option String) :
    (header rows first).Perm (rows.flatMap fun r => r.map (·.1)).eraseDups := by
  unfold header
  cases first with
  | none => exact sortStrings_perm _
  | some f =>
    simp only
    split
    · rename_i hc
      have hm := List.contains_iff_mem.mp hc
      exact (List.Perm.cons f (sortStrings_perm _)).trans (List.perm_cons_erase hm).symm
    · exact sortStrings_perm _

theorem header_nodup {γ : Type} (rows : List (List (String × γ))) (first : Option String) :
    (header rows first).Nodup :=
  (header_perm rows first).nodup_iff.mpr (nodup_eraseDups _)

theorem mem_header {γ : Type} (rows : List (List (String × γ))) (first : Option String)
    (r : List (String × γ)) (hr : r ∈ rows) (fc : String × γ) (hfc : fc ∈ r) :
    fc.1 ∈ header rows first := by
  rw [(header_perm rows first).mem_iff, List.mem_eraseDups, List.mem_flatMap]
  exact ⟨r, hr, List.mem_map.mpr ⟨fc, hfc, rfl⟩⟩

theorem mem_of_lookup_eq_some {γ : Type} {f : String} {c : γ} {r : List (String × γ)}
    (h : r.lookup f = some c) : (f, c) ∈ r := by
  obtain ⟨l₁, l₂, rfl, _⟩ := List.lookup_eq_some_iff.mp h
  exact List.mem_append_right _ List.mem_cons_self

theorem lookup_map_snd {γ δ : Type} (g : γ → δ) (f : String) :
    ∀ (r : List (String × γ)), (r.map fun fc => (fc.1, g fc.2)).lookup f = (r.lookup f).map g
  | [] => rfl
  | (k, v) :: t => by
    simp only [List.map_cons, List.lookup_cons]
    cases f == k
    · exact lookup_map_snd g f t
    · rfl

/-- one line written then read back (cells of the row in the domain `D`), with an expected read-back value `obs c`
per cell -/
theorem line_roundtrip_obs {γ δ : Type} (D : γ → Prop) (render : γ → String) (parse : String → δ) (obs : γ → δ)
    (hrt : ∀ c, D c → parse (render c) = obs c) (hne : ∀ c, D c → render c ≠ "")
    (r : List (String × γ)) (hD : ∀ fc ∈ r, D fc.2) (fields : List String) :
    (((fields.zip (fields.map fun f => renderOpt render (r.lookup f))).filter
        fun p => p.2 != "").map fun p => (p.1, parse p.2)) =
      fields.filterMap fun f => ((r.map fun fc => (fc.1, obs fc.2)).lookup f).map fun c => (f, c) := by
  induction fields with
  | nil => simp
  | cons f fs ih =>
    simp only [List.map_cons, List.zip_cons_cons, List.filterMap_cons, lookup_map_snd]
    cases hl : r.lookup f with
    | none => simpa [List.filter_cons, renderOpt, lookup_map_snd] using ih
    | some c =>
      have hc : D c := hD (f, c) (mem_of_lookup_eq_some hl)
      simpa [List.filter_cons, renderOpt, hne c hc, hrt c hc, lookup_map_snd] using ih

/- `hnodup` is not needed by the proof: `expectedRows` and `writeTsv` both use `List.lookup`
(first occurrence of a field), so duplicate field names inside a row are handled consistently. -/
set_option linter.unusedVariables false in
theorem tsv_roundtrip_on (D : Cell → Prop) (render : Cell → String) (parse : String → Cell)
    (hrt : ∀ c, D c → parse (render c) = c) (hne : ∀ c, D c → render c ≠ "")
    (rows : List (List (String × Cell))) (first : Option String)
    (hnodup : ∀ r ∈ rows, (r.map (·.1)).Nodup) (hD : ∀ r ∈ rows, ∀ fc ∈ r, D fc.2)
    (file : List String × List (List String))
    (hw : writeTsv render rows first = some file) :
    readTsv parse file = expectedRows file.1 rows ∧
    (∀ r ∈ rows, ∀ fc ∈ r, fc.1 ∈ file.1) ∧ file.1.Nodup := by
  obtain rfl := writeTsv_eq_some hw
  refine ⟨?_, fun r hr fc hfc => mem_header rows first r hr fc hfc, header_nodup rows first⟩
  simp only [readTsv, expectedRows, List.map_map]
  apply List.map_congr_left
  intro r hr
  exact (line_roundtrip_obs D render parse id hrt hne r (hD r hr) (header rows first)).trans
    (by rw [show (r.map fun fc => (fc.1, id fc.2)) = r from List.map_id' r])

theorem tsv_roundtrip (render : Cell → String) (parse : String → Cell)
    (hrt : ∀ c, parse (render c) = c) (hne : ∀ c, render c ≠ "")
    (rows : List (List (String × Cell))) (first : Option String)
    (hnodup : ∀ r ∈ rows, (r.map (·.1)).Nodup) (file : List String × List (List String))
    (hw : writeTsv render rows first = some file) :
    readTsv parse file = expectedRows file.1 rows ∧
    (∀ r ∈ rows, ∀ fc ∈ r, fc.1 ∈ file.1) ∧ file.1.Nodup :=
  tsv_roundtrip_on (fun _ => True) render parse (fun c _ => hrt c) (fun c _ => hne c)
    rows first hnodup (fun _ _ _ _ => trivial) file hw

theorem tsv_first_field_first (render : Cell → String) (rows : List (List (String × Cell))) (f : String)
    (hf : ∃ r ∈ rows, f ∈ r.map (·.1)) (file : List String × List (List String))
    (hw : writeTsv render rows (some f) = some file) : file.1.head? = some f := by
  obtain rfl := writeTsv_eq_some hw
  obtain ⟨r, hr, hfr⟩ := hf
  have hm : f ∈ (rows.flatMap fun r => r.map (·.1)).eraseDups := by
    rw [List.mem_eraseDups, List.mem_flatMap]
    exact ⟨r, hr, hfr⟩
  show (if _ then f :: _ else _).head? = some f
  rw [if_pos (List.contains_iff_mem.mpr hm)]
  rfl

/-! ### `IntStrOK`, the hypothesis of `key_roundtrip` / `json_roundtrip`, holds for `intToStr := toString` -/

theorem parseNat_eq (cs : List Char) : parseNat cs = Nat.ofDigitChars 10 cs 0 := by
  unfold parseNat Nat.ofDigitChars
  generalize 0 = init
  induction cs generalizing init with
  | nil => rfl
  | cons c cs ih => simp only [List.foldl_cons]; rw [Nat.mul_comm]; exact ih _

theorem parseNat_toDigits (n : Nat) : parseNat (Nat.toDigits 10 n) = n := by
  rw [parseNat_eq]; exact Nat.ofDigitChars_ten_toDigits

theorem toDigits_isDigit (n : Nat) : ∀ c ∈ Nat.toDigits 10 n, c.isDigit = true :=
  fun _ hc => Nat.isDigit_of_mem_toDigits (by decide) (by decide) hc

theorem isIntString_of_nonneg {s : String} {c : Char} {cs : List Char} (h : s.toList = c :: cs)
    (hc : c ≠ '-') : isIntString s = (c :: cs).all Char.isDigit ∧ parseInt s = (parseNat (c :: cs) : Nat) := by
  -- `simp` takes the last branch of both matches once it finds in the context that the `'-'` branch does not apply
  have hne (rest : List Char) (h' : c :: cs = '-' :: rest) : False := hc (List.cons.inj h').1
  simp only [isIntString, parseInt, h, and_self]

theorem isIntString_of_neg {s : String} {rest : List Char} (h : s.toList = '-' :: rest) :
    isIntString s = (!rest.isEmpty && rest.all Char.isDigit) ∧ parseInt s = -((parseNat rest : Nat) : Int) := by
  unfold isIntString parseInt
  rw [h]
  exact ⟨rfl, rfl⟩

theorem ne_of_isDigit {c x : Char} (h : c.isDigit = true) (hx : x.isDigit = false) : c ≠ x := by
  rintro rfl; rw [h] at hx; exact absurd hx (by decide)

theorem natRepr_digits (n : Nat) : ∃ c cs, n.repr.toList = c :: cs ∧ (c :: cs).all Char.isDigit = true ∧
    parseNat (c :: cs) = n := by
  cases hd : Nat.toDigits 10 n with
  | nil => exact absurd hd Nat.toDigits_ne_nil
  | cons c cs =>
    exact ⟨c, cs, Nat.toList_repr.trans hd, List.all_eq_true.mpr (hd ▸ toDigits_isDigit n), hd ▸ parseNat_toDigits n⟩

theorem intToStr_spec : ∀ (i : Int), ∃ (neg : Bool) (c : Char) (cs : List Char),
    (intToStr i).toList = (if neg then ['-'] else []) ++ c :: cs ∧ (c :: cs).all Char.isDigit = true ∧
      (if neg then -((parseNat (c :: cs) : Nat) : Int) else ((parseNat (c :: cs) : Nat) : Int)) = i
  | .ofNat n => by
    obtain ⟨c, cs, h, hall, hp⟩ := natRepr_digits n
    exact ⟨false, c, cs, h, hall, congrArg Int.ofNat hp⟩
  | .negSucc n => by
    obtain ⟨c, cs, h, hall, hp⟩ := natRepr_digits (n + 1)
    refine ⟨true, c, cs, ?_, hall, congrArg (fun k : Nat => -(k : Int)) hp⟩
    show ("-" ++ (n + 1).repr).toList = _
    rw [String.toList_append, h]
    rfl

theorem intToStr_ne_empty (i : Int) : intToStr i ≠ "" := by
  intro he
  obtain ⟨neg, c, cs, h, _⟩ := intToStr_spec i
  rw [he] at h
  cases neg <;> exact absurd h (by simp)

theorem intStrOK : IntStrOK := by
  intro i
  obtain ⟨neg, c, cs, h, hall, hv⟩ := intToStr_spec i
  cases neg
  · have hc : c.isDigit = true := by simp at hall; exact hall.1
    obtain ⟨h1, h2⟩ := isIntString_of_nonneg h (ne_of_isDigit hc (by decide))
    rw [h1, h2, hall]
    exact ⟨rfl, hv⟩
  · obtain ⟨h1, h2⟩ := isIntString_of_neg (rest := c :: cs) h
    rw [h1, h2, hall]
    exact ⟨rfl, hv⟩

/-! ### The concrete `str` / `_try_make_number` instance on integers and alphabetic labels -/

/-- letters start at 65 (`'A'`); the digits end at 57 and `'-'` is 45 -/
theorem not_isDigit_of_isAlpha {c : Char} (h : c.isAlpha = true) : c.isDigit = false ∧ c ≠ '-' := by
  have h65 : 65 ≤ c.toNat := by
    simp only [Char.isAlpha, Char.isUpper, Char.isLower, Bool.or_eq_true, Bool.and_eq_true, decide_eq_true_eq,
      UInt32.le_iff_toNat_le] at h
    exact h.elim (fun h => h.1) fun h => Nat.le_trans (by decide) h.1
  refine ⟨?_, fun hc => absurd (hc ▸ h65) (by decide)⟩
  simp only [Char.isDigit, Bool.and_eq_false_imp, decide_eq_true_eq, decide_eq_false_iff_not, UInt32.le_iff_toNat_le]
  intro _ h57
  exact absurd (Nat.le_trans h65 h57) (by decide)

theorem isIntString_alpha {s : String} (hne : s ≠ "") (hal : s.toList.all Char.isAlpha = true) :
    isIntString s = false := by
  cases hs : s.toList with
  | nil => exact absurd (String.toList_eq_nil_iff.mp hs) hne
  | cons c cs =>
    rw [hs] at hal
    have hc : c.isAlpha = true := by simp at hal; exact hal.1
    obtain ⟨hd, hm⟩ := not_isDigit_of_isAlpha hc
    rw [(isIntString_of_nonneg hs hm).1]
    simp [hd]

theorem renderPy_ne (c : Cell) (hc : CellPy c) : renderPy c ≠ "" := by
  cases c with
  | int i => exact intToStr_ne_empty i
  | text s => exact hc.1
  | float _ => exact hc.elim

theorem parsePy_renderPy (c : Cell) (hc : CellPy c) : parsePy (renderPy c) = c := by
  cases c with
  | int i => simp [renderPy, parsePy, (intStrOK i).1, (intStrOK i).2]
  | text s => simp [renderPy, parsePy, isIntString_alpha hc.1 hc.2]
  | float _ => exact hc.elim

theorem tsv_roundtrip_py (rows : List (List (String × Cell))) (first : Option String)
    (hnodup : ∀ r ∈ rows, (r.map (·.1)).Nodup) (hD : ∀ r ∈ rows, ∀ fc ∈ r, CellPy fc.2)
    (file : List String × List (List String))
    (hw : writeTsv renderPy rows first = some file) :
    readTsv parsePy file = expectedRows file.1 rows ∧
    (∀ r ∈ rows, ∀ fc ∈ r, fc.1 ∈ file.1) ∧ file.1.Nodup :=
  tsv_roundtrip_on CellPy renderPy parsePy parsePy_renderPy renderPy_ne rows first hnodup hD file hw

end PhyVerif.C18.Lemmas
