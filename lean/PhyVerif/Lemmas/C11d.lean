import PhyVerif.Lemmas.C11c
/-! The per-cluster probe table (`clusterProbes` of `Model/C11.lean`: what it holds, its size, its coverage) and the
renumbered per-cluster metadata (`mergeMetadata`, `mergeClusterData`). -/
namespace PhyVerif.C11.Lemmas
open PhyVerif PhyVerif.C11

def clusterProbesFrom (j : Nat) (ids : List (List Nat)) : List Nat :=
  ((ids.zipIdx j).map fun p => List.replicate ((p.1.foldl max 0) + 1) p.2).flatten

theorem clusterProbes_eq (ids : List (List Nat)) : clusterProbes ids = clusterProbesFrom 0 ids := rfl

theorem clusterProbesFrom_cons (j : Nat) (a : List Nat) (rest : List (List Nat)) :
    clusterProbesFrom j (a :: rest) =
      List.replicate (a.foldl max 0 + 1) j ++ clusterProbesFrom (j + 1) rest := by
  simp [clusterProbesFrom, List.zipIdx_cons]

theorem clusterProbesFrom_ok (ids : List (List Nat)) (pre : List Nat) (off j k c dflt : Nat)
    (hpre : pre.length = off) (hk : k < ids.length) (hc : c ≤ (ids.getD k []).foldl max 0) :
    (pre ++ clusterProbesFrom j ids).getD (c + (idOffsetsFrom off ids).getD k 0) dflt = j + k := by
  induction ids generalizing pre off j k with
  | nil => exact absurd hk (Nat.not_lt_zero _)
  | cons a rest ih =>
    rw [clusterProbesFrom_cons]
    cases k with
    | zero =>
      subst hpre
      show (pre ++ (List.replicate (a.foldl max 0 + 1) j ++ _)).getD (c + pre.length) dflt = j
      rw [List.getD_eq_getElem?_getD, List.getElem?_append_right (Nat.le_add_left _ _), Nat.add_sub_cancel,
        List.getElem?_append_left (by rw [List.length_replicate]; exact Nat.lt_succ_of_le hc),
        List.getElem?_replicate, if_pos (show c < a.foldl max 0 + 1 from Nat.lt_succ_of_le hc)]
      rfl
    | succ k' =>
      rw [← List.append_assoc, ← Nat.add_assoc, Nat.add_right_comm j k' 1]
      exact ih (pre ++ List.replicate (a.foldl max 0 + 1) j) (off + a.foldl max 0 + 1) (j + 1) k'
        (by rw [List.length_append, List.length_replicate, hpre, Nat.add_assoc]) (Nat.lt_of_succ_lt_succ hk) hc

theorem clusterProbes_ok (ids : List (List Nat)) (k : Nat) (hk : k < ids.length) (c : Nat)
    (hc : c ≤ (ids.getD k []).foldl max 0) :
    (clusterProbes ids).getD (c + (idOffsets ids).getD k 0) (ids.length) = k := by
  simpa [clusterProbes_eq, idOffsets] using clusterProbesFrom_ok ids [] 0 0 k c ids.length rfl hk hc

theorem clusterProbesFrom_length (ids : List (List Nat)) (j : Nat) :
    (clusterProbesFrom j ids).length = (idCounts ids).sum := by
  induction ids generalizing j with
  | nil => rfl
  | cons a rest ih =>
    rw [clusterProbesFrom_cons, List.length_append, List.length_replicate, ih]
    simp [idCounts]

theorem foldl_max_append (a b : List Nat) :
    (a ++ b).foldl max 0 = max (a.foldl max 0) (b.foldl max 0) := by
  rw [List.foldl_append, List.foldl_max (l := b), List.foldl_max (l := b)]
  cases b.max? <;> simp

theorem foldl_max_map_add (a : List Nat) (off c : Nat) :
    (a.map (· + off)).foldl max (c + off) = a.foldl max c + off := by
  induction a generalizing c with
  | nil => rfl
  | cons x t ih =>
    rw [List.map_cons, List.foldl_cons, List.foldl_cons, Nat.add_max_add_right, ih]

theorem foldl_max_shift (a : List Nat) (off : Nat) (hne : a ≠ []) :
    (a.map (· + off)).foldl max 0 = a.foldl max 0 + off := by
  cases a with
  | nil => exact absurd rfl hne
  | cons x t =>
    simp only [List.map_cons, List.foldl_cons, Nat.zero_max]
    exact foldl_max_map_add t off x

theorem foldl_max_perm {l l' : List Nat} (p : l.Perm l') : l.foldl max 0 = l'.foldl max 0 :=
  p.foldl_eq' (fun _ _ _ _ _ => Nat.max_right_comm ..) 0

/-- with a spike in every probe, the largest shifted id is the last id of the merged numbering -/
theorem shiftBy_idOffsetsFrom_max (ids : List (List Nat)) (hne : ∀ a ∈ ids, a ≠ []) (h0 : ids ≠ []) (off : Nat) :
    (shiftBy ids (idOffsetsFrom off ids)).flatten.foldl max 0 + 1 = off + (idCounts ids).sum := by
  induction ids generalizing off with
  | nil => exact absurd rfl h0
  | cons a rest ih =>
    have hcons : shiftBy (a :: rest) (idOffsetsFrom off (a :: rest)) =
        a.map (· + off) :: shiftBy rest (idOffsetsFrom (off + a.foldl max 0 + 1) rest) := rfl
    rw [hcons, List.flatten_cons, foldl_max_append, foldl_max_shift a off (hne a List.mem_cons_self), idCounts,
      List.map_cons, List.sum_cons]
    cases rest with
    | nil =>
      show max _ 0 + 1 = off + (_ + 0)
      omega
    | cons b rest' =>
      have := ih (fun x hx => hne x (List.mem_cons_of_mem _ hx)) (List.cons_ne_nil _ _) (off + a.foldl max 0 + 1)
      rw [idCounts] at this
      omega

theorem clusterProbes_length (times : List (List Int)) (ids : List (List Nat))
    (hlen : ids.flatten.length = times.flatten.length) (hne : NonEmpty ids) (h0 : ids ≠ []) :
    (clusterProbes ids).length = (mergedIds times ids).foldl max 0 + 1 ∧
    (clusterProbes ids).length = (ids.map fun a => a.foldl max 0 + 1).sum := by
  have hsum : (clusterProbes ids).length = (idCounts ids).sum := clusterProbesFrom_length ids 0
  refine ⟨?_, hsum⟩
  have hp := gather_perm times (shiftIds ids) ((shiftIds_flatten_length ids).trans hlen)
  have hmax := shiftBy_idOffsetsFrom_max ids hne h0 0
  rw [mergedIds, foldl_max_perm hp, hsum, shiftIds_eq]
  exact (hmax.trans (Nat.zero_add _)).symm

theorem clusterProbesFrom_cover (ids : List (List Nat)) (off K : Nat) (h1 : off ≤ K)
    (h2 : K < off + (idCounts ids).sum) :
    ∃ k c, k < ids.length ∧ c ≤ (ids.getD k []).foldl max 0 ∧ K = c + (idOffsetsFrom off ids).getD k 0 := by
  induction ids generalizing off with
  | nil => exact absurd h2 (by simpa [idCounts] using h1)
  | cons a rest ih =>
    rw [idCounts, List.map_cons, List.sum_cons] at h2
    rcases Nat.lt_or_ge K (off + a.foldl max 0 + 1) with h | h
    · exact ⟨0, K - off, Nat.succ_pos _, show K - off ≤ a.foldl max 0 by omega, show K = K - off + off by omega⟩
    · obtain ⟨k, c, hk, hc, hK⟩ := ih (off + a.foldl max 0 + 1) h (by rw [idCounts]; omega)
      exact ⟨k + 1, c, Nat.succ_lt_succ hk, hc, hK⟩

theorem clusterProbes_cover (ids : List (List Nat)) (K : Nat) (hK : K < (clusterProbes ids).length) :
    ∃ k c, k < ids.length ∧ c ≤ (ids.getD k []).foldl max 0 ∧ K = c + (idOffsets ids).getD k 0 ∧
      (clusterProbes ids).getD K ids.length = k := by
  rw [clusterProbes_eq, clusterProbesFrom_length] at hK
  obtain ⟨k, c, hk, hc, hKe⟩ := clusterProbesFrom_cover ids 0 K (Nat.zero_le _) (by omega)
  exact ⟨k, c, hk, hc, hKe, hKe ▸ clusterProbes_ok ids k hk c hc⟩

theorem mem_flatten_map_zip {α β γ : Type} (A : List α) (B : List β) (f : α × β → List γ) (x : γ) :
    x ∈ ((A.zip B).map f).flatten ↔ ∃ (k : Nat) (a : α) (b : β), A[k]? = some a ∧ B[k]? = some b ∧ x ∈ f (a, b) := by
  rw [List.mem_flatten]
  constructor
  · rintro ⟨row, hrow, hx⟩
    obtain ⟨⟨a, b⟩, hp, rfl⟩ := List.mem_map.1 hrow
    obtain ⟨k, hk⟩ := List.mem_iff_getElem?.1 hp
    obtain ⟨h1, h2⟩ := List.getElem?_zip_eq_some.1 hk
    exact ⟨k, a, b, h1, h2, hx⟩
  · rintro ⟨k, a, b, h1, h2, hx⟩
    exact ⟨_, List.mem_map.2 ⟨(a, b), List.mem_iff_getElem?.2 ⟨k, List.getElem?_zip_eq_some.2 ⟨h1, h2⟩⟩, rfl⟩, hx⟩

theorem metadata_renumbered {β : Type} (md : List (Option (List (Nat × β)))) (offsets : List Nat)
    (k : Nat) (l : List (Nat × β)) (hk : md[k]? = some (some l)) (hlen : offsets.length = md.length)
    (c : Nat) (v : β) (hcv : (c, v) ∈ l) :
    (c + offsets.getD k 0, v) ∈ mergeMetadata md offsets := by
  have hko : k < offsets.length := hlen ▸ (List.getElem?_eq_some_iff.1 hk).1
  exact (mem_flatten_map_zip md offsets _ _).2
    ⟨k, some l, _, hk, Np.Lemmas.getElem?_eq_some_getD hko 0, List.mem_map.2 ⟨(c, v), hcv, rfl⟩⟩

/-- the rows one probe contributes to the merged per-cluster file -/
def cdRow {β : Type} (p : (Option (List (Nat × β)) × List Nat) × Nat) : List (Nat × β) :=
  match p.1.1 with
  | none => []
  | some l => (l.filter fun kv => kv.1 ≤ p.1.2.foldl max 0).map fun kv => (kv.1 + p.2, kv.2)

theorem mergeClusterData_eq {β : Type} (md : List (Option (List (Nat × β)))) (ids : List (List Nat)) :
    mergeClusterData md ids = (((md.zip ids).zip (idOffsets ids)).map cdRow).flatten := rfl

theorem mem_cdRow {β : Type} (o : Option (List (Nat × β))) (a : List Nat) (off K : Nat) (v : β) :
    (K, v) ∈ cdRow ((o, a), off) ↔
      ∃ l c, o = some l ∧ (c, v) ∈ l ∧ c ≤ a.foldl max 0 ∧ K = c + off := by
  cases o with
  | none => simp [cdRow]
  | some l =>
    simp only [cdRow, List.mem_map, List.mem_filter, decide_eq_true_eq, Prod.mk.injEq,
      Option.some.injEq, Prod.exists]
    constructor
    · rintro ⟨c, v', ⟨hm, hc⟩, rfl, rfl⟩
      exact ⟨l, c, rfl, hm, hc, rfl⟩
    · rintro ⟨l', c, rfl, hm, hc, rfl⟩
      exact ⟨c, v, ⟨hm, hc⟩, rfl, rfl⟩

theorem cdRow_range {β : Type} (o : Option (List (Nat × β))) (a : List Nat) (off : Nat)
    (q : Nat × β) (hq : q ∈ cdRow ((o, a), off)) : off ≤ q.1 ∧ q.1 ≤ off + a.foldl max 0 := by
  obtain ⟨K, v⟩ := q
  obtain ⟨l, c, -, -, hc, rfl⟩ := (mem_cdRow o a off K v).1 hq
  exact ⟨by omega, by omega⟩

theorem cdRow_nodup {β : Type} (o : Option (List (Nat × β))) (a : List Nat) (off : Nat)
    (h : ∀ l, o = some l → (l.map (·.1)).Nodup) : ((cdRow ((o, a), off)).map (·.1)).Nodup := by
  cases o with
  | none => simp [cdRow]
  | some l =>
    have h1 : ((l.filter fun kv => kv.1 ≤ a.foldl max 0).map (·.1)).Nodup :=
      (h l rfl).sublist (List.filter_sublist.map _)
    have h2 : (cdRow ((some l, a), off)).map (·.1) =
        ((l.filter fun kv => kv.1 ≤ a.foldl max 0).map (·.1)).map (· + off) := by
      simp [cdRow, List.map_map, Function.comp_def]
    rw [h2]
    exact List.Pairwise.map (· + off) (fun x y (hxy : x ≠ y) => by show x + off ≠ y + off; omega) h1

theorem mem_mergeClusterData {β : Type} (md : List (Option (List (Nat × β)))) (ids : List (List Nat))
    (K : Nat) (v : β) :
    (K, v) ∈ mergeClusterData md ids ↔
      ∃ k l c, md[k]? = some (some l) ∧ k < ids.length ∧ (c, v) ∈ l ∧
        c ≤ (ids.getD k []).foldl max 0 ∧ K = c + (idOffsets ids).getD k 0 := by
  rw [mergeClusterData_eq, mem_flatten_map_zip]
  constructor
  · rintro ⟨k, ⟨o, a⟩, off, hk12, hk3, hK⟩
    obtain ⟨hk1, hk2⟩ := List.getElem?_zip_eq_some.1 hk12
    obtain ⟨l, c, rfl, hm, hc, rfl⟩ := (mem_cdRow o a off K v).1 hK
    refine ⟨k, l, c, hk1, (List.getElem?_eq_some_iff.1 hk2).1, hm, ?_, ?_⟩
    · rw [List.getD_eq_getElem?_getD, hk2]; exact hc
    · rw [List.getD_eq_getElem?_getD, hk3]; rfl
  · rintro ⟨k, l, c, hk, hkl, hm, hc, rfl⟩
    have hko : k < (idOffsets ids).length := (idOffsetsFrom_length 0 ids).symm ▸ hkl
    exact ⟨k, (some l, ids.getD k []), _,
      List.getElem?_zip_eq_some.2 ⟨hk, Np.Lemmas.getElem?_eq_some_getD hkl []⟩, Np.Lemmas.getElem?_eq_some_getD hko 0,
      (mem_cdRow _ _ _ _ _).2 ⟨l, c, rfl, hm, hc, rfl⟩⟩

theorem flatten_cdRow_ge {β : Type} (md : List (Option (List (Nat × β)))) :
    ∀ (ids : List (List Nat)) (off : Nat),
      ∀ q ∈ (((md.zip ids).zip (idOffsetsFrom off ids)).map cdRow).flatten, off ≤ q.1 := by
  induction md with
  | nil => intro ids off q hq; simp at hq
  | cons o md ih =>
    intro ids off q hq
    cases ids with
    | nil => simp at hq
    | cons a ids =>
      simp only [idOffsetsFrom, List.zip_cons_cons, List.map_cons, List.flatten_cons,
        List.mem_append] at hq
      rcases hq with hq | hq
      · exact (cdRow_range o a off q hq).1
      · have := ih ids _ q hq
        omega

theorem flatten_cdRow_nodup {β : Type} (md : List (Option (List (Nat × β))))
    (h : ∀ l, some l ∈ md → (l.map (·.1)).Nodup) :
    ∀ (ids : List (List Nat)) (off : Nat),
      (((((md.zip ids).zip (idOffsetsFrom off ids)).map cdRow).flatten).map (·.1)).Nodup := by
  induction md with
  | nil => intro ids off; simp
  | cons o md ih =>
    intro ids off
    cases ids with
    | nil => simp
    | cons a ids =>
      simp only [idOffsetsFrom, List.zip_cons_cons, List.map_cons, List.flatten_cons,
        List.map_append]
      rw [List.nodup_append]
      refine ⟨cdRow_nodup o a off (fun l hl => h l (by simp [hl])),
        ih (fun l hl => h l (List.mem_cons_of_mem _ hl)) ids _, ?_⟩
      intro x hx y hy hxy
      obtain ⟨q, hq, rfl⟩ := List.mem_map.1 hx
      obtain ⟨r, hr, rfl⟩ := List.mem_map.1 hy
      have h1 := (cdRow_range o a off q hq).2
      have h2 := flatten_cdRow_ge md ids _ r hr
      omega

theorem metadata_points_back {β : Type} (md : List (Option (List (Nat × β)))) (ids : List (List Nat))
    (hlen : md.length = ids.length) :
    (∀ K v, (K, v) ∈ mergeClusterData md ids →
      ∃ k c l, md[k]? = some (some l) ∧ (c, v) ∈ l ∧ c ≤ (ids.getD k []).foldl max 0 ∧
        K = c + (idOffsets ids).getD k 0 ∧ (clusterProbes ids).getD K ids.length = k) ∧
    (∀ k l c v, md[k]? = some (some l) → (c, v) ∈ l → c ≤ (ids.getD k []).foldl max 0 →
      (c + (idOffsets ids).getD k 0, v) ∈ mergeClusterData md ids) ∧
    ((∀ l, some l ∈ md → (l.map (·.1)).Nodup) → ((mergeClusterData md ids).map (·.1)).Nodup) := by
  refine ⟨?_, ?_, ?_⟩
  · intro K v h
    obtain ⟨k, l, c, hk, hkl, hm, hc, rfl⟩ := (mem_mergeClusterData md ids K v).1 h
    exact ⟨k, c, l, hk, hm, hc, rfl, clusterProbes_ok ids k hkl c hc⟩
  · intro k l c v hk hm hc
    have hkl : k < ids.length := hlen ▸ (List.getElem?_eq_some_iff.1 hk).1
    exact (mem_mergeClusterData md ids _ v).2 ⟨k, l, c, hk, hkl, hm, hc, rfl⟩
  · intro h
    rw [mergeClusterData_eq]
    exact flatten_cdRow_nodup md h ids 0

end PhyVerif.C11.Lemmas
