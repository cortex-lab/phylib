import PhyVerif.Lemmas.C05
import PhyVerif.Model.C05b
import PhyVerif.Spec.C09b
import PhyVerif.Lemmas.C09b
/-! The rest of the proofs about `Model/C05.lean`: the cardinality of the neighbourhood at a distance tie
(`nearCountOK`), the entries of an unwhitened waveform (`unwhiten_entry`), which stored channels a sparse record lists
and when there is none (`sparseRaises`). Then, about the float32 cast of `Model/C05b.lean`: the reported amplitudes
are float32 values when the exact peak-to-peak of every channel is one (`ptpExactF`). -/
namespace PhyVerif.C05.Lemmas
open PhyVerif PhyVerif.C09 PhyVerif.C05

/-- `N` is a set of `n` nearest channels for the distances `ds`, whose `n`-th smallest is `cut`: `n` distinct channels,
none of them beyond `cut`, every channel strictly below `cut` among them. Which channels AT `cut` it holds is open:
this is the freedom `np.argsort` has at a distance tie. -/
structure NearestSet (ds : List Rat) (cut : Rat) (n : Nat) (N : List Nat) : Prop where
  nodup : N.Nodup
  length : N.length = n
  le_cut : ∀ c ∈ N, c < ds.length ∧ ds.getD c 0 ≤ cut
  of_lt : ∀ c, c < ds.length → ds.getD c 0 < cut → c ∈ N

theorem take_nearest (ds : List Rat) (n : Nat) (hnl : n < ds.length) :
    NearestSet ds ((Np.isort leR ds).getD (n - 1) 0) n ((argsortRat ds).take n) where
  nodup := List.Nodup.sublist (List.take_sublist _ _) ((argsortRat_perm ds).nodup_iff.2 List.nodup_range)
  length := by rw [List.length_take, argsortRat_length, Nat.min_eq_left (le_of_lt hnl)]
  le_cut c hc := ⟨(mem_argsortRat ds c).1 (List.mem_of_mem_take hc), le_cut_of_mem_take ds n c (le_of_lt hnl) hc⟩
  of_lt c hc hd := mem_take_of_lt ds n c hc (lt_of_lt_of_le hd (isort_mono ds (n - 1) n (Nat.sub_le _ _) hnl))

/-- counting form of "the listed channels are the eligible ones of a set of `n` nearest channels": such a set `N`
consists of the `s` strictly closer channels and of `n - s` channels at the cut, so the listed channels at the cut
fit into `N`, and the eligible unlisted ones at the cut fit beside it into the tie -/
theorem near_count (ds : List Rat) (cut : Rat) (n : Nat) (N : List Nat) (hN : NearestSet ds cut n N)
    (elig : Nat → Bool) (listed : List Nat)
    (hl : ∀ c, c < ds.length → (c ∈ listed ↔ elig c = true ∧ c ∈ N)) :
    let s := ((List.range ds.length).filter fun c => decide (ds.getD c 0 < cut)).length
    let tie := (List.range ds.length).filter fun c => decide (ds.getD c 0 = cut)
    s + (tie.filter fun c => listed.contains c).length ≤ n ∧
    n + (tie.filter fun c => elig c && !listed.contains c).length ≤ s + tie.length := by
  intro s tie
  have htie : ∀ c, c ∈ tie ↔ c < ds.length ∧ ds.getD c 0 = cut := fun c => by
    simp only [tie, List.mem_filter, List.mem_range, decide_eq_true_eq]
  have htnd : tie.Nodup := nodup_filter_range _ _
  -- N = (strictly closer) ++ (at the cut)
  have hsplit := List.length_eq_length_filter_add (l := N) (fun c => decide (ds.getD c 0 < cut))
  have hrest : (N.filter fun c => !decide (ds.getD c 0 < cut))
      = N.filter fun c => decide (ds.getD c 0 = cut) :=
    List.filter_congr fun c hc => by
      rw [Bool.eq_iff_iff, Bool.not_eq_true', decide_eq_false_iff_not, decide_eq_true_eq, not_lt]
      exact ⟨le_antisymm (hN.le_cut c hc).2, ge_of_eq⟩
  have hS : (N.filter fun c => decide (ds.getD c 0 < cut)).length = s := by
    apply List.Perm.length_eq
    rw [List.perm_ext_iff_of_nodup (hN.nodup.sublist List.filter_sublist) (nodup_filter_range _ _)]
    intro c
    simp only [List.mem_filter, List.mem_range, decide_eq_true_eq]
    exact ⟨fun h => ⟨(hN.le_cut c h.1).1, h.2⟩, fun h => ⟨hN.of_lt c h.1 h.2, h.2⟩⟩
  rw [hrest, hS, hN.length] at hsplit
  have hA : (tie.filter fun c => listed.contains c).length
      ≤ (N.filter fun c => decide (ds.getD c 0 = cut)).length := by
    refine (List.subperm_of_subset (htnd.sublist List.filter_sublist) fun c hc => ?_).length_le
    obtain ⟨ht, hli⟩ := List.mem_filter.1 hc
    obtain ⟨hlt, hd⟩ := (htie c).1 ht
    exact List.mem_filter.2 ⟨((hl c hlt).1 (List.contains_iff_mem.1 hli)).2, decide_eq_true hd⟩
  have hB : (N.filter fun c => decide (ds.getD c 0 = cut)).length
      + (tie.filter fun c => elig c && !listed.contains c).length ≤ tie.length := by
    rw [← List.length_append]
    refine (List.subperm_of_subset ?_ fun c hc => ?_).length_le
    · refine List.nodup_append.2 ⟨hN.nodup.sublist List.filter_sublist, htnd.sublist List.filter_sublist, ?_⟩
      rintro a ha _ hb rfl
      obtain ⟨ht, he⟩ := List.mem_filter.1 hb
      rw [Bool.and_eq_true, Bool.not_eq_true', ← Bool.not_eq_true, List.contains_iff_mem] at he
      exact he.2 ((hl a ((htie a).1 ht).1).2 ⟨he.1, (List.mem_filter.1 ha).1⟩)
    · rcases List.mem_append.1 hc with h | h
      · obtain ⟨hcN, hd⟩ := List.mem_filter.1 h
        exact (htie c).2 ⟨(hN.le_cut c hcN).1, of_decide_eq_true hd⟩
      · exact (List.mem_filter.1 h).1
  rw [hsplit, Nat.add_assoc]
  exact ⟨Nat.add_le_add_left hA s, Nat.add_le_add_left hB s⟩

theorem nearCount_model (g : Geometry) (b : Nat) (elig : Nat → Bool) (listed : List Nat)
    (hl : ∀ c, c < g.positions.length → (c ∈ listed ↔ elig c = true ∧ c ∈ closestChannels g b)) :
    nearCountOK g b elig listed = true := by
  unfold nearCountOK
  dsimp only
  split
  · rfl
  · next h =>
    rw [Bool.or_eq_true, decide_eq_true_eq, decide_eq_true_eq, not_or, not_le] at h
    have hdl := dists_length g b
    rw [closestChannels_take g b h.1, ← hdl] at hl
    have hc := near_count (dists g b) _ g.nClosest _ (take_nearest (dists g b) g.nClosest (hdl.symm ▸ h.2))
      elig listed hl
    rw [hdl] at hc
    simp only [Bool.and_eq_true, decide_eq_true_eq]
    exact hc

theorem autoRecord_ok (g : Geometry) (T : Mat) (thr : Rat) (hwf : DenseWF g T) (h1 : thr ≤ 1) :
    denseOK g T thr (autoRecord g T thr) = true := by
  unfold denseOK autoRecord
  dsimp only
  rw [Bool.and_eq_true]
  exact ⟨autoRecord_baseOK g T thr hwf h1, nearCount_model g _ _ _ fun c hc =>
    (mem_autoChannels g T thr c).trans (and_iff_right (hwf.2.2.2.1 ▸ hc))⟩

set_option linter.unusedVariables false in -- `h0` is not needed
theorem dense_record_ok (g : Geometry) (T : Mat) (thr : Rat) (hwf : DenseWF g T)
    (h0 : 0 ≤ thr) (h1 : thr ≤ 1) :
    let (ids, amp, best) := findBestChannels g T thr
    denseOK g T thr ⟨T.map fun row => ids.map fun c => row.getD c 0, ids, amp, best⟩ = true := by
  rw [findBest_eq]
  exact autoRecord_ok g T thr hwf h1

theorem ncols_subMat (wmi : Mat) (l : List Nat) (hl : l ≠ []) : ncols (subMat wmi l) = l.length := by
  cases l with
  | nil => exact absurd rfl hl
  | cons a t => exact List.length_map _

theorem entry_subMat (wmi : Mat) (l : List Nat) (k j : Nat) (hk : k < l.length) (hj : j < l.length) :
    entry (subMat wmi l) k j = entry wmi (l.getD k 0) (l.getD j 0) := by
  unfold entry subMat
  rw [Np.Lemmas.getD_map_of_lt _ l k 0 [] hk, Np.Lemmas.getD_map_of_lt _ l j 0 0 hj]

theorem matMul_row_length (W M : Mat) (s : Nat) (hs : s < W.length) :
    ((matMul W M).getD s []).length = ncols M := by
  unfold matMul
  rw [Np.Lemmas.getD_map_of_lt _ W s [] [] hs, List.length_map, List.length_range]

theorem scaled_matMul_entry (x mat : Mat) (sc : Rat) (s j : Nat) (hs : s < x.length) (hj : j < ncols mat)
    (hrow : (x.getD s []).length = mat.length) :
    entry ((matMul x mat).map fun row => row.map (· * sc)) s j =
      (sumTo mat.length fun k => entry x s k * entry mat k j) * sc :=
  (C09.Lemmas.entry_scaleMat (matMul x mat) sc s j).trans
    (congrArg (· * sc) (C09.Lemmas.matMul_entry x mat s j hs hj hrow))

theorem unwhiten_entry (wmi : Mat) (sc : Rat) (x : Mat) (s j : Nat) (hs : s < x.length)
    (hj : j < ncols wmi) (hrow : (x.getD s []).length = wmi.length) :
    entry (unwhiten wmi sc x none) s j = (sumTo wmi.length fun k => entry x s k * entry wmi k j) * sc :=
  scaled_matMul_entry x wmi sc s j hs hj hrow

theorem unwhiten_entry_sub (wmi : Mat) (sc : Rat) (x : Mat) (ch : List Nat) (s j : Nat) (hs : s < x.length)
    (hj : j < ch.length) (hrow : (x.getD s []).length = ch.length) :
    entry (unwhiten wmi sc x (some ch)) s j =
      (sumTo ch.length fun k => entry x s k * entry wmi (ch.getD k 0) (ch.getD j 0)) * sc := by
  have hnc : ncols (subMat wmi ch) = ch.length :=
    ncols_subMat wmi ch (List.ne_nil_of_length_pos (Nat.zero_lt_of_lt hj))
  have hlen : (subMat wmi ch).length = ch.length := List.length_map _
  have h := scaled_matMul_entry x (subMat wmi ch) sc s j hs (hnc.symm ▸ hj) (hlen.symm ▸ hrow)
  rw [hlen] at h
  exact h.trans (congrArg (· * sc) (C09.Lemmas.sumTo_congr _ _ _ fun k hk => by rw [entry_subMat wmi ch k j hk hj]))

theorem mem_keptCols (Tw : Mat) (cols : List Int) (m : Int) (j : Nat) :
    j ∈ keptCols Tw cols m ↔ j < cols.length ∧ cols.getD j 0 ≠ m ∧
      colAbsMax Tw j > listMax ((usedCols cols m).map (colAbsMax Tw)) * (1 / 1000000) := by
  unfold keptCols usedCols
  dsimp only
  rw [List.mem_filter, List.mem_filter, List.mem_range, decide_eq_true_eq, bne_iff_ne, and_assoc]

/-- the threshold is taken relative to the largest stored value on the columns IN USE (an unused column's content
does not enter): it is attained on a used column and bounds all of them -/
theorem usedMax_spec (Tw : Mat) (cols : List Int) (m : Int) (h : usedCols cols m ≠ []) :
    (∃ j ∈ usedCols cols m, colAbsMax Tw j = listMax ((usedCols cols m).map (colAbsMax Tw))) ∧
    ∀ j ∈ usedCols cols m, colAbsMax Tw j ≤ listMax ((usedCols cols m).map (colAbsMax Tw)) := by
  obtain ⟨hmem, hle⟩ := C09.Lemmas.listMax_spec ((usedCols cols m).map (colAbsMax Tw))
    fun e => h (List.map_eq_nil_iff.1 e)
  refine ⟨?_, fun j hj => hle _ (List.mem_map_of_mem hj)⟩
  obtain ⟨j, hj, e⟩ := List.mem_map.1 hmem
  exact ⟨j, hj, e⟩

theorem sparse_listed_iff (wmi : Mat) (sc : Rat) (Tw : Mat) (cols : List Int) (m : Int) (unwh : Bool) (c : Nat) :
    c ∈ (getTemplateSparse wmi sc Tw cols m unwh).channels ↔
      ∃ j, j < cols.length ∧ (cols.getD j 0).toNat = c ∧ cols.getD j 0 ≠ m ∧
        colAbsMax Tw j > listMax ((usedCols cols m).map (colAbsMax Tw)) * (1 / 1000000) := by
  rw [getTemplateSparse_eq]
  dsimp only
  rw [(sparseRecord_channels_perm _ _).mem_iff, List.mem_map]
  refine exists_congr fun j => ?_
  rw [mem_keptCols]
  exact ⟨fun h => ⟨h.1.1, h.2, h.1.2⟩, fun h => ⟨⟨h.1, h.2.2⟩, h.2.1⟩⟩

theorem colAbsMax_nonneg (Tw : Mat) (j : Nat) : 0 ≤ colAbsMax Tw j := by
  refine C09.Lemmas.listMax_nonneg _ fun y hy => ?_
  obtain ⟨x, _, rfl⟩ := List.mem_map.1 hy
  split
  · next h => exact (neg_pos.2 h).le
  · next h => exact not_lt.1 h

theorem sparse_raises_of_no_signal (Tw : Mat) (cols : List Int) (m : Int) :
    sparseRaises Tw cols m = true ↔ ∀ j ∈ usedCols cols m, colAbsMax Tw j = 0 := by
  unfold sparseRaises keptCols
  rw [List.isEmpty_iff, List.filter_eq_nil_iff]
  simp only [decide_eq_true_eq, not_lt]
  constructor
  · intro h j hj
    obtain ⟨⟨j0, hj0, e0⟩, hle⟩ := usedMax_spec Tw cols m (List.ne_nil_of_mem hj)
    -- the largest value `M` is that of a used column, so `M ≤ M / 10⁶`, which makes it `≤ 0`
    have h0 := h j0 hj0
    rw [e0] at h0
    have hmx : listMax ((usedCols cols m).map (colAbsMax Tw)) ≤ 0 :=
      le_of_not_gt fun hpos => absurd h0 (not_le.2 (mul_lt_of_lt_one_right hpos (by norm_num)))
    exact le_antisymm (le_trans (hle j hj) hmx) (colAbsMax_nonneg Tw j)
  · intro h j hj
    obtain ⟨⟨j0, hj0, e0⟩, _⟩ := usedMax_spec Tw cols m (List.ne_nil_of_mem hj)
    rw [h j hj, ← e0, h j0 hj0]
    exact (zero_mul _).ge

/-! float32 amplitudes (`Model/C05b.lean`). The model's amplitude is the exact peak-to-peak, the real one the single
precision subtraction `max − min`. Where the exact value is a `p`-bit value the two agree, and this is what the lemmas
below say of every reported amplitude. -/

theorem roundNE_zero (p : Nat) : roundNE p 0 = 0 := if_pos rfl

theorem getD_exact (p : Nat) (l : List Rat) (h : ∀ a ∈ l, roundNE p a = a) (c : Nat) :
    roundNE p (l.getD c 0) = l.getD c 0 := by
  by_cases hc : c < l.length
  · exact h _ (Np.Lemmas.getD_mem l c 0 hc)
  · rw [Np.Lemmas.getD_of_le l c 0 (Nat.le_of_not_lt hc)]
    exact roundNE_zero p

theorem getD_chAmps_exact (p : Nat) (T : Mat) (hp : ptpExactF p T = true) (c : Nat) :
    roundNE p ((chAmps T).getD c 0) = (chAmps T).getD c 0 :=
  getD_exact p _ (fun a ha => beq_iff_eq.1 (List.all_eq_true.1 hp a ha)) c

theorem getTemplateDenseF32_none (g : Geometry) (wmi : Mat) (sc : Rat) (Tw : Mat) (thr : Rat) :
    getTemplateDenseF32 g wmi sc Tw none thr = autoRecord g (denseF32Input wmi sc Tw) thr := rfl

theorem autoRecord_amp_exact (g : Geometry) (T : Mat) (thr : Rat) (p : Nat) (hp : ptpExactF p T = true) :
    ∀ a ∈ (autoRecord g T thr).amplitude, roundNE p a = a := by
  intro a ha
  simp only [autoRecord] at ha
  obtain ⟨c, _, rfl⟩ := List.mem_map.1 ha
  exact getD_chAmps_exact p T hp c

theorem explicit_amp_exact (g : Geometry) (wmi : Mat) (sc : Rat) (T : Mat) (l : List Nat) (thr : Rat) (p : Nat)
    (hl : ∀ c ∈ l, c < ncols T) (hp : ptpExactF p T = true) :
    ∀ a ∈ (getTemplateDense g wmi sc T (some l) thr false).amplitude, roundNE p a = a := by
  intro a ha
  have hamp : (getTemplateDense g wmi sc T (some l) thr false).amplitude = l.map fun c => ptp (col T c) :=
    chAmps'_sub T l
  rw [hamp] at ha
  obtain ⟨c, hc, rfl⟩ := List.mem_map.1 ha
  rw [← C09.Lemmas.chAmps_getD T c (hl c hc)]
  exact getD_chAmps_exact p T hp c

theorem sparseRecord_amp_exact (ch : List Nat) (Tk : Mat) (p : Nat)
    (hp : ∀ j, j < ch.length → roundNE p (ptp (col Tk j)) = ptp (col Tk j)) :
    ∀ a ∈ (sparseRecord ch Tk).amplitude, roundNE p a = a := by
  intro a ha
  obtain ⟨j, _, rfl⟩ := List.mem_map.1 ha
  refine getD_exact p _ (fun a ha => ?_) j
  obtain ⟨k, hk, rfl⟩ := List.mem_map.1 ha
  exact hp k (List.mem_range.1 hk)

end PhyVerif.C05.Lemmas
