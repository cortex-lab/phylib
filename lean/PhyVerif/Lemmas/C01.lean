import PhyVerif.Model.C01
import PhyVerif.Spec.C01
import PhyVerif.Lemmas.Np
import PhyVerif.Lemmas.C07
/-! Proofs for C01 on a bare list of parts (`Model/C01.lean`): the chunk lookup on `bounds`, the three branches of
`getRows`, and their agreement with NumPy indexing of the concatenation (`Spec/C01.lean`). The list branch groups
the samples by `Np.unique` of their chunks, which `Lemmas/C07.lean` characterises. Statements: `Props/C01.lean`. -/
namespace PhyVerif.C01.Lemmas
open PhyVerif PhyVerif.C01

theorem boundsFrom_length {α : Type} (parts : List (List α)) :
    ∀ off, (boundsFrom off parts).length = parts.length + 1 := by
  induction parts with
  | nil => intro off; rfl
  | cons p ps ih => intro off; simp [boundsFrom, ih]

/-- cumulated length of the first `j` parts = start offset of part `j` -/
def startOf {α : Type} (parts : List (List α)) (j : Nat) : Nat := (parts.take j).flatten.length

theorem startOf_zero {α : Type} (parts : List (List α)) : startOf parts 0 = 0 := rfl

theorem startOf_length {α : Type} (parts : List (List α)) :
    startOf parts parts.length = parts.flatten.length := by
  rw [startOf, List.take_length]

theorem startOf_cons_succ {α : Type} (p : List α) (ps : List (List α)) (j : Nat) :
    startOf (p :: ps) (j + 1) = p.length + startOf ps j := by
  rw [startOf, List.take_succ_cons, List.flatten_cons, List.length_append]; rfl

theorem startOf_succ {α : Type} (parts : List (List α)) (j : Nat) (hj : j < parts.length) :
    startOf parts (j + 1) = startOf parts j + parts[j].length := by
  unfold startOf
  rw [List.take_succ_eq_append_getElem hj, List.flatten_append, List.length_append]
  simp

theorem boundsFrom_getElem? {α : Type} (parts : List (List α)) :
    ∀ off j, j ≤ parts.length → (boundsFrom off parts)[j]? = some (off + startOf parts j) := by
  induction parts with
  | nil =>
    intro off j hj
    obtain rfl : j = 0 := by simpa using hj
    rfl
  | cons p ps ih =>
    intro off j hj
    cases j with
    | zero => rfl
    | succ j =>
      rw [boundsFrom, List.getElem?_cons_succ, ih _ j (by simpa using hj), startOf_cons_succ,
        Nat.add_assoc]

theorem bounds_getElem? {α : Type} (parts : List (List α)) (j : Nat) (hj : j ≤ parts.length) :
    (bounds parts)[j]? = some (startOf parts j) := by
  rw [bounds, boundsFrom_getElem? parts 0 j hj, Nat.zero_add]

theorem bounds_length {α : Type} (parts : List (List α)) :
    (bounds parts).length = parts.length + 1 := boundsFrom_length parts 0

theorem nSamples_eq {α : Type} (parts : List (List α)) :
    (bounds parts).getLast? = some parts.flatten.length := by
  rw [List.getLast?_eq_getElem?, bounds_length, Nat.add_sub_cancel, bounds_getElem? parts _ (Nat.le_refl _),
    startOf_length]

theorem bounds_getElem {α : Type} (parts : List (List α)) (j : Nat) (hj : j < (bounds parts).length) :
    (bounds parts)[j] = startOf parts j :=
  Option.some.inj <| (List.getElem?_eq_getElem hj).symm.trans <|
    bounds_getElem? parts j (Nat.le_of_lt_succ (Nat.lt_of_lt_of_eq hj (bounds_length parts)))

/-- the test by which `readInt` and the list branch reject a chunk index beyond the last part -/
theorem bounds_length_not_le {α : Type} (parts : List (List α)) {c : Nat} (hc : c < parts.length) :
    ¬ c + 1 ≥ (bounds parts).length := by
  rw [bounds_length]
  exact Nat.not_le.2 (Nat.succ_lt_succ hc)

theorem ssRight_mono (b : List Nat) {x y : Nat} (h : x ≤ y) : ssRight b x ≤ ssRight b y := by
  unfold ssRight
  apply List.countP_mono_left
  intro z _ hz
  exact decide_eq_true (Nat.le_trans (of_decide_eq_true hz) h)

/-- every bound is at least `off` -/
theorem ssRight_boundsFrom_of_lt {α : Type} (parts : List (List α)) (x : Nat) :
    ∀ off, x < off → ssRight (boundsFrom off parts) x = 0 := by
  induction parts with
  | nil =>
    intro off h
    exact List.countP_cons_of_neg (by simpa using h)
  | cons p ps ih =>
    intro off h
    exact (List.countP_cons_of_neg (by simpa using h)).trans (ih _ (Nat.lt_add_right _ h))

theorem boundsFrom_le_iff {α : Type} (parts : List (List α)) (x : Nat) :
    ∀ off j, j ≤ parts.length →
      (off + startOf parts j ≤ x ↔ j < ssRight (boundsFrom off parts) x) := by
  induction parts with
  | nil =>
    intro off j hj
    obtain rfl : j = 0 := by simpa using hj
    simp only [boundsFrom, ssRight, startOf_zero, List.countP_cons, List.countP_nil, decide_eq_true_eq]
    split <;> omega
  | cons p ps ih =>
    intro off j hj
    by_cases hox : off ≤ x
    · have hs : ssRight (boundsFrom off (p :: ps)) x = ssRight (boundsFrom (off + p.length) ps) x + 1 :=
        List.countP_cons_of_pos (by simpa using hox)
      rw [hs]
      cases j with
      | zero => exact ⟨fun _ => Nat.succ_pos _, fun _ => hox⟩
      | succ j =>
        rw [startOf_cons_succ, ← Nat.add_assoc, Nat.succ_lt_succ_iff]
        exact ih _ j (Nat.le_of_succ_le_succ hj)
    · -- `x` is below every bound: both sides are false
      rw [ssRight_boundsFrom_of_lt _ x off (Nat.lt_of_not_le hox)]
      exact ⟨fun h => absurd (Nat.le_trans (Nat.le_add_right ..) h) hox, fun h => absurd h (Nat.not_lt_zero _)⟩

/-- `searchsorted(bounds, x, 'right')` counts the parts that start at or before `x` -/
theorem startOf_le_iff {α : Type} (parts : List (List α)) (x j : Nat) (hj : j ≤ parts.length) :
    startOf parts j ≤ x ↔ j < ssRight (bounds parts) x := by
  have h := boundsFrom_le_iff parts x 0 j hj
  rwa [Nat.zero_add] at h

/-- the chunk found by `_find_chunks` (`searchsorted(…, 'right') - 1`) is the part containing the sample -/
theorem chunk_spec {α : Type} (parts : List (List α)) (x : Nat) (hx : x < parts.flatten.length) :
    ssRight (bounds parts) x - 1 < parts.length ∧
    startOf parts (ssRight (bounds parts) x - 1) ≤ x ∧
    x < startOf parts (ssRight (bounds parts) x - 1 + 1) := by
  have h := startOf_le_iff parts x
  obtain ⟨c, hk⟩ := Nat.exists_eq_succ_of_ne_zero
    (Nat.ne_of_gt ((h 0 (Nat.zero_le _)).1 (Nat.zero_le x)))
  -- with the count written `c + 1` the three clauses are `h` at `parts.length`, `c` and `c + 1`
  rw [hk] at h ⊢
  have hc : c < parts.length := Nat.lt_of_not_le fun hle =>
    Nat.not_le.2 hx (startOf_length parts ▸ (h _ (Nat.le_refl _)).2 (Nat.lt_succ_of_le hle))
  exact ⟨hc, (h c (Nat.le_of_lt hc)).2 (Nat.lt_succ_self c),
    Nat.lt_of_not_le fun hle => Nat.lt_irrefl _ ((h (c + 1) hc).1 hle)⟩

theorem chunk_iff {α : Type} (parts : List (List α)) (y c : Nat) (hy : y < parts.flatten.length)
    (hc : c < parts.length) :
    startOf parts c ≤ y ∧ y < startOf parts (c + 1) ↔ ssRight (bounds parts) y - 1 = c := by
  constructor
  · rintro ⟨h1, h2⟩
    have ha : c + 1 ≤ ssRight (bounds parts) y := (startOf_le_iff parts y c (Nat.le_of_lt hc)).1 h1
    have hb := mt (startOf_le_iff parts y (c + 1) hc).2 (Nat.not_le.2 h2)
    exact Nat.sub_eq_of_eq_add (Nat.le_antisymm (Nat.le_of_not_lt hb) ha)
  · rintro rfl
    exact (chunk_spec parts y hy).2

theorem part_getElem? {α : Type} (parts : List (List α)) (c x : Nat) (hc : c < parts.length)
    (h1 : startOf parts c ≤ x) (h2 : x < startOf parts (c + 1)) :
    parts[c][x - startOf parts c]? = parts.flatten[x]? := by
  rw [startOf_succ parts c hc] at h2
  conv => rhs; rw [← List.take_append_drop c parts, List.drop_eq_getElem_cons hc,
    List.flatten_append, List.flatten_cons]
  rw [List.getElem?_append_right h1, List.getElem?_append_left
    (show x - (parts.take c).flatten.length < _ from Nat.sub_lt_left_of_lt_add h1 h2)]
  rfl

theorem readInt_eq {α : Type} (parts : List (List α)) (x : Nat) (hx : x < parts.flatten.length) :
    readInt parts x = (parts.flatten[x]?).map fun r => [r] := by
  obtain ⟨hc, h1, h2⟩ := chunk_spec parts x hx
  unfold readInt
  simp only []
  rw [if_neg (bounds_length_not_le parts hc), bounds_getElem? parts _ (Nat.le_of_lt hc),
    List.getElem?_eq_getElem hc]
  simp only []
  rw [part_getElem? parts _ x hc h1 h2]

/-- clipping the end of the window to the length of the part changes nothing -/
theorem slicePart_eq {α : Type} (s e i0 : Nat) (p : List α) :
    slicePart s e i0 p = (p.drop (s - i0)).take ((e - i0) - (s - i0)) := by
  unfold slicePart
  rw [← Nat.sub_min_sub_right, ← List.length_drop, Nat.min_comm, ← List.take_eq_take_min]

theorem slicePart_eq_nil_of_le {α : Type} (s e i0 : Nat) (p : List α) (h : i0 + p.length ≤ s) :
    slicePart s e i0 p = [] := by
  rw [slicePart_eq, List.drop_eq_nil_of_le (Nat.le_sub_of_add_le' h), List.take_nil]

theorem slicePart_eq_nil_of_ge {α : Type} (s e i0 : Nat) (p : List α) (h : e ≤ i0) :
    slicePart s e i0 p = [] := by
  rw [slicePart_eq, Nat.sub_eq_zero_of_le h, Nat.zero_sub, List.take_zero]

theorem drop_take_append {α : Type} (l₁ l₂ : List α) (s e : Nat) :
    ((l₁ ++ l₂).drop s).take (e - s) =
      (l₁.drop s).take (e - s) ++
        (l₂.drop (s - l₁.length)).take ((e - l₁.length) - (s - l₁.length)) := by
  -- both lengths of the second piece are `e - max s l₁.length`
  rw [List.drop_append, List.take_append, List.length_drop, Nat.sub_sub, Nat.sub_sub e,
    Nat.add_comm s, Nat.add_comm l₁.length, Nat.sub_add_eq_max, Nat.sub_add_eq_max, Nat.max_comm]

theorem slicePart_flatten {α : Type} (s e : Nat) (parts : List (List α)) :
    ∀ off, (((boundsFrom off parts).zip parts).map fun ip => slicePart s e ip.1 ip.2).flatten
      = (parts.flatten.drop (s - off)).take ((e - off) - (s - off)) := by
  induction parts with
  | nil => intro off; simp [boundsFrom]
  | cons p ps ih =>
    intro off
    rw [boundsFrom, List.zip_cons_cons, List.map_cons, List.flatten_cons, List.flatten_cons, ih]
    show slicePart s e off p ++ _ = _
    rw [slicePart_eq, drop_take_append, Nat.sub_sub s off p.length,
      Nat.sub_sub e off p.length]

theorem flatten_map_eq_nil {β γ : Type} (f : β → List γ) (L : List β) (h : ∀ y ∈ L, f y = []) :
    (L.map f).flatten = [] := by
  rw [List.flatten_eq_nil_iff]
  intro l hl
  obtain ⟨y, hy, rfl⟩ := List.mem_map.1 hl
  exact h y hy

theorem flatten_map_window {β γ : Type} (f : β → List γ) (L : List β) (a k : Nat)
    (h1 : ∀ j (h : j < L.length), j < a → f L[j] = [])
    (h2 : ∀ j (h : j < L.length), a + k ≤ j → f L[j] = []) :
    (((L.drop a).take k).map f).flatten = (L.map f).flatten := by
  conv => rhs; rw [← List.take_append_drop a L, ← List.take_append_drop k (L.drop a)]
  rw [List.map_append, List.map_append, List.flatten_append, List.flatten_append,
    flatten_map_eq_nil f (L.take a), flatten_map_eq_nil f ((L.drop a).drop k), List.nil_append,
    List.append_nil]
  · intro y hy
    rw [List.drop_drop] at hy
    obtain ⟨j, hj, rfl⟩ := List.mem_drop_iff_getElem.1 hy
    exact h2 (a + k + j) (Nat.add_comm j _ ▸ hj) (Nat.le_add_right _ _)
  · intro y hy
    obtain ⟨j, hj, rfl⟩ := List.mem_take_iff_getElem.1 hy
    exact h1 j (Nat.lt_of_lt_of_le hj (Nat.min_le_right ..)) (Nat.lt_of_lt_of_le hj (Nat.min_le_left ..))

theorem readSlice_eq {α : Type} (parts : List (List α)) (s e : Nat) :
    readSlice parts s e = (parts.flatten.drop s).take (e - s) := by
  have hw := slicePart_flatten s e parts 0
  rw [Nat.sub_zero, Nat.sub_zero] at hw
  rw [← hw]
  have hlen : ((bounds parts).zip parts).length ≤ parts.length := by
    rw [List.length_zip]
    exact Nat.min_le_right ..
  -- parts that end at or before `s`, or start at or after `e`, contribute nothing
  apply flatten_map_window
  · intro j hj hlt
    have hjp := Nat.lt_of_lt_of_le hj hlen
    rw [List.getElem_zip, bounds_getElem]
    apply slicePart_eq_nil_of_le
    rw [← startOf_succ parts j hjp]
    exact (startOf_le_iff parts s (j + 1) hjp).2 (Nat.add_lt_of_lt_sub hlt)
  · intro j hj hle
    rw [List.getElem_zip, bounds_getElem]
    apply slicePart_eq_nil_of_ge
    have := startOf_le_iff parts (e - 1) j (Nat.le_trans (Nat.le_of_lt hj) hlen)
    omega

theorem neg_emod (v n : Int) (h1 : -n ≤ v) (h2 : v < 0) : v % n = v + n := by
  rw [← Int.add_emod_right]
  exact Int.emod_eq_of_lt (by omega) (by omega)

/-- an index in `[-n, n)`, negative ones counted from the end, is a position below `n` -/
theorem wrapIdx_spec {n : Nat} {i : Int} (h1 : -(n : Int) ≤ i) (h2 : i < n) :
    0 ≤ (if i < 0 then i + (n : Int) else i) ∧ (if i < 0 then i + (n : Int) else i).toNat < n := by
  have h0 : 0 ≤ (if i < 0 then i + (n : Int) else i) := by split <;> omega
  exact ⟨h0, (Int.toNat_lt h0).2 (by split <;> omega)⟩

/-- NumPy's start of a unit-step slice on `n` rows (`slice.indices`) -/
def npStart (n : Int) : Option Int → Int
  | none => 0
  | some s => if s < 0 then max (s + n) 0 else min s n
/-- … and its stop -/
def npStop (n : Int) : Option Int → Int
  | none => n
  | some e => if e < 0 then max (e + n) 0 else min e n

theorem npStart_nonneg (n : Nat) : ∀ start, 0 ≤ npStart n start
  | none => Int.le_refl 0
  | some s => by
    show 0 ≤ if s < 0 then max (s + n) 0 else min s n
    split
    · exact Int.le_max_right _ _
    · exact Int.le_min.2 ⟨Int.not_lt.1 ‹_›, Int.natCast_nonneg n⟩

theorem npStop_le (n : Nat) : ∀ stop, npStop n stop ≤ n
  | none => Int.le_refl n
  | some e => by
    show (if e < 0 then max (e + n) 0 else min e n) ≤ n
    split
    · exact Int.max_le.2 ⟨by omega, Int.natCast_nonneg n⟩
    · exact Int.min_le_right _ _

theorem sliceIdx_one (n : Nat) (start stop : Option Int) :
    Np.sliceIdx n start stop 1 =
      List.range' (npStart n start).toNat (npStop n stop - npStart n start).toNat := by
  unfold Np.sliceIdx
  rw [if_pos (by decide), List.range'_eq_map_range]
  show (List.range (if npStart n start < npStop n stop then
      ((npStop n stop - npStart n start + 1 - 1) / 1).toNat else 0)).map
      (fun (k : Nat) => (npStart n start + Int.ofNat k * 1).toNat) = _
  split
  · rw [Int.ediv_one, Int.add_sub_cancel]
    apply List.map_congr_left
    intro k _
    rw [Int.mul_one]
    exact Int.toNat_add_nat (npStart_nonneg n start) k
  · rw [Int.toNat_eq_zero.2 (Int.sub_nonpos_of_le (Int.not_lt.1 ‹_›))]
    rfl

/-- `A[lo:hi]` with both bounds inside -/
theorem sliceIdx_inside (n : Nat) (lo hi : Int) (h0 : 0 ≤ lo) (h1 : lo ≤ hi) (h2 : hi ≤ n) :
    Np.sliceIdx n (some lo) (some hi) 1 = List.range' lo.toNat (hi.toNat - lo.toNat) := by
  have h0' := Int.le_trans h0 h1
  rw [sliceIdx_one, npStart, npStop, if_neg (Int.not_lt.2 h0), if_neg (Int.not_lt.2 h0'),
    Int.min_eq_left (Int.le_trans h1 h2), Int.min_eq_left h2, Int.toNat_sub'' h0' h0]

/-- on a bound within `[-n, n]` the reader's normalisation (`v % n` for negative `v`, then `min`) is
`slice.indices`' (`max (v + n) 0` for negative `v`) -/
theorem normBound_eq (n : Nat) (v : Int) (h : -(n : Int) ≤ v ∧ v ≤ n) :
    normBound v n = if v < 0 then max (v + n) 0 else min v n := by
  unfold normBound
  simp only []
  split
  · rw [neg_emod v n h.1 ‹_›, Int.min_eq_left (by omega), Int.max_eq_left (by omega)]
  · rfl

/-- a slice with bounds in `[-n, n]` that selects a row: both ways of normalising give the same `[s, e)` -/
theorem slice_norm (n : Nat) (start stop : Option Int)
    (hs : ∀ s, start = some s → -(n : Int) ≤ s ∧ s ≤ n)
    (he : ∀ e, stop = some e → -(n : Int) ≤ e ∧ e ≤ n)
    (hne : Np.sliceIdx n start stop 1 ≠ []) :
    ∃ s e : Nat, s < e ∧ e ≤ n ∧ normBound (pyOr start 0) n = s ∧ normBound (pyOr stop n) n = e ∧
      Np.sliceIdx n start stop 1 = List.range' s (e - s) := by
  rw [sliceIdx_one] at hne ⊢
  have h0 := npStart_nonneg n start
  have hn := npStop_le n stop
  have hlt : npStart n start < npStop n stop := by
    apply Int.lt_of_not_ge
    intro h
    apply hne
    rw [Int.toNat_eq_zero.2 (Int.sub_nonpos_of_le h)]
    rfl
  -- `start or 0` is `start` whenever there is one
  have hS : normBound (pyOr start 0) n = npStart n start := by
    cases start with
    | none => exact normBound_eq n 0 ⟨Int.neg_nonpos_of_nonneg (Int.natCast_nonneg n), Int.natCast_nonneg n⟩
    | some v =>
      have hv : pyOr (some v) 0 = v := by
        by_cases h : v = 0
        · rw [h]; rfl
        · exact if_neg h
      rw [hv]
      exact normBound_eq n v (hs v rfl)
  -- `stop or n` differs from `stop` for `stop = 0`, which selects no row
  have hE : normBound (pyOr stop n) n = npStop n stop := by
    cases stop with
    | none =>
      show min (if (n : Int) < 0 then (n : Int) % n else n) n = n
      rw [if_neg (Int.not_lt.2 (Int.natCast_nonneg n)), Int.min_self]
    | some v =>
      have hv0 : v ≠ 0 := by
        rintro rfl
        simp only [npStop] at hlt
        omega
      rw [show pyOr (some v) (n : Int) = v from if_neg hv0]
      exact normBound_eq n v (he v rfl)
  obtain ⟨s, hs'⟩ := Int.eq_ofNat_of_zero_le h0
  obtain ⟨e, he'⟩ := Int.eq_ofNat_of_zero_le (Int.le_trans h0 (Int.le_of_lt hlt))
  rw [hs', he'] at hlt
  rw [he'] at hn
  refine ⟨s, e, Int.ofNat_lt.1 hlt, Int.ofNat_le.1 hn, hS.trans hs', hE.trans he', ?_⟩
  rw [hs', he', Int.toNat_natCast, Int.toNat_sub]

theorem filter_append_filter {β : Type} (f : β → Nat) (p q : β → Bool) (l : List β)
    (hl : l.Pairwise (fun a b => f a ≤ f b)) (hpq : ∀ x y, p x = true → q y = true → f x < f y) :
    l.filter p ++ l.filter q = l.filter (fun x => p x || q x) := by
  induction l with
  | nil => rfl
  | cons x xs ih =>
    rw [List.pairwise_cons] at hl
    have ih' := ih hl.2
    cases hq : q x
    · cases hp : p x <;> simp [hp, hq, ih']
    · -- `x` satisfies `q`: neither `x` nor a later entry satisfies `p`
      have hp : p x = false := Bool.eq_false_iff.2 fun hp => Nat.lt_irrefl _ (hpq x x hp hq)
      have h1 : xs.filter p = [] := List.filter_eq_nil_iff.2 fun y hy hpy =>
        Nat.not_lt.2 (hl.1 y hy) (hpq y x hpy hq)
      rw [h1] at ih'
      simp [hp, hq, h1, ← ih']

theorem group_flatten {β : Type} (f : β → Nat) (cs : List Nat) (hcs : cs.Pairwise (· < ·)) (l : List β)
    (hl : l.Pairwise (fun a b => f a ≤ f b)) :
    (cs.map fun c => l.filter (fun x => f x == c)).flatten = l.filter (fun x => cs.contains (f x)) := by
  induction cs with
  | nil => simp
  | cons c cs ih =>
    rw [List.pairwise_cons] at hcs
    rw [List.map_cons, List.flatten_cons, ih hcs.2, filter_append_filter f _ _ l hl]
    · apply List.filter_congr
      intro x _
      rw [List.contains_cons]
    · intro x y hx hy
      rw [beq_iff_eq] at hx
      rw [hx]
      exact hcs.1 _ (List.contains_iff_mem.1 hy)

theorem unique_ofNat_spec (f : Nat → Nat) (l : List Nat) :
    (Np.unique (l.map fun x => Int.ofNat (f x))).Pairwise (· < ·) ∧
    ∀ c, c ∈ Np.unique (l.map fun x => Int.ofNat (f x)) ↔ ∃ x ∈ l, f x = c := by
  obtain ⟨hsorted, hmem⟩ := C07.Lemmas.unique_spec (l.map fun x => Int.ofNat (f x))
  refine ⟨hsorted, fun c => ?_⟩
  simp only [hmem, List.mem_map, Int.ofNat.injEq]

/-- what the list branch reads from part `c` -/
theorem readList_piece {α : Type} (parts : List (List α)) (l : List Nat)
    (hlt : ∀ x ∈ l, x < parts.flatten.length) (d : α) (c : Nat) (hc : c < parts.length) :
    ((l.filter fun y => decide (startOf parts c ≤ y) && decide (y < startOf parts (c + 1))).mapM
        fun y => parts[c][y - startOf parts c]?) =
      some ((l.filter fun y => ssRight (bounds parts) y - 1 == c).map
        fun y => (parts.flatten[y]?).getD d) := by
  have hfilter : (l.filter fun y => decide (startOf parts c ≤ y) && decide (y < startOf parts (c + 1))) =
      l.filter fun y => ssRight (bounds parts) y - 1 == c := by
    apply List.filter_congr
    intro y hy
    rw [Bool.eq_iff_iff, Bool.and_eq_true, decide_eq_true_eq, decide_eq_true_eq, beq_iff_eq]
    exact chunk_iff parts y c (hlt y hy) hc
  rw [hfilter]
  apply Np.Lemmas.mapM_option_eq_some
  intro y hy
  rw [List.mem_filter, beq_iff_eq] at hy
  obtain ⟨h1, h2⟩ := (chunk_iff parts y c (hlt y hy.1) hc).2 hy.2
  rw [part_getElem? parts c y hc h1 h2, List.getElem?_eq_getElem (hlt y hy.1)]
  rfl

theorem readList_eq {α : Type} (parts : List (List α)) (l : List Nat)
    (hl : l.Pairwise (· < ·)) (hlt : ∀ x ∈ l, x < parts.flatten.length) (d : α) :
    readList parts l = some (l.map fun x => (parts.flatten[x]?).getD d) := by
  let cid : Nat → Nat := fun x => ssRight (bounds parts) x - 1
  let G : Nat → α := fun x => (parts.flatten[x]?).getD d
  obtain ⟨hsorted, hmem⟩ := unique_ofNat_spec cid l
  have hmono : l.Pairwise (fun a b => cid a ≤ cid b) :=
    hl.imp fun hab => Nat.sub_le_sub_right (ssRight_mono (bounds parts) (Nat.le_of_lt hab)) 1
  -- the chunk index is monotone on `l`: stacking the groups chunk by chunk gives `l` back in its order
  have hgroup := group_flatten cid _ hsorted l hmono
  rw [List.filter_eq_self.2 fun x hx => List.contains_iff_mem.2 ((hmem _).2 ⟨x, hx, rfl⟩)] at hgroup
  unfold readList
  simp only []
  rw [Np.Lemmas.mapM_option_eq_some _ (fun c => (l.filter (fun x => cid x == c)).map G)]
  · conv => rhs; rw [← hgroup, List.map_flatten, List.map_map]
    rfl
  · intro c hc
    obtain ⟨x, hx, rfl⟩ := (hmem c).1 hc
    obtain ⟨hc, _, _⟩ := chunk_spec parts x (hlt x hx)
    simp only [cid]
    rw [if_neg (bounds_length_not_le parts hc), bounds_getElem? parts _ (Nat.le_of_lt hc),
      bounds_getElem? parts _ hc, List.getElem?_eq_getElem hc]
    exact readList_piece parts l hlt d _ hc

/-- an in-domain index list is non-empty and within range, so there is a row (the default that `getD` asks for) -/
theorem nonempty_of_inDom_list {α : Type} (A : List α) (l : List Int) (hd : InDom A.length (.list l)) :
    Nonempty α := by
  obtain ⟨i, hi⟩ := List.exists_mem_of_ne_nil l hd.1
  obtain ⟨h0, h1⟩ := hd.2.2 i hi
  exact ⟨A[i.toNat]'((Int.toNat_lt h0).2 h1)⟩

/-- what `InDom` says of an index list, in the form in which the list branch tests and reads it -/
theorem inDom_list {n : Nat} {l : List Int} (hd : InDom n (.list l)) :
    ¬ l.isEmpty ∧ ¬ l.any (· < 0) ∧
      (l.map Int.toNat).Pairwise (· < ·) ∧ ∀ x ∈ l.map Int.toNat, x < n := by
  obtain ⟨hl0, hl1, hl2⟩ := hd
  refine ⟨mt List.isEmpty_iff.1 hl0, ?_, ?_, ?_⟩
  · simp only [List.any_eq_true, decide_eq_true_eq, not_exists, not_and]
    intro i hi
    exact Int.not_lt.2 (hl2 i hi).1
  · rw [List.pairwise_map]
    apply hl1.imp_of_mem
    intro a b ha _ hab
    exact (Int.toNat_lt_toNat (Int.lt_of_le_of_lt (hl2 a ha).1 hab)).2 hab
  · intro x hx
    obtain ⟨i, hi, rfl⟩ := List.mem_map.1 hx
    exact (Int.toNat_lt (hl2 i hi).1).2 (hl2 i hi).2

theorem npRows_list_eq {α : Type} (A : List α) (l : List Int)
    (h : ∀ i ∈ l, 0 ≤ i ∧ i < A.length) (d : α) :
    npRows A (.list l) = some ((l.map Int.toNat).map fun x => (A[x]?).getD d) := by
  unfold npRows
  simp only []
  rw [List.map_map]
  apply Np.Lemmas.mapM_option_eq_some
  intro i hi
  obtain ⟨h0, h1⟩ := h i hi
  show _ = some ((A[i.toNat]?).getD d)
  rw [if_pos ⟨Int.le_trans (Int.neg_nonpos_of_nonneg (Int.natCast_nonneg _)) h0, h1⟩, if_neg (Int.not_lt.2 h0),
    List.getElem?_eq_getElem ((Int.toNat_lt h0).2 h1)]
  rfl

theorem npRows_some {α : Type} (A : List α) (it : Item) (hd : InDom A.length it) :
    ∃ rows, npRows A it = some rows ∧ rows ≠ [] := by
  cases it with
  | int i =>
    obtain ⟨h1, h2⟩ := hd
    have hlt := (wrapIdx_spec h1 h2).2
    refine ⟨[A[(if i < 0 then i + (A.length : Int) else i).toNat]], ?_, List.cons_ne_nil _ _⟩
    unfold npRows
    simp only []
    rw [if_pos ⟨h1, h2⟩, List.getElem?_eq_getElem hlt]; rfl
  | slice start stop =>
    obtain ⟨hs, he, hne'⟩ := hd
    obtain ⟨s, e, hse, hen, _, _, hidx⟩ := slice_norm _ start stop hs he hne'
    refine ⟨_, rfl, ?_⟩
    rw [hidx, Np.Lemmas.take_range']
    apply List.ne_nil_of_length_pos
    rw [List.length_take, List.length_drop]
    exact Nat.lt_min.2 ⟨Nat.sub_pos_of_lt hse, Nat.sub_pos_of_lt (Nat.lt_of_lt_of_le hse hen)⟩
  | list l =>
    obtain ⟨d⟩ := nonempty_of_inDom_list A l hd
    refine ⟨_, npRows_list_eq A l hd.2.2 d, ?_⟩
    simpa using hd.1

/-- Neither `parts ≠ []` (implied by `InDom`) nor non-empty parts are needed: with an empty part `bounds` is only
weakly increasing, which is all the chunk lookup uses. -/
theorem getRows_eq_concat' {α : Type} (parts : List (List α)) (it : Item)
    (hd : InDom parts.flatten.length it) :
    getRows parts it = npRows parts.flatten it := by
  have hn : (bounds parts).getLast?.getD 0 = parts.flatten.length := by rw [nSamples_eq]; rfl
  cases it with
  | int i =>
    obtain ⟨h1, h2⟩ := hd
    have hmod : (if i < 0 then i % (parts.flatten.length : Int) else i) =
        if i < 0 then i + (parts.flatten.length : Int) else i := by
      split
      · exact neg_emod i _ h1 ‹_›
      · rfl
    have hj := wrapIdx_spec h1 h2
    unfold getRows npRows
    simp only [hn]
    have hn0 : ¬ ((parts.flatten.length : Nat) : Int) = 0 := by omega
    rw [if_neg hn0, if_pos (And.intro h1 h2), hmod, if_neg (Int.not_lt.2 hj.1)]
    exact readInt_eq parts _ hj.2
  | slice start stop =>
    obtain ⟨hs, he, hne'⟩ := hd
    obtain ⟨s, e, hse, hen, hS, hE, hidx⟩ := slice_norm _ start stop hs he hne'
    unfold getRows npRows
    simp only [hn, hS, hE, hidx]
    rw [if_pos ⟨Int.natCast_nonneg s, Int.ofNat_le.2 (Nat.le_trans (Nat.le_of_lt hse) hen), Int.natCast_nonneg e,
        Int.ofNat_le.2 hen⟩,
      if_neg (Int.not_le.2 (Int.natCast_pos.2 (Nat.zero_lt_of_lt hse))), Int.toNat_natCast, Int.toNat_natCast,
      if_neg (Nat.not_lt.2 (ssRight_mono (bounds parts) (Nat.le_sub_one_of_lt hse))),
      readSlice_eq parts s e, Np.Lemmas.take_range']
  | list l =>
    obtain ⟨d⟩ := nonempty_of_inDom_list _ l hd
    obtain ⟨h1, h2, h3, h4⟩ := inDom_list hd
    rw [npRows_list_eq _ l hd.2.2 d]
    unfold getRows
    simp only []
    rw [if_neg h1, if_neg h2]
    exact readList_eq parts _ h3 h4 d

set_option linter.unusedVariables false in
/-- for the layouts a reader of the real code has: at least one part, no empty part -/
theorem getRows_eq_concat {α : Type} (parts : List (List α)) (hp : parts ≠ [])
    (hne : ∀ p ∈ parts, p ≠ []) (it : Item) (hd : InDom parts.flatten.length it) :
    getRows parts it = npRows parts.flatten it :=
  getRows_eq_concat' parts it hd

set_option linter.unusedVariables false in
theorem getItem_eq_concat {β : Type} (parts : List (List (List β))) (hp : parts ≠ [])
    (hne : ∀ p ∈ parts, p ≠ []) (it : Item) (c : ColSel) (hd : InDom parts.flatten.length it) :
    getItem parts it c = (npRows parts.flatten it).map fun rows => rows.map (selCols c) :=
  congrArg _ (getRows_eq_concat' parts it hd)

theorem memmapRows_exact (off isz nch rows : Nat) (h1 : 0 < isz) (h2 : 0 < nch) :
    memmapRows (off + rows * nch * isz) off isz nch = rows := by
  unfold memmapRows
  rw [Nat.add_sub_cancel_left, Nat.mul_assoc, Nat.mul_comm nch isz]
  exact Nat.mul_div_cancel _ (Nat.mul_pos h1 h2)

end PhyVerif.C01.Lemmas
