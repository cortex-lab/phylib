import PhyVerif.Model.C11e
import PhyVerif.Spec.C11e
import PhyVerif.Model.C11l
/-! The merges of the example directories of `Spec/C11e.lean`, run together for the examples of `Props/C11.lean`,
whose statements these conjuncts are: such a run costs above all the turning of its file names into bytes, and one
evaluation does that once. (The first conjunct is the example with stale registers after `mergeFrom_as_fresh`.) -/
namespace PhyVerif.C11.Lemmas
open PhyVerif PhyVerif.C11

theorem merge_examples :
    (merge exampleFS ["a", "b"] "out").1.1.read ("out", "template_feature_ind.npy") = some (.table [[0], [1]]) ∧
    ((merge exampleFS ["a", "b"] "out").2 = none ∧
    (merge exampleFS ["a", "b"] "out").1.1.names "out" =
      ["whitening_mat_inv.npy", "template_feature_ind.npy", "pc_feature_ind.npy", "templates.npy",
       "channel_positions.npy", "channel_probe.npy", "channel_map.npy", "cluster_KSLabel.tsv", "cluster_probes.npy",
       "spike_templates.npy", "spike_clusters.npy", "amplitudes.npy", "spike_times.npy", "probes.description.tsv",
       "params.py"] ∧
    (merge exampleFS ["a", "b"] "out").1.1.read ("out", "spike_clusters.npy") = some (.nats [1, 3, 0, 2]) ∧
    (merge exampleFS ["a", "b"] "out").1.1.read ("out", "whitening_mat_inv.npy") = some (.computedInv none) ∧
    (merge exampleFS ["a", "b"] "out").1.1.names "a" = exampleFS.names "a") ∧
    ((merge exampleFS ["a", "b"] "a").2 = some (.shape "spike_templates.npy") ∧
    (merge exampleFS ["a", "b"] "a").1.1.read ("a", "spike_times.npy") = some (.ints [3, 4, 5, 5])) ∧
    (let broken := exampleFS.filter fun e => !(e.1 == ("b", "templates.npy"))
    let r := mergeRetry broken [(("b", "templates.npy"), .tmpl [[[5, 6]]])] ["a", "b"] "out"
    r.1.2 = some (.notFound "b" "templates.npy") ∧
    r.1.1.1.names "out" = ["spike_templates.npy", "amplitudes.npy", "spike_times.npy", "probes.description.tsv", "params.py"] ∧
    r.2.2 = none ∧
    (∀ n ∈ outputNames, r.2.1.1.read ("out", n) = (merge exampleFS ["a", "b"] "out").1.1.read ("out", n)) ∧
    r.2.1.1.read ("out", "cluster_KSLabel.tsv") = some (.tsv [(0, 7)])) ∧
    ((merge (exampleFS.write ("b", "pc_feature_ind.npy") (.table [[0]])) ["a", "b"] "out").2 = some (.ragged "pc_feature_ind.npy") ∧
    ((merge (exampleFS.write ("b", "pc_feature_ind.npy") (.table [[0]])) ["a", "b"] "out").1.1.read ("out", "templates.npy")).isSome ∧
    sameWidth [[[0, 1]], [[0]]] = false ∧ (∀ t ∈ [[[0, 1]], [[0]]], t ≠ ([] : List (List Nat)))) ∧
    ((merge (exampleProbe "a" [3, 5] [] ++ [(("b", "params.py"), .params 30000 2), (("b", "spike_times.npy"), .ints []),
      (("b", "amplitudes.npy"), .ints []), (("b", "spike_templates.npy"), .nats []), (("b", "spike_clusters.npy"), .nats [])])
    ["a", "b"] "out").2 = some (.emptyMax "spike_clusters.npy")) := by decide +kernel

end PhyVerif.C11.Lemmas
