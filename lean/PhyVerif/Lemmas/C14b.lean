import PhyVerif.Model.C14
import PhyVerif.Spec.C14
import PhyVerif.Lemmas.C09b
import PhyVerif.Lemmas.C12
/-! The value files of Model/C14 entry by entry: the unit factor in the amplitude and waveform files, the waveform gather
(on stored and on returned waveforms), cluster depths and spike depths without features, durations in ms — for a GIVEN
list of blanked ids (which ids: `Lemmas/C14c.lean`). -/
namespace PhyVerif.C14.Lemmas
open PhyVerif PhyVerif.C09 PhyVerif.C14

theorem spikeAmpsUnit_factor (d : Data) (f : Rat) :
    spikeAmpsUnit d f = (spikeAmpsUnit d 1).map (· * f) := by
  unfold spikeAmpsUnit
  rw [List.map_map]
  apply List.map_congr_left
  intro x _
  simp

theorem ampsVUnit_factor (d : Data) (f : Rat) :
    ampsVUnit d f = (ampsVUnit d 1).map fun o => o.map (· * f) := by
  unfold ampsVUnit
  rw [List.map_map]
  apply List.map_congr_left
  intro o _
  cases o <;> simp

theorem scaleMat_one (W : Mat) : scaleMat W 1 = W := by
  unfold scaleMat
  simp

theorem rescaledUnit_factor (d : Data) (f : Rat) :
    rescaledUnit d f = (rescaledUnit d 1).map fun o => o.map fun W => scaleMat W f := by
  unfold rescaledUnit
  rw [List.map_map]
  apply List.map_congr_left
  intro o _
  cases o <;> simp [scaleMat_one]

theorem gather_scale (row : List Rat) (cs : List Nat) (f : Rat) :
    (cs.map fun c => (row.map (· * f)).getD c 0) = (cs.map fun c => row.getD c 0).map (· * f) := by
  rw [List.map_map]
  apply List.map_congr_left
  intro c _
  exact C09.Lemmas.getD_map_mul row f c

theorem exportWaveformsOpt_scale (wfs : List (Option Mat)) (inds : List (List Nat)) (f : Rat) :
    exportWaveformsOpt (wfs.map fun o => o.map fun W => scaleMat W f) inds =
      (exportWaveformsOpt wfs inds).map fun o => o.map fun W => scaleMat W f := by
  unfold exportWaveformsOpt
  rw [List.zip_map_left, List.map_map, List.map_map]
  apply List.map_congr_left
  intro p _
  rcases p with ⟨o, cs⟩
  cases o with
  | none => rfl
  | some W =>
    show some ((scaleMat W f).map _) = some (scaleMat (W.map _) f)
    unfold scaleMat
    rw [List.map_map, List.map_map]
    exact congrArg some (List.map_congr_left fun row _ => gather_scale row cs f)

theorem amps_carry_factor (dT dC : Data) (f : Rat) (indsT indsC : List (List Nat)) :
    let e := exportAmpFiles dT dC f indsT indsC
    let e1 := exportAmpFiles dT dC 1 indsT indsC
    e.spikesAmps = e1.spikesAmps.map (· * f) ∧
    e.templatesAmps = e1.templatesAmps.map (fun o => o.map (· * f)) ∧
    e.clustersAmps = e1.clustersAmps.map (fun o => o.map (· * f)) ∧
    e.templatesWaveforms = e1.templatesWaveforms.map (fun o => o.map fun W => scaleMat W f) ∧
    e.clustersWaveforms = e1.clustersWaveforms.map (fun o => o.map fun W => scaleMat W f) := by
  simp only [exportAmpFiles, amplitudesTrue]
  refine ⟨spikeAmpsUnit_factor dT f, ampsVUnit_factor dT f, ampsVUnit_factor dC f, ?_, ?_⟩
  · rw [rescaledUnit_factor dT f, exportWaveformsOpt_scale]
  · rw [rescaledUnit_factor dC f, exportWaveformsOpt_scale]

theorem spike_amps_eq (dT dC : Data) (f : Rat) (indsT indsC : List (List Nat)) (i : Nat)
    (hi : i < dT.spikes.length) (ha : dT.amplitudes.length = dT.spikes.length)
    (hs : dT.spikes.getD i 0 < dT.wfsW.length) :
    (exportAmpFiles dT dC f indsT indsC).spikesAmps.getD i 0 =
      dT.amplitudes.getD i 0 *
        listMax (chAmps (matMul (dT.wfsW.getD (dT.spikes.getD i 0) []) dT.wmi)) * f :=
  (C09.Lemmas.spikeAmpUnit_eq dT f i hi ha hs).1

theorem template_cluster_amps_eq_mean (dT dC : Data) (f : Rat) (indsT indsC : List (List Nat))
    (haT : dT.amplitudes.length = dT.spikes.length) (haC : dC.amplitudes.length = dC.spikes.length)
    (_hsT : ∀ s ∈ dT.spikes, s < dT.wfsW.length) (_hsC : ∀ s ∈ dC.spikes, s < dC.wfsW.length) :
    (∀ t, t < dT.wfsW.length →
      (exportAmpFiles dT dC f indsT indsC).templatesAmps.getD t none =
        meanOver dT.spikes (exportAmpFiles dT dC f indsT indsC).spikesAmps t) ∧
    (∀ c, c < dC.wfsW.length →
      (exportAmpFiles dT dC f indsT indsC).clustersAmps.getD c none =
        meanOver dC.spikes (spikeAmpsUnit dC f) c) ∧
    (exportAmpFiles dT dC f indsT indsC).templatesAmps.length = dT.wfsW.length ∧
    (exportAmpFiles dT dC f indsT indsC).clustersAmps.length = dC.wfsW.length := by
  simp only [exportAmpFiles, amplitudesTrue]
  exact ⟨fun t ht => (C09.Lemmas.ampsVUnit_eq_mean dT f haT t ht).1,
    fun c hc => (C09.Lemmas.ampsVUnit_eq_mean dC f haC c hc).1,
    C09.Lemmas.ampsVUnit_length dT f, C09.Lemmas.ampsVUnit_length dC f⟩

/-- `W[:, cs]`: column `j` of the gathered block is column `cs[j]` of `W` -/
theorem gather_entry (W : Mat) (cs : List Nat) (s j : Nat) (hj : j < cs.length) :
    ((W.map fun row => cs.map fun c => row.getD c 0).getD s []).getD j 0 = (W.getD s []).getD (cs.getD j 0) 0 := by
  by_cases hs : s < W.length
  · rw [Np.Lemmas.getD_map_of_lt _ W s [] [] hs, Np.Lemmas.getD_map_of_lt _ cs j 0 0 hj]
  · -- no such row: both sides read a default
    rw [Np.Lemmas.getD_of_le _ s [] (by rw [List.length_map]; exact Nat.le_of_not_lt hs),
      Np.Lemmas.getD_of_le W s [] (Nat.le_of_not_lt hs)]
    rfl

theorem exportWaveforms_getD (wfs : List Mat) (inds : List (List Nat)) (t : Nat) (ht : t < inds.length) :
    (exportWaveforms wfs inds).getD t [] =
      (wfs.getD t []).map fun row => (inds.getD t []).map fun c => row.getD c 0 :=
  Np.Lemmas.getD_map_zip_of_lt_right _ wfs inds t [] [] [] (fun _ => rfl) ht

theorem waveforms_eq (wfs : List Mat) (inds : List (List Nat))
    (t s j : Nat)
    (hj : j < (inds.getD t []).length) :
    (((exportWaveforms wfs inds).getD t []).getD s []).getD j 0 =
      ((wfs.getD t []).getD s []).getD ((inds.getD t []).getD j 0) 0 := by
  rw [exportWaveforms_getD wfs inds t (C12.Lemmas.lt_length_of_lt_getD_length inds t j hj)]
  exact gather_entry _ _ s j hj

theorem exportWaveformsOpt_getD (wfs : List (Option Mat)) (inds : List (List Nat)) (t : Nat) :
    (exportWaveformsOpt wfs inds).getD t none =
      if t < inds.length then
        (wfs.getD t none).map fun W => W.map fun row => (inds.getD t []).map fun c => row.getD c 0
      else none := by
  split
  · next ht => exact Np.Lemmas.getD_map_zip_of_lt_right _ wfs inds t none [] none (fun _ => rfl) ht
  · next ht =>
    refine Np.Lemmas.getD_of_le _ t none ?_
    rw [exportWaveformsOpt, List.length_map, List.length_zip]
    exact Nat.le_trans (Nat.min_le_right _ _) (Nat.le_of_not_lt ht)

theorem exported_waveform_rescaled (d : Data) (f : Rat) (inds : List (List Nat))
    (hnn : ∀ a ∈ d.amplitudes, 0 ≤ a) (hf : 0 ≤ f) (t : Nat) (ht : t < d.wfsW.length)
    (hti : t < inds.length) (v : Rat) (hv : (ampsVUnit d f).getD t none = some v)
    (hau : 0 < (ampsAu d).getD t 0) (ns nc : Nat) (hns : 0 < ns) (hnc : 0 < nc)
    (hrect : Rect ((unwhitened d).getD t []) ns nc) :
    ∃ W E, (rescaledUnit d f).getD t none = some W ∧ IsPeakAmp W nc v ∧
      (exportWaveformsOpt (rescaledUnit d f) inds).getD t none = some E ∧ E.length = ns ∧
      ∀ s j, s < ns → j < (inds.getD t []).length →
        entry E s j = entry ((unwhitened d).getD t []) s ((inds.getD t []).getD j 0) *
          (v / (ampsAu d).getD t 0) := by
  obtain ⟨W, hW, hR, hpk, hent⟩ :=
    C09.Lemmas.rescaledUnit_peak_nonneg d f hnn hf t ht v hv hau ns nc hns hnc hrect
  refine ⟨W, _, hW, hpk, by rw [exportWaveformsOpt_getD, if_pos hti, hW]; rfl, by rw [List.length_map, hR.1], ?_⟩
  intro s j _ hj
  rw [← hent]
  exact gather_entry W _ s j hj

theorem exported_waveform_nan (d : Data) (f : Rat) (inds : List (List Nat)) (t : Nat) (ht : t < d.wfsW.length)
    (hv : (ampsVUnit d f).getD t none = none) :
    (exportWaveformsOpt (rescaledUnit d f) inds).getD t none = none := by
  unfold ampsVUnit at hv
  rw [C09.Lemmas.getD_map_optmap] at hv
  rw [exportWaveformsOpt_getD, C09.Lemmas.rescaledUnit_getD, C09.Lemmas.rescaled_getD d t ht,
    Option.map_eq_none_iff.1 hv]
  exact ite_self _

theorem cluster_depth_eq (ys : List Rat) (peaks nanIdx : List Nat) (c : Nat) (hc : c < peaks.length) :
    (clusterDepths ys peaks nanIdx).getD c none =
      if nanIdx.contains c then none else some (ys.getD (peaks.getD c 0) 0) :=
  Np.Lemmas.getD_map_zipIdx _ peaks c 0 none hc

theorem spikeDepthsFromClusters_getD (cd : List (Option Rat)) (sc : List Nat) (i : Nat) (hi : i < sc.length) :
    (spikeDepthsFromClusters cd sc).getD i none = cd.getD (sc.getD i 0) none :=
  Np.Lemmas.getD_map_of_lt _ sc i 0 none hi

theorem spike_depth_eq (ys : List Rat) (peaks nanIdx sc : List Nat) (i : Nat) (hi : i < sc.length)
    (hc : sc.getD i 0 < peaks.length) :
    (spikeDepthsFromClusters (clusterDepths ys peaks nanIdx) sc).getD i none =
      if nanIdx.contains (sc.getD i 0) then none else some (ys.getD (peaks.getD (sc.getD i 0) 0) 0) := by
  rw [spikeDepthsFromClusters_getD _ sc i hi, cluster_depth_eq ys peaks nanIdx _ hc]

theorem exportPeakToTrough_getD (wfs : List Mat) (rate : Rat) (nanIdx : List Nat) (c : Nat)
    (hc : c < wfs.length) :
    (exportPeakToTrough wfs rate nanIdx).getD c none =
      if nanIdx.contains c then none else some ((waveformDurations wfs rate).getD c 0) := by
  rw [exportPeakToTrough, Np.Lemmas.getD_map_zipIdx _ _ c 0 none (by rw [C09.Lemmas.waveformDurations_length]; exact hc)]

theorem peakToTrough_eq (wfs : List Mat) (rate : Rat) (nanIdx : List Nat) (ns nc : Nat) (hns : 0 < ns)
    (hnc : 0 < nc) (hrect : ∀ W ∈ wfs, Rect W ns nc) (c : Nat) (hc : c < wfs.length) (p iM im : Nat)
    (hp : IsPeakChannel (wfs.getD c []) nc p) (hM : IsFirstMax (chan (wfs.getD c []) p) iM)
    (hm : IsFirstMin (chan (wfs.getD c []) p) im) :
    (exportPeakToTrough wfs rate nanIdx).getD c none =
      if nanIdx.contains c then none else some ((((iM : Int) - (im : Int) : Int) : Rat) * 1000 / rate) := by
  rw [exportPeakToTrough_getD wfs rate nanIdx c hc,
    C09.Lemmas.duration_ms_spec wfs rate ns nc hns hnc hrect c hc p iM im hp hM hm]

theorem exportPeakToTrough_length (wfs : List Mat) (rate : Rat) (nanIdx : List Nat) :
    (exportPeakToTrough wfs rate nanIdx).length = wfs.length := by
  simp [exportPeakToTrough, C09.Lemmas.waveformDurations_length]

end PhyVerif.C14.Lemmas
