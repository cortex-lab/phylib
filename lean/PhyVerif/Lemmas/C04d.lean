import PhyVerif.Model.C04c
import PhyVerif.Spec.C04
/-! `np.round` (half to even) over the rationals: specification, uniqueness, recovery of samples. -/
namespace PhyVerif.C04.Lemmas
open PhyVerif PhyVerif.C04

theorem roundHalfEven_spec (q : Rat) : IsRoundHalfEven q (roundHalfEven q) := by
  have h1 := Rat.floor_le q
  have h2 := Rat.lt_floor_add_one q
  unfold IsRoundHalfEven roundHalfEven
  simp only
  -- by the fractional part: below a half, above a half, a half with an even or an odd floor
  split
  · grind
  · split
    · grind
    · split <;> grind

/-- two roundings of `q` are at most 1 apart, and if they are 1 apart both are ties, hence both even -/
theorem isRoundHalfEven_unique (q : Rat) (z w : Int) (hz : IsRoundHalfEven q z) (hw : IsRoundHalfEven q w) :
    z = w := by
  have key : ∀ z w : Int, IsRoundHalfEven q z → IsRoundHalfEven q w → z ≤ w := by
    rintro z w ⟨⟨-, z2⟩, z3⟩ ⟨⟨w1, -⟩, w3⟩
    have a : z ≤ w + 1 := Rat.intCast_le_intCast.1 (by grind)
    rcases (by omega : z ≤ w ∨ z = w + 1) with h | h
    · exact h
    · subst h
      grind
  exact Int.le_antisymm (key z w hz hw) (key w z hw hz)

theorem roundHalfEven_unique (q : Rat) (z : Int) (hz : IsRoundHalfEven q z) : roundHalfEven q = z :=
  isRoundHalfEven_unique q _ _ (roundHalfEven_spec q) hz

theorem roundHalfEven_of_near (q : Rat) (s : Int) (h1 : (s : Rat) - 1 / 2 < q) (h2 : q < (s : Rat) + 1 / 2) :
    roundHalfEven q = s := by
  apply roundHalfEven_unique
  unfold IsRoundHalfEven
  grind

theorem roundHalfEven_intCast (z : Int) : roundHalfEven (z : Rat) = z :=
  roundHalfEven_of_near z z (by grind) (by grind)

theorem samples_recovered (rate : Rat) (hr : 0 < rate) (s : Int) :
    roundHalfEven ((s : Rat) / rate * rate) = s := by
  rw [Rat.div_mul_cancel (by grind)]
  exact roundHalfEven_intCast s

end PhyVerif.C04.Lemmas

