import PhyVerif.Lemmas.C11g
/-! What each `write_*` method of `Model/C11e.lean` saves on inputs of the domain: the converses of `cParams_ok` …
`cMisc_ok`. -/
namespace PhyVerif.C11.Lemmas
open PhyVerif PhyVerif.C11

section run
variable {subdirs : List String} {fs : FS} {reg : Reg}

theorem cParams_run {ps : List (Nat × Nat)} {p : Nat × Nat}
    (h : loadEach (readParams fs "params.py") subdirs = .ok ps) (hp : C12.mergeParams ps = some p) :
    cParams subdirs fs reg = .ok ([("params.py", .params p.1 p.2)], reg) := by
  unfold cParams
  simp only [h, hp]

theorem cSpikeTimes_run {times : List (List Int)}
    (h : loadEach (readInts fs "spike_times.npy") subdirs = .ok times) (hk : ∀ a ∈ times, a.length ≠ 1) :
    cSpikeTimes subdirs fs reg = .ok ([("spike_times.npy", .ints (gather times (spikeOrder times)))],
      { reg with order := spikeOrder times }) := by
  unfold cSpikeTimes
  simp only [h, (concatOK_iff _ _).mpr hk]

theorem cAmplitudes_run {arrays : List (List Int)}
    (h : loadEach (readInts fs "amplitudes.npy") subdirs = .ok arrays) (hk : ∀ a ∈ arrays, a.length ≠ 1)
    (hl : arrays.flatten.length = reg.order.length) :
    cAmplitudes subdirs fs reg = .ok ([("amplitudes.npy", .ints (gather arrays reg.order))], reg) := by
  unfold cAmplitudes
  simp [h, (concatOK_iff _ _).mpr hk, hl]

theorem cSpikeTemplatesRaw_run {arrays : List (List Nat)}
    (h : loadEach (readNats fs "spike_templates.npy") subdirs = .ok arrays) (hk : ∀ a ∈ arrays, a.length ≠ 1)
    (hl : arrays.flatten.length = reg.order.length) :
    cSpikeTemplatesRaw subdirs fs reg = .ok ([("spike_templates.npy", .nats (gather arrays reg.order))], reg) := by
  unfold cSpikeTemplatesRaw
  simp [h, (concatOK_iff _ _).mpr hk, hl]

theorem cSpikeClusters_run {sc st : List (List Nat)} {counts : List Nat}
    (h1 : loadEach (readNats fs "spike_clusters.npy") subdirs = .ok sc)
    (h2 : loadEach (readNats fs "spike_templates.npy") subdirs = .ok st)
    (h3 : loadEach (readTemplateCount fs) (subdirs.zip (sc.zip st)) = .ok counts)
    (hk1 : ∀ a ∈ sc, a.length ≠ 1) (hk2 : ∀ a ∈ st, a.length ≠ 1)
    (hl1 : (shiftIds sc).flatten.length = reg.order.length)
    (hl2 : (shiftBy st (templateOffsets st counts)).flatten.length = reg.order.length)
    (ha : (gather (shiftIds sc) reg.order).foldl max 0 + 1 = (clusterProbes sc).length) :
    cSpikeClusters subdirs fs reg = .ok
      ([("spike_clusters.npy", .nats (gather (shiftIds sc) reg.order)),
        ("spike_templates.npy", .nats (gather (shiftBy st (templateOffsets st counts)) reg.order)),
        ("cluster_probes.npy", .nats (clusterProbes sc))],
       { reg with clusters := sc, templateOffsets := templateOffsets st counts }) := by
  unfold cSpikeClusters
  simp [h1, h2, h3, (concatOK_iff _ _).mpr hk1, (concatOK_iff _ _).mpr hk2, hl1, hl2, ha]

theorem cClusterData_run {fn : String} {md : List (Option (List (Nat × Nat)))}
    (h : loadEach (readTsvOpt fs fn) subdirs = .ok md) :
    cClusterData subdirs fn fs reg = .ok (tsvWrite fn (mergeClusterData md reg.clusters), reg) := by
  unfold cClusterData
  simp only [h]
  rfl

theorem cChannelData_run {maps : List (List Nat)}
    (h : loadEach (readNats fs "channel_map.npy") subdirs = .ok maps) (hne : NonEmpty maps) :
    cChannelData subdirs fs reg = .ok
      ([("channel_map.npy", .nats (C12.mergeChannelMaps maps)), ("channel_probe.npy", .nats (C12.channelProbes maps))],
       { reg with chanIndexOffsets := C12.chanIndexOffsets maps }) := by
  unfold cChannelData
  simp only [h, (maxOK_iff _ _).mpr hne]

theorem cChannelPositions_run {pos : List (List (Int × Int))}
    (h : loadEach (readPos fs "channel_positions.npy") subdirs = .ok pos) (hne : NonEmpty pos) :
    cChannelPositions subdirs fs reg = .ok ([("channel_positions.npy", .pos (C12.mergePositions pos))], reg) := by
  unfold cChannelPositions
  simp only [h, (maxOK_iff _ _).mpr hne]

theorem cTemplates_run {ts : List (List (List (List Int)))}
    (h : loadEach (readTmpl fs "templates.npy") subdirs = .ok ts)
    (hk : (ts.all fun t => t.all fun tm => tm.length == ((ts.headD []).headD []).length) = true) :
    cTemplates subdirs fs reg = .ok ([("templates.npy", .tmpl (C12.mergeTemplates ts))], reg) := by
  unfold cTemplates
  simp only [h]
  rw [if_pos hk]

theorem cPcInd_run {tables : List (List (List Nat))}
    (h : loadEach (readTable fs "pc_feature_ind.npy") subdirs = .ok tables) (hk : sameWidth tables = true) :
    cPcInd subdirs fs reg = .ok ([("pc_feature_ind.npy", .table (C12.shiftTables tables reg.chanIndexOffsets))], reg) := by
  unfold cPcInd
  simp only [h]
  rw [if_pos hk]

theorem cTfInd_run {tables : List (List (List Nat))}
    (h : loadEach (readTable fs "template_feature_ind.npy") subdirs = .ok tables) (hk : sameWidth tables = true) :
    cTfInd subdirs fs reg = .ok ([("template_feature_ind.npy", .table (C12.shiftTables tables reg.templateOffsets))], reg) := by
  unfold cTfInd
  simp only [h]
  rw [if_pos hk]

theorem cMisc_run {fn : String} {ms : List (Option (List (List Int)))}
    (h : loadEach (readMatOpt fs fn) subdirs = .ok ms) :
    cMisc subdirs fn fs reg = .ok (optWrite fn (C12.mergeOptional ms), reg) := by
  unfold cMisc
  simp only [h]
  cases C12.mergeOptional ms <;> rfl

end run

end PhyVerif.C11.Lemmas
