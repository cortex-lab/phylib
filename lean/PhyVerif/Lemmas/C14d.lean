import PhyVerif.Model.C14
import PhyVerif.Spec.C14
import PhyVerif.Lemmas.C07
import PhyVerif.Lemmas.C12
-- no proof here uses these two; with them in scope `List.sum` on `Nat` takes its `Zero` from Mathlib's `MulZeroClass`,
-- which is how `prefixSum_length` below and the statements of `Lemmas/C13d.lean` (it imports this file) are elaborated
import Mathlib.Tactic.Linarith
import Mathlib.Algebra.Order.Field.Rat
/-! `channels.rawInd` (`exportRawInd`, Model/C14): its closed form on ARBITRARY probe tables (`perProbeRawInd`, Spec/C14),
no negative index exactly on the tables in channel-map order, and the table a merge produces as an instance of the closed
form (the export gives back each probe's own channel map). -/
namespace PhyVerif.C14.Lemmas
open PhyVerif PhyVerif.C12 PhyVerif.C14

/-- one iteration of the per-probe loop of `make_channel_objects` -/
def stepFn (cm probes : List Nat) (st : List Int × Nat) (p : Nat) : List Int × Nat :=
  let idx := (List.range cm.length).filter fun i => probes.getD i 0 == p
  let vals := idx.map fun i => cm.getD i 0
  let out := idx.foldl (fun o i => o.set i ((cm.getD i 0 : Int) - (st.2 : Int))) st.1
  (out, vals.foldl max 0 + 1)

theorem exportRawInd_eq (cm probes : List Nat) :
    exportRawInd cm probes =
      ((uniqueNat probes).foldl (stepFn cm probes) (List.replicate cm.length 0, 0)).1 := rfl

theorem stepFn_snd (cm probes : List Nat) (st : List Int × Nat) (p : Nat) :
    (stepFn cm probes st p).2 = probeMaxRaw cm probes p + 1 := rfl

theorem stepFn_fst_length (cm probes : List Nat) (st : List Int × Nat) (p : Nat) :
    (stepFn cm probes st p).1.length = st.1.length :=
  Np.Lemmas.scatter_length id _ _ _

theorem stepFn_fst_get (cm probes : List Nat) (st : List Int × Nat) (p i : Nat) (hl : st.1.length = cm.length)
    (hi : i < cm.length) :
    (stepFn cm probes st p).1.getD i 0 =
      if probes.getD i 0 = p then (cm.getD i 0 : Int) - (st.2 : Int) else st.1.getD i 0 := by
  have hm : i ∈ List.filter (fun i => probes.getD i 0 == p) (List.range cm.length) ↔ probes.getD i 0 = p := by
    rw [List.mem_filter, List.mem_range, beq_iff_eq, and_iff_right hi]
  -- position `i` is written iff its label is `p`, and then with its own value
  show (Np.Lemmas.scatter id (fun i => (cm.getD i 0 : Int) - (st.2 : Int)) _ st.1).getD i 0 = _
  rw [List.getD_eq_getElem?_getD]
  split
  · next h =>
    exact congrArg (·.getD 0) (Np.Lemmas.scatter_get_of_written id _ i _ _ ⟨i, hm.2 h, rfl⟩
      (fun a _ (e : a = i) => by rw [e]) _ (hl ▸ hi))
  · next h =>
    rw [Np.Lemmas.scatter_get_of_not_written id _ i _ (fun a ha e => h (hm.1 (e ▸ ha))), ← List.getD_eq_getElem?_getD]

theorem rawIndLoop_length (cm probes : List Nat) : ∀ (L : List Nat) (st : List Int × Nat),
    (L.foldl (stepFn cm probes) st).1.length = st.1.length := by
  intro L
  induction L with
  | nil => intro st; rfl
  | cons p L ih => intro st; rw [List.foldl_cons, ih, stepFn_fst_length]

/-- The loop over labels in increasing order: the channels of label `q` receive their raw index minus the offset in effect
when the loop reaches `q` — the one it started with if `q` is the first label, otherwise the largest raw index of the
label before `q`, plus one. -/
theorem rawIndLoop_get (cm probes : List Nat) : ∀ (L : List Nat) (st : List Int × Nat), L.Pairwise (· < ·) →
    st.1.length = cm.length → ∀ i, i < cm.length →
      (L.foldl (stepFn cm probes) st).1.getD i 0 =
        if probes.getD i 0 ∈ L then
          (cm.getD i 0 : Int) - ((match (L.filter (· < probes.getD i 0)).max? with
            | none => st.2
            | some q => probeMaxRaw cm probes q + 1 : Nat) : Int)
        else st.1.getD i 0 := by
  intro L
  induction L with
  | nil => intro st _ _ i _; exact (if_neg List.not_mem_nil).symm
  | cons p L ih =>
    intro st hs hl i hi
    rw [List.pairwise_cons] at hs
    rw [List.foldl_cons, ih _ hs.2 ((stepFn_fst_length ..).trans hl) i hi, stepFn_snd,
      stepFn_fst_get cm probes st p i hl hi]
    generalize probes.getD i 0 = lab
    by_cases h2 : lab ∈ L
    · -- a later label: `p` is below it, and is the label before it iff no label of `L` is
      rw [if_pos h2, if_pos (List.mem_cons_of_mem _ h2), List.filter_cons_of_pos (p := (· < lab)) (decide_eq_true (hs.1 lab h2)),
        List.max?_cons]
      cases hF : (L.filter (· < lab)).max? with
      | none => rfl
      | some q =>
        have hpq : p ≤ q := Nat.le_of_lt (hs.1 q (List.mem_filter.1 (List.max?_eq_some_iff.1 hF).1).1)
        show _ = _ - ((probeMaxRaw cm probes (max p q) + 1 : Nat) : Int)
        rw [Nat.max_eq_right hpq]
    · by_cases h1 : lab = p
      · -- the label being processed: no label of `p :: L` is below it
        have hnil : (p :: L).filter (· < lab) = [] := List.filter_eq_nil_iff.2 fun x hx => by
          rw [decide_eq_true_eq, h1]
          rcases List.mem_cons.1 hx with rfl | hx'
          · exact Nat.lt_irrefl _
          · exact Nat.lt_asymm (hs.1 x hx')
        rw [if_neg h2, if_pos h1, if_pos (h1 ▸ List.mem_cons_self), hnil]
        rfl
      · rw [if_neg h2, if_neg h1, if_neg (fun hm => (List.mem_cons.1 hm).elim h1 h2)]

theorem max?_eq_of_mem_iff {a b : List Nat} (h : ∀ v, v ∈ a ↔ v ∈ b) : a.max? = b.max? := by
  cases hb : b.max? with
  | none =>
    rw [List.max?_eq_none_iff] at hb ⊢
    exact List.eq_nil_iff_forall_not_mem.2 fun v hv => List.not_mem_nil (hb ▸ (h v).1 hv)
  | some m =>
    obtain ⟨hm, hmax⟩ := List.max?_eq_some_iff.1 hb
    exact List.max?_eq_some_iff.2 ⟨(h m).2 hm, fun v hv => hmax v ((h v).1 hv)⟩

theorem uniqueNat_spec (probes : List Nat) :
    (uniqueNat probes).Pairwise (· < ·) ∧ ∀ v, v ∈ uniqueNat probes ↔ v ∈ probes := by
  obtain ⟨h1, h2⟩ := C07.Lemmas.unique_spec (probes.map Int.ofNat)
  refine ⟨h1, fun v => (h2 v).trans ?_⟩
  simp only [List.mem_map, Int.ofNat.injEq, exists_eq_right]

theorem exportRawInd_length (cm probes : List Nat) : (exportRawInd cm probes).length = cm.length := by
  rw [exportRawInd_eq, rawIndLoop_length, List.length_replicate]

theorem perProbeRawInd_length (cm probes : List Nat) : (perProbeRawInd cm probes).length = cm.length := by
  rw [perProbeRawInd, List.length_map, List.length_range]

theorem perProbeRawInd_getD (cm probes : List Nat) (i : Nat) (hi : i < cm.length) :
    (perProbeRawInd cm probes).getD i 0 =
      match (probes.filter (· < probes.getD i 0)).max? with
      | none => (cm.getD i 0 : Int)
      | some q => (cm.getD i 0 : Int) - ((probeMaxRaw cm probes q + 1 : Nat) : Int) := by
  rw [perProbeRawInd, Np.Lemmas.getD_map_range _ _ i 0 hi]
  rfl

theorem rawInd_per_probe (cm probes : List Nat) (hlen : probes.length = cm.length) :
    exportRawInd cm probes = perProbeRawInd cm probes := by
  obtain ⟨hs, hm⟩ := uniqueNat_spec probes
  refine List.ext_getElem (by rw [exportRawInd_length, perProbeRawInd_length]) fun i hi _ => ?_
  rw [exportRawInd_length] at hi
  have hmax : ((uniqueNat probes).filter (· < probes.getD i 0)).max? = (probes.filter (· < probes.getD i 0)).max? :=
    max?_eq_of_mem_iff fun v => by rw [List.mem_filter, List.mem_filter, hm]
  rw [List.getElem_eq_getD 0, List.getElem_eq_getD 0, exportRawInd_eq,
    rawIndLoop_get cm probes _ _ hs (List.length_replicate ..) i hi, if_pos ((hm _).2 (Np.Lemmas.getD_mem probes i 0 (hlen ▸ hi))),
    perProbeRawInd_getD cm probes i hi, hmax]
  cases (probes.filter (· < probes.getD i 0)).max? with
  | none => exact Int.sub_zero _
  | some q => rfl

theorem probesOrdered_iff (cm probes : List Nat) :
    probesOrdered cm probes = true ↔
      ∀ a b, a < cm.length → b < cm.length → probes.getD a 0 < probes.getD b 0 → cm.getD a 0 < cm.getD b 0 := by
  unfold probesOrdered
  simp only [List.all_eq_true, List.mem_range, Bool.or_eq_true, Bool.not_eq_true', decide_eq_false_iff_not,
    decide_eq_true_eq]
  exact ⟨fun h a b ha hb hlt => (h a ha b hb).resolve_left (fun h1 => h1 hlt),
    fun h a ha b hb => (Decidable.em _).elim (fun hlt => Or.inr (h a b ha hb hlt)) Or.inl⟩

theorem probeMaxRaw_spec (cm probes : List Nat) (hlen : probes.length = cm.length) (q : Nat) (hq : q ∈ probes) :
    (∃ j, j < cm.length ∧ probes.getD j 0 = q ∧ cm.getD j 0 = probeMaxRaw cm probes q) ∧
    ∀ j, j < cm.length → probes.getD j 0 = q → cm.getD j 0 ≤ probeMaxRaw cm probes q := by
  have hub : ∀ j, j < cm.length → probes.getD j 0 = q → cm.getD j 0 ≤ probeMaxRaw cm probes q := fun j hj hjq =>
    (Np.Lemmas.le_foldl_max _ 0).2 _
      (List.mem_map.2 ⟨j, List.mem_filter.2 ⟨List.mem_range.2 hj, beq_iff_eq.2 hjq⟩, rfl⟩)
  refine ⟨?_, hub⟩
  rcases Np.Lemmas.foldl_max_mem (((List.range cm.length).filter fun i => probes.getD i 0 == q).map fun i => cm.getD i 0) 0
    with h | h
  · -- the maximum is the initial 0: any channel of `q` attains it
    obtain ⟨j0, hj0, hj0q⟩ := List.getElem_of_mem hq
    have hj0q' : probes.getD j0 0 = q := (Np.Lemmas.getD_of_lt probes j0 0 hj0).trans hj0q
    exact ⟨j0, hlen ▸ hj0, hj0q',
      Nat.le_antisymm (hub j0 (hlen ▸ hj0) hj0q') (by rw [probeMaxRaw, h]; exact Nat.zero_le _)⟩
  · obtain ⟨j, hj, hjv⟩ := List.mem_map.1 h
    obtain ⟨hj1, hj2⟩ := List.mem_filter.1 hj
    exact ⟨j, List.mem_range.1 hj1, beq_iff_eq.1 hj2, hjv⟩

theorem rawInd_nonneg_iff_above_prev (cm probes : List Nat) (hlen : probes.length = cm.length) :
    (∀ x ∈ exportRawInd cm probes, 0 ≤ x) ↔
      ∀ i, i < cm.length → ∀ q, (probes.filter (· < probes.getD i 0)).max? = some q →
        probeMaxRaw cm probes q < cm.getD i 0 := by
  rw [rawInd_per_probe cm probes hlen, perProbeRawInd, List.forall_mem_map]
  refine forall_congr' fun i => ?_
  rw [List.mem_range]
  refine imp_congr_right fun _ => ?_
  cases (probes.filter (· < probes.getD i 0)).max? with
  | none => exact iff_of_true (Int.natCast_nonneg _) (fun _ h => nomatch h)
  | some q =>
    simp only [Option.some.injEq, forall_eq']
    exact Int.sub_nonneg.trans (Int.ofNat_le.trans Nat.succ_le_iff)

theorem rawInd_nonneg_of_ordered (cm probes : List Nat) (hlen : probes.length = cm.length)
    (ho : probesOrdered cm probes = true) : ∀ x ∈ exportRawInd cm probes, 0 ≤ x := by
  refine (rawInd_nonneg_iff_above_prev cm probes hlen).2 fun i hi q hmx => ?_
  obtain ⟨hqp, hqlt⟩ := List.mem_filter.1 (List.max?_eq_some_iff.1 hmx).1
  obtain ⟨⟨j, hj, hjq, hjv⟩, _⟩ := probeMaxRaw_spec cm probes hlen q hqp
  exact hjv ▸ (probesOrdered_iff cm probes).1 ho j i hj hi (by rw [hjq]; exact of_decide_eq_true hqlt)

theorem ordered_of_rawInd_nonneg (cm probes : List Nat) (hlen : probes.length = cm.length)
    (hnn : ∀ x ∈ exportRawInd cm probes, 0 ≤ x) : probesOrdered cm probes = true := by
  rw [probesOrdered_iff]
  have hstep := (rawInd_nonneg_iff_above_prev cm probes hlen).1 hnn
  intro a b ha hb
  generalize hp : probes.getD b 0 = p
  -- by induction on the label of `b`: `a` is on the previous label `q`, or below a channel of `q`
  induction p using Nat.strongRecOn generalizing b with
  | ind p ih =>
    intro hlt
    have hamem : probes.getD a 0 ∈ probes.filter (· < probes.getD b 0) :=
      List.mem_filter.2 ⟨Np.Lemmas.getD_mem probes a 0 (hlen ▸ ha), decide_eq_true (by rw [hp]; exact hlt)⟩
    cases hmx : (probes.filter (· < probes.getD b 0)).max? with
    | none =>
      rw [List.max?_eq_none_iff.1 hmx] at hamem
      exact absurd hamem List.not_mem_nil
    | some q =>
      obtain ⟨hq, hqmax⟩ := List.max?_eq_some_iff.1 hmx
      obtain ⟨hqp, hqlt⟩ := List.mem_filter.1 hq
      have hqlt' : q < p := hp ▸ of_decide_eq_true hqlt
      have hM := hstep b hb q hmx
      obtain ⟨⟨j, hj, hjq, hjv⟩, hub⟩ := probeMaxRaw_spec cm probes hlen q hqp
      have haq := hqmax _ hamem
      by_cases he : probes.getD a 0 = q
      · exact Nat.lt_of_le_of_lt (hub a ha he) hM
      · exact Nat.lt_trans (ih q hqlt' j hj hjq (Nat.lt_of_le_of_ne haq he)) (hjv ▸ hM)

/-! For ARBITRARY channel maps (any naturals, duplicates allowed) block `k` of the merged table carries label `k` and the raw
indices of map `k` shifted by `chanOffsets[k]`, and `chanOffsets[k+1]` is the largest raw index of block `k` plus one: what
the export subtracts from block `k+1` is what the merge added to it. -/

theorem prefixSum_length (l : List Nat) : prefixSum l l.length = l.sum := by
  rw [prefixSum, List.take_length]

theorem chanOffsets_getD_zero (maps : List (List Nat)) : (chanOffsets maps).getD 0 0 = 0 := by
  cases maps <;> rfl

theorem chanOffsetsFrom_succ (maps : List (List Nat)) :
    ∀ (off k : Nat), k + 1 < maps.length →
      (chanOffsetsFrom off maps).getD (k + 1) 0 =
        ((maps.getD k []).map (· + (chanOffsetsFrom off maps).getD k 0)).foldl max 0 + 1 := by
  induction maps with
  | nil => intro off k hk; exact absurd hk (Nat.not_lt_zero _)
  | cons m rest ih =>
    intro off k hk
    cases k with
    | zero =>
      cases rest with
      | nil => exact absurd hk (Nat.lt_irrefl _)
      | cons r rest => rfl
    | succ k => exact ih _ k (Nat.lt_of_succ_lt_succ hk)

/-- the running offsets of `write_channel_data`: `offset_{k+1} = max(map_k + offset_k) + 1` -/
theorem chanOffsets_succ (maps : List (List Nat)) (k : Nat) (hk : k + 1 < maps.length) :
    (chanOffsets maps).getD (k + 1) 0 =
      ((maps.getD k []).map (· + (chanOffsets maps).getD k 0)).foldl max 0 + 1 :=
  chanOffsetsFrom_succ maps 0 k hk

theorem block_decomp {β : Type} (L : List (List β)) : ∀ p, p < (L.map List.length).sum →
    ∃ k i, i < (L.getD k []).length ∧ p = prefixSum (L.map List.length) k + i := by
  induction L with
  | nil => intro p hp; exact absurd hp (Nat.not_lt_zero _)
  | cons a L ih =>
    intro p hp
    by_cases h : p < a.length
    · exact ⟨0, p, h, by rw [C12.Lemmas.prefixSum_zero, Nat.zero_add]⟩
    · rw [List.map_cons, List.sum_cons] at hp
      have hle := Nat.le_of_not_lt h
      obtain ⟨k, i, hi, hpe⟩ := ih (p - a.length) (Nat.sub_lt_left_of_lt_add hle hp)
      exact ⟨k + 1, i, hi, by
        rw [List.map_cons, C12.Lemmas.prefixSum_cons_succ, Nat.add_assoc, ← hpe, Nat.add_sub_of_le hle]⟩

theorem merged_at (maps : List (List Nat)) (k i : Nat) (hi : i < (maps.getD k []).length) :
    prefixSum (maps.map List.length) k + i < (maps.map List.length).sum ∧
    (mergeChannelMaps maps).getD (prefixSum (maps.map List.length) k + i) 0 =
      (maps.getD k []).getD i 0 + (chanOffsets maps).getD k 0 ∧
    (channelProbes maps).getD (prefixSum (maps.map List.length) k + i) 0 = k ∧
    maps.flatten.getD (prefixSum (maps.map List.length) k + i) 0 = (maps.getD k []).getD i 0 := by
  obtain ⟨h1, h2, _, h4⟩ := C12.Lemmas.channels_block_gapped maps k i hi
  have hk := C12.Lemmas.lt_length_of_lt_getD_length maps k i hi
  -- the label read at the position is `k`, not the default `maps.length`: the position exists
  have hp : prefixSum (maps.map List.length) k + i < (channelProbes maps).length :=
    Nat.lt_of_not_le fun hge => by
      rw [List.getD_eq_getElem?_getD, List.getElem?_eq_none hge, Option.getD_none] at h2
      exact Nat.ne_of_gt hk h2
  refine ⟨h4 ▸ hp, h1, ?_, ?_⟩
  · rw [← List.getElem_eq_getD (h := hp) 0, List.getElem_eq_getD (h := hp) maps.length]
    exact h2
  · rw [List.getD_eq_getElem?_getD, C12.Lemmas.flatten_get maps k i hi, ← List.getD_eq_getElem?_getD]

theorem mem_channelProbes (maps : List (List Nat)) (k : Nat) (hne : maps.getD k [] ≠ []) :
    k ∈ channelProbes maps := by
  obtain ⟨h1, _, h3, _⟩ := merged_at maps k 0 (List.length_pos_iff.2 hne)
  rw [← C12.Lemmas.channelProbes_length] at h1
  exact h3 ▸ Np.Lemmas.getD_mem _ _ 0 h1

theorem probeMaxRaw_merged (maps : List (List Nat)) (k : Nat) :
    probeMaxRaw (mergeChannelMaps maps) (channelProbes maps) k =
      ((maps.getD k []).map (· + (chanOffsets maps).getD k 0)).foldl max 0 := by
  unfold probeMaxRaw
  apply Nat.le_antisymm
  · refine (Np.Lemmas.foldl_max_le_iff _ 0 _).mpr ⟨Nat.zero_le _, fun v hv => ?_⟩
    obtain ⟨p, hp, rfl⟩ := List.mem_map.1 hv
    obtain ⟨hpn, hpk⟩ := List.mem_filter.1 hp
    rw [List.mem_range, C12.Lemmas.mergeChannelMaps_length] at hpn
    obtain ⟨k', i, hi, rfl⟩ := block_decomp maps p hpn
    obtain ⟨_, hc, hpr, _⟩ := merged_at maps k' i hi
    rw [hpr, beq_iff_eq] at hpk
    subst hpk
    rw [hc]
    exact (Np.Lemmas.le_foldl_max _ 0).2 _ (List.mem_map.2 ⟨_, Np.Lemmas.getD_mem _ i 0 hi, rfl⟩)
  · refine (Np.Lemmas.foldl_max_le_iff _ 0 _).mpr ⟨Nat.zero_le _, fun v hv => ?_⟩
    obtain ⟨x, hx, rfl⟩ := List.mem_map.1 hv
    obtain ⟨i, hi, rfl⟩ := List.getElem_of_mem hx
    obtain ⟨hp, hc, hpr, _⟩ := merged_at maps k i hi
    rw [List.getElem_eq_getD 0, ← hc]
    exact (Np.Lemmas.le_foldl_max _ 0).2 _ (List.mem_map.2
      ⟨_, List.mem_filter.2 ⟨List.mem_range.2 (C12.Lemmas.mergeChannelMaps_length maps ▸ hp), beq_iff_eq.2 hpr⟩, rfl⟩)

theorem rawInd_inverts_merge (maps : List (List Nat)) (h : ∀ m ∈ maps, m ≠ []) :
    exportRawInd (mergeChannelMaps maps) (channelProbes maps) = (maps.flatten).map Int.ofNat := by
  rw [rawInd_per_probe _ _ (by rw [C12.Lemmas.channelProbes_length, C12.Lemmas.mergeChannelMaps_length])]
  refine List.ext_getElem
    (by rw [perProbeRawInd_length, C12.Lemmas.mergeChannelMaps_length, List.length_map, List.length_flatten]) fun p hp _ => ?_
  rw [perProbeRawInd_length] at hp
  obtain ⟨k, i, hi, rfl⟩ := block_decomp maps p (C12.Lemmas.mergeChannelMaps_length maps ▸ hp)
  obtain ⟨_, hc, hpr, hfl⟩ := merged_at maps k i hi
  rw [List.getElem_eq_getD 0, perProbeRawInd_getD _ _ _ hp, List.getElem_map, List.getElem_eq_getD 0, hpr, hc, hfl]
  cases k with
  | zero =>
    rw [List.max?_eq_none_iff.2 (List.filter_eq_nil_iff.2 fun x _ => by rw [decide_eq_true_eq]; exact Nat.not_lt_zero x),
      chanOffsets_getD_zero]
    rfl
  | succ k =>
    have hk : k + 1 < maps.length := C12.Lemmas.lt_length_of_lt_getD_length _ _ _ hi
    -- the previous label is `k` (its map is not empty), and the merge took the offset of block `k + 1` from it
    have hprev : ((channelProbes maps).filter (· < k + 1)).max? = some k :=
      List.max?_eq_some_iff.2
        ⟨List.mem_filter.2 ⟨mem_channelProbes maps k (h _ (Np.Lemmas.getD_mem maps k [] (Nat.lt_of_succ_lt hk))),
            decide_eq_true (Nat.lt_succ_self k)⟩,
          fun x hx => Nat.le_of_lt_succ (of_decide_eq_true (List.mem_filter.1 hx).2)⟩
    rw [hprev]
    show (((maps.getD (k + 1) []).getD i 0 + (chanOffsets maps).getD (k + 1) 0 : Nat) : Int) -
      ((probeMaxRaw (mergeChannelMaps maps) (channelProbes maps) k + 1 : Nat) : Int) = _
    rw [probeMaxRaw_merged, ← chanOffsets_succ maps k hk, Int.natCast_add, Int.add_sub_cancel]
    rfl

end PhyVerif.C14.Lemmas
