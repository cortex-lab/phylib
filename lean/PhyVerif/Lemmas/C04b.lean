import PhyVerif.Model.C04
import PhyVerif.Model.C04b
import PhyVerif.Lemmas.C04c
import PhyVerif.Lemmas.Np
/-!
Layout independence of the loader: a KiloSort/phy-named directory and its ALF-named copy (`Model/C04b.lean`) answer
every read of `load` alike, so `load` shows the same view on both.
-/
namespace PhyVerif.C04.Lemmas
open PhyVerif PhyVerif.C04

theorem toALF_names (d : Dir) (t : Arr) (hks : ∀ n ∈ d.map (·.1), n ∈ ksNames) :
    ∀ m ∈ (toALF d t).map (·.1), m ∈ alfNames := by
  intro m hm
  simp only [toALF, List.map_cons, List.map_map, List.mem_cons, List.mem_map, Function.comp] at hm
  rcases hm with rfl | ⟨a, ha, rfl⟩
  · simp [alfNames]
  · simp only [alfNames, List.mem_cons, List.mem_map]
    exact .inr ⟨a.1, hks a.1 (List.mem_map.2 ⟨a, ha, rfl⟩), rfl⟩

theorem scrub_of_allNum (s : Arr) (h : allNum s = true) : scrub s = s := by
  obtain ⟨sh, data⟩ := s
  refine congrArg (Arr.mk sh) ((List.map_congr_left fun c hc => ?_).trans (List.map_id data))
  have := List.all_eq_true.1 h c hc
  cases c <;> first | rfl | cases this

section
variable (d : Dir) (t : Arr) (hks : ∀ n ∈ d.map (·.1), n ∈ ksNames)
include hks

theorem lookup_toALF (k : String) (hk : k ∈ ksNames) : (toALF d t).lookup (alfName k) = d.lookup k := by
  obtain ⟨-, -, hinj, hne, -⟩ := name_table
  rw [toALF, List.lookup_cons, hne k hk, ← Option.map_id' (x := d.lookup k)]
  exact Np.Lemmas.lookup_map_of_inj alfName id d k fun x hx => hinj x.1 (hks _ (List.mem_map_of_mem hx)) k hk

theorem read_alf (pats : List String) (k : String) (hk : k ∈ ksNames)
    (hex : ∃ p ∈ pats, globMatch p (alfName k) = true)
    (hu : ∀ m ∈ alfNames, ∀ p ∈ pats, globMatch p m = true → m = alfName k) :
    readFile (toALF d t) pats = d.lookup k := by
  rw [readFile_eq_of_unique (toALF d t) pats (alfName k) (fun m hm => hu m (toALF_names d t hks m hm)) hex,
    lookup_toALF d t hks k hk]

theorem findPath_layout (a : Attr) : findPath (toALF d t) a.files = (findPath d a.files).map alfName := by
  obtain ⟨-, -, -, -, hattr, -⟩ := name_table
  obtain ⟨k, hk, rfl, hex, hex', hu, hu'⟩ := hattr a (mem_allAttrs a)
  rw [findPath_eq_of_unique (toALF d t) _ _ (fun m hm => hu' m (toALF_names d t hks m hm)) hex',
    lookup_toALF d t hks _ hk, findPath_eq_of_unique d _ _ (fun m hm => hu m (hks m hm)) hex, Option.map_map]
  rfl

theorem readFile_layout (a : Attr) : readFile (toALF d t) a.files = readFile d a.files := by
  obtain ⟨-, -, -, -, hattr, -⟩ := name_table
  obtain ⟨k, hk, rfl, hex, hex', hu, hu'⟩ := hattr a (mem_allAttrs a)
  rw [read_alf d t hks _ _ hk hex' hu', readFile_eq_of_unique d _ _ (fun m hm => hu m (hks m hm)) hex]

end

set_option hygiene false in
/-- A comparison of the two layouts stage by stage (`x` = files created so far), written against stage lemmas
`stage2_ks`, `stage2_alf`, `stage3_ks`, `stage3_alf` that this file does not state: `load_layout_independent` goes through
`readFile_layout` and `load_ok_iff`, and nothing calls this tactic. -/
local macro "c04b_tail " x:term : tactic => `(tactic| (
  obtain ⟨e1, e2, e3, e4, e5, e6, e7, e8⟩ := stage2_ks d $x hks (by simp)
  obtain ⟨f1, f2, f3, f4, f5, f6, f7, f8⟩ := stage2_alf d t $x hks (by simp)
  have g1 := stage3_ks d $x hks (by simp)
  have g2 := stage3_alf d t $x hks (by simp)
  have g3 : ∀ y, readFile (d ++ ($x ++ [("whitening_mat_inv.npy", y)])) ["similar_templates.npy"] = _ :=
    fun y => stage3_ks d _ hks (by simp)
  have g4 : ∀ y, readFile (toALF d t ++ ($x ++ [("whitening_mat_inv.npy", y)])) ["similar_templates.npy"] = _ :=
    fun y => stage3_alf d t _ hks (by simp)
  simp only [List.append_nil, List.nil_append, List.cons_append] at e1 e2 e3 e4 e5 e6 e7 e8 f1 f2 f3 f4 f5 f6 f7 f8 g1 g2 g3 g4
  simp only [e1, e2, e3, e4, e5, e6, e7, e8] at h
  simp only [f1, f2, f3, f4, f5, f6, f7, f8]
  cases hcm : d.lookup "channel_map.npy" with
  | none => simp only [hcm] at h; cases h
  | some cm =>
  cases hpos : d.lookup "channel_positions.npy" with
  | none => simp only [hcm, hpos] at h; cases h
  | some pos =>
  simp only [hcm, hpos] at h ⊢
  cases hwmi : d.lookup "whitening_mat_inv.npy" with
  | some wi =>
    simp only [hwmi, g1] at h
    simp only [hwmi, g2]
    cases h
    exact ⟨_, _, rfl, by repeat' constructor⟩
  | none =>
    cases hwm : d.lookup "whitening_mat.npy" with
    | some w =>
      simp only [hwmi, hwm, Option.map_some, List.append_assoc, List.cons_append, List.nil_append, g3] at h
      simp only [hwmi, hwm, Option.map_some, List.append_assoc, List.cons_append, List.nil_append, g4]
      cases h
      exact ⟨_, _, rfl, by repeat' constructor⟩
    | none =>
      simp only [hwmi, hwm, Option.map_none, List.append_assoc, List.cons_append, List.nil_append, g3] at h
      simp only [hwmi, hwm, Option.map_none, List.append_assoc, List.cons_append, List.nil_append, g4]
      cases h
      exact ⟨_, _, rfl, by repeat' constructor⟩))

theorem load_layout_independent (inv : Arr → Arr) {one : Cell} (d : Dir) (t : Arr)
    (hks : ∀ n ∈ d.map (·.1), n ∈ ksNames)
    (ht : monotone (scrub t).data = true)
    (v : View) (d' : Dir) (h : load inv d one = .ok (v, d')) :
    ∃ v' d'', load inv (toALF d t) one = .ok (v', d'') ∧
      v'.times = .stored (squeeze (scrub t)) ∧ v'.samples = v.samples ∧
      v'.amplitudes = v.amplitudes ∧ v'.spikeTemplates = v.spikeTemplates ∧
      v'.spikeClusters = v.spikeClusters ∧ v'.channelMap = v.channelMap ∧
      v'.channelPositions = v.channelPositions ∧ v'.channelShanks = v.channelShanks ∧
      v'.channelProbes = v.channelProbes ∧ v'.templates = v.templates ∧
      v'.templateCols = v.templateCols ∧ v'.wm = v.wm ∧ v'.wmi = v.wmi ∧ v'.similar = v.similar := by
  obtain ⟨times, samples, st, sc, cm, pos, hv, -, htm, hst, hsc, hcm, hpos⟩ := load_nf inv d v d' h
  obtain ⟨-, -, -, -, -, htimes, hsamples, hc, hnt⟩ := name_table
  obtain ⟨-, hta, -⟩ := htimes _ (List.mem_singleton.2 rfl)
  obtain ⟨hsk, hsa, -⟩ := hsamples _ (List.mem_singleton.2 rfl)
  -- `d` has no ALF name, so its samples are those of `spike_times.npy`
  obtain ⟨s, hs, hsamp⟩ : ∃ s, d.lookup "spike_times.npy" = some s ∧ samples = .file (squeeze (scrub s)) := by
    rcases htm with ⟨s, hs, -, h2, -⟩ | ⟨-, t', ht', -⟩
    · exact ⟨s, hs, h2⟩
    · obtain ⟨f, hw, -⟩ := readFile_some d _ t' ht'
      exact absurd (fun p hp g hg => (htimes p hp).1 g (hks g hg)) (wins_not_absent d _ f hw)
  have a0 : (toALF d t).lookup "spike_times.npy" = none :=
    lookup_none_of_not_mem _ _ fun hm => hnt _ (toALF_names d t hks _ hm) rfl
  have a1 : readFile (toALF d t) ["spikes.times*.npy"] = some t := by
    rw [readFile_eq_of_unique (toALF d t) _ "spikes.times.npy"
      (fun m hm p hp => (htimes p hp).2.2 m (toALF_names d t hks m hm)) ⟨_, List.mem_singleton.2 rfl, hta⟩]
    rfl
  have a2 : readFile (toALF d t) ["spikes.samples*.npy"] = some s := by
    rw [read_alf d t hks _ "spike_times.npy" hsk ⟨_, List.mem_singleton.2 rfl, hsa⟩
      (fun m hm p hp => (hsamples p hp).2.2 m hm), hs]
  have a3 : (∃ f, findPath (toALF d t) ["spike_clusters.npy", "spikes.clusters*.npy"] = some f ∧
        (toALF d t).lookup f = some sc) ∨
      (findPath (toALF d t) ["spike_clusters.npy", "spikes.clusters*.npy"] = none ∧ sc = st) := by
    rcases hsc with hf | ⟨hn, e⟩
    · exact .inl ((readFile_eq_some _ _ sc).1
        ((readFile_layout d t hks .spikeClusters).trans ((readFile_eq_some d _ sc).2 hf)))
    · exact .inr ⟨(findPath_layout d t hks .spikeClusters).trans (congrArg (Option.map alfName) hn), e⟩
  have hd1 : ∀ a : Attr, a ≠ .spikeClusters → readFile (d1Of (toALF d t)) a.files = readFile (d1Of d) a.files :=
    fun a ha => by
      rw [readFile_d1Of _ _ (files_not_clusters a ha), readFile_d1Of _ _ (files_not_clusters a ha),
        readFile_layout d t hks a]
  have hc' : findPath (toALF d t) ["spike_clusters.npy"] = none :=
    findPath_of_absent _ _ fun p hp g hg => hc p hp g (toALF_names d t hks g hg)
  have h' := (load_ok_iff inv (one := one) (toALF d t) _ _).2
    ⟨.stored (squeeze (scrub t)), samples, st, sc, cm, pos, rfl, rfl, .inr ⟨a0, t, a1, rfl, ht, .inl ⟨s, a2, hsamp⟩⟩,
      (readFile_layout d t hks .spikeTemplates).trans hst, by rw [hc']; rfl, a3,
      (hd1 .channelMap nofun).trans hcm, (hd1 .channelPositions nofun).trans hpos⟩
  obtain ⟨v', d'', h', e1, e2, e3⟩ : ∃ v' d'', load inv (toALF d t) one = .ok (v', d'') ∧
      v'.times = .stored (squeeze (scrub t)) ∧ v'.samples = v.samples ∧ v'.spikeClusters = v.spikeClusters :=
    ⟨_, _, h', rfl, (congrArg View.samples hv).symm, (congrArg View.spikeClusters hv).symm⟩
  have key : ∀ a : Attr, a ≠ .spikeClusters → a ≠ .templateCols → v'.attr a = v.attr a := fun a h1 h2 => by
    rw [load_attr inv _ v' d'' h' a h1 h2, load_attr inv d v d' h a h1 h2, readFile_layout d t hks a]
  have e4 : v'.templateCols = v.templateCols := by
    rw [load_cols inv _ v' d'' h', load_cols inv d v d' h, readFile_layout d t hks .templateCols,
      show v'.templates = v.templates from key .templates nofun nofun]
  exact ⟨v', d'', h', e1, e2, key .amplitudes nofun nofun, Option.some.inj (key .spikeTemplates nofun nofun), e3,
    Option.some.inj (key .channelMap nofun nofun), Option.some.inj (key .channelPositions nofun nofun),
    key .channelShanks nofun nofun, key .channelProbes nofun nofun, key .templates nofun nofun, e4,
    key .wm nofun nofun, key .wmi nofun nofun, key .similar nofun nofun⟩

end PhyVerif.C04.Lemmas
