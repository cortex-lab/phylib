import PhyVerif.Model.C17
import PhyVerif.Spec.C17
import PhyVerif.Spec.C07
import PhyVerif.Lemmas.C07
/-! `SpikeSelector` (`Model/C17.lean`) against `Spec/C17.lean`: the kept chunk starts are the multiples of the
stride below the number of chunks (`range_filter_mod`); the parity of `searchsorted` in the flattened kept bounds is
membership of a kept interval (`parity_flat`), which turns `eligible` into `eligibleSpec`; the selection is the
increasing list of what the requested clusters select (`selectWith_spec`). -/
namespace PhyVerif.C17.Lemmas
open PhyVerif PhyVerif.C17

theorem drop_take_two (l : List Int) (i : Nat) (h : i + 1 < l.length) :
    (l.drop i).take 2 = [l.getD i 0, l.getD (i + 1) 0] := by
  have h0 : i < l.length := Nat.lt_of_succ_lt h
  rw [← List.getElem_eq_getD (h := h0) 0, ← List.getElem_eq_getD (h := h) 0,
    List.drop_eq_getElem_cons h0, List.drop_eq_getElem_cons h]
  rfl

/-- `⌈n / s⌉ ≤ k` exactly when `k` steps of width `s` cover `n` -/
theorem ceilDiv_le_iff (n s k : Nat) (hs : 1 ≤ s) : (n + s - 1) / s ≤ k ↔ n ≤ k * s := by
  rw [← Nat.lt_succ_iff, Nat.div_lt_iff_lt_mul hs, Nat.succ_mul, ← Nat.succ_le_iff, Nat.succ_eq_add_one,
    Nat.sub_add_cancel (Nat.le_trans hs (Nat.le_add_left s n)), Nat.add_le_add_iff_right]

theorem stride_pos (n k : Nat) : 1 ≤ stride n k := Nat.le_max_left _ _

/-- the stride of the code is the least `s ≥ 1` such that `k` chunks at distance `s` span all `n` -/
theorem stride_le_iff (n k s : Nat) (hk : 1 ≤ k) (hs : 1 ≤ s) : stride n k ≤ s ↔ n ≤ s * k := by
  unfold stride
  rw [Nat.max_le, ceilDiv_le_iff n k s hk]
  exact and_iff_right hs

theorem range_filter_mod (n s : Nat) (hs : 1 ≤ s) :
    (List.range n).filter (fun i => i % s == 0) = (List.range ((n + s - 1) / s)).map (· * s) := by
  apply Np.Lemmas.eq_of_pairwise_lt_of_mem_iff
  · exact List.Pairwise.filter _ List.pairwise_lt_range
  · rw [List.pairwise_map]
    exact List.Pairwise.imp (fun hab => Nat.mul_lt_mul_of_pos_right hab hs) List.pairwise_lt_range
  · intro v
    have hlt : ∀ j, j < (n + s - 1) / s ↔ j * s < n := fun j => by
      rw [← Nat.not_le, ceilDiv_le_iff n s j hs, Nat.not_le]
    simp only [List.mem_filter, List.mem_range, List.mem_map, beq_iff_eq, hlt]
    constructor
    · rintro ⟨hv, hm⟩
      have e := Nat.div_mul_cancel (Nat.dvd_of_mod_eq_zero hm)
      exact ⟨v / s, by rw [e]; exact hv, e⟩
    · rintro ⟨j, hj, rfl⟩
      exact ⟨hj, Nat.mul_mod_left _ _⟩

theorem keptStarts_eq (n k : Nat) :
    keptStarts n k = (List.range n).filter (fun i => i % stride n k == 0) :=
  (range_filter_mod n (stride n k) (stride_pos n k)).symm

theorem chunkCount_le (n k : Nat) (hk : 1 ≤ k) : (n + stride n k - 1) / stride n k ≤ k := by
  rw [ceilDiv_le_iff n _ k (stride_pos n k), Nat.mul_comm]
  exact (stride_le_iff n k _ hk (stride_pos n k)).1 (Nat.le_refl _)

theorem keptStarts_length_le (n k : Nat) (hk : 1 ≤ k) : (keptStarts n k).length ≤ k := by
  unfold keptStarts
  rw [List.length_map, List.length_range]
  exact chunkCount_le n k hk

theorem chunksKept_eq (bounds : List Int) (nKept : Nat) :
    chunksKept bounds nKept = (keptIntervals bounds nKept).flatMap (fun iv => [iv.1, iv.2]) := by
  unfold chunksKept keptIntervals
  rw [keptStarts_eq, List.flatMap_map]
  apply Np.Lemmas.flatMap_congr
  intro i hi
  rw [List.mem_filter, List.mem_range] at hi
  exact drop_take_two bounds i (Nat.add_lt_of_lt_sub hi.1)

theorem chunksKept_ok (bounds : List Int) (nKept : Nat) (hk : 1 ≤ nKept) :
    keptOK bounds nKept (chunksKept bounds nKept) = true := by
  unfold keptOK
  rw [Bool.and_eq_true, beq_iff_eq, decide_eq_true_eq]
  refine ⟨chunksKept_eq bounds nKept, ?_⟩
  unfold keptIntervals
  rw [List.length_map, ← keptStarts_eq]
  exact keptStarts_length_le _ _ hk

/-- Bounds of disjoint intervals in increasing order: those at or below `t` come in pairs, except for
the lower bound of the one interval that contains `t`. -/
theorem parity_flat (t : Int) (ivs : List (Int × Int)) (h1 : ∀ p ∈ ivs, p.1 < p.2)
    (h2 : ivs.Pairwise (fun p q => p.2 ≤ q.1)) :
    ((ivs.flatMap fun iv => [iv.1, iv.2]).countP (· ≤ t) % 2 == 1) =
      ivs.any (fun iv => decide (iv.1 ≤ t) && decide (t < iv.2)) := by
  induction ivs with
  | nil => rfl
  | cons p ivs ih =>
    obtain ⟨a, b⟩ := p
    rw [List.pairwise_cons] at h2
    have hab : a < b := h1 (a, b) List.mem_cons_self
    have h1' : ∀ p ∈ ivs, p.1 < p.2 := fun p hp => h1 p (List.mem_cons_of_mem _ hp)
    rw [List.flatMap_cons, List.countP_append, List.any_cons, ← ih h1' h2.2,
      List.countP_cons, List.countP_singleton]
    simp only [decide_eq_true_eq]
    by_cases hbt : b ≤ t
    · -- the whole interval lies at or below `t`: two more bounds are counted
      rw [if_pos hbt, if_pos (Int.le_trans (Int.le_of_lt hab) hbt), decide_eq_false (Int.not_lt.2 hbt),
        Bool.and_false, Bool.false_or, Nat.add_mod_left]
    · -- `t < b`: no later bound is counted
      have h0 : (ivs.flatMap fun iv => [iv.1, iv.2]).countP (· ≤ t) = 0 := by
        rw [List.countP_eq_zero]
        intro v hv
        obtain ⟨p, hp, hv⟩ := List.mem_flatMap.1 hv
        have hlt : t < p.1 := Int.lt_of_lt_of_le (Int.not_le.1 hbt) (h2.1 p hp)
        rw [decide_eq_true_eq]
        rcases List.mem_cons.1 hv with rfl | hv
        · exact Int.not_le.2 hlt
        · rw [List.mem_singleton.1 hv]
          exact Int.not_le.2 (Int.lt_trans hlt (h1' p hp))
      rw [h0, if_neg hbt, decide_eq_true (Int.not_le.1 hbt), Bool.and_true]
      by_cases hat : a ≤ t
      · rw [if_pos hat, decide_eq_true hat]
        rfl
      · rw [if_neg hat, decide_eq_false hat]
        rfl

theorem getD_lt_of_pairwise (l : List Int) (h : l.Pairwise (· < ·)) (i j : Nat) (hij : i < j)
    (hj : j < l.length) : l.getD i 0 < l.getD j 0 := by
  have hi : i < l.length := Nat.lt_trans hij hj
  rw [← List.getElem_eq_getD (h := hi) 0, ← List.getElem_eq_getD (h := hj) 0]
  exact List.pairwise_iff_getElem.mp h i j hi hj hij

theorem getD_le_of_pairwise (l : List Int) (h : l.Pairwise (· < ·)) (i j : Nat) (hij : i ≤ j)
    (hj : j < l.length) : l.getD i 0 ≤ l.getD j 0 := by
  rcases Nat.lt_or_eq_of_le hij with h' | rfl
  · exact Int.le_of_lt (getD_lt_of_pairwise l h i j h' hj)
  · exact Int.le_refl _

theorem parity_iff_in_kept (bounds : List Int) (nKept : Nat) (hg : GridOK bounds)
    (t : Int) :
    timeInChunks (chunksKept bounds nKept) t = inKept bounds nKept t := by
  unfold timeInChunks inKept Np.ssRight
  rw [chunksKept_eq]
  unfold keptIntervals
  apply parity_flat
  · intro p hp
    obtain ⟨i, hi, rfl⟩ := List.mem_map.1 hp
    exact getD_lt_of_pairwise bounds hg.2 i (i + 1) (Nat.lt_succ_self i)
      (Nat.add_lt_of_lt_sub (List.mem_range.1 (List.mem_filter.1 hi).1))
  · rw [List.pairwise_map]
    refine List.Pairwise.imp_of_mem ?_ (List.Pairwise.filter _ List.pairwise_lt_range)
    intro i j _ hj hij
    rw [List.mem_filter, List.mem_range] at hj
    exact getD_le_of_pairwise bounds hg.2 (i + 1) j hij (Nat.lt_of_lt_of_le hj.1 (Nat.sub_le _ _))

theorem filter_ite {α : Type} (b : Bool) (p : α → Bool) (l : List α) :
    (if b then l.filter p else l) = l.filter fun a => !b || p a := by
  cases b
  · exact (List.filter_eq_self.2 fun _ _ => rfl).symm
  · rfl

theorem eligible_eq (x : Inp) (hg : GridOK x.bounds) (c : Nat) : eligible x c = eligibleSpec x c := by
  unfold eligible eligibleSpec intersectSorted spikesOf
  dsimp only
  -- each restriction is one more condition of a single filter over the spike ids
  rw [filter_ite, List.filter_filter]
  cases x.subset
  · exact List.filter_congr fun i _ => by rw [parity_iff_in_kept _ _ hg, Bool.and_comm, Bool.and_true]
  · dsimp only
    rw [List.filter_filter]
    exact List.filter_congr fun i _ => by rw [parity_iff_in_kept _ _ hg, Bool.and_comm, Bool.and_comm (_ || _)]

theorem strictIncN_of_pairwise (l : List Nat) (h : l.Pairwise (· < ·)) : strictIncN l = true := by
  induction l with
  | nil => rfl
  | cons a t ih =>
    rw [List.pairwise_cons] at h
    cases t with
    | nil => rfl
    | cons b t =>
      unfold strictIncN
      rw [Bool.and_eq_true, decide_eq_true_eq]
      exact ⟨h.1 b List.mem_cons_self, ih h.2⟩

theorem eligibleSpec_pairwise (x : Inp) (c : Nat) : (eligibleSpec x c).Pairwise (· < ·) :=
  List.Pairwise.filter _ List.pairwise_lt_range

theorem mem_eligibleSpec (x : Inp) (c v : Nat) (h : v ∈ eligibleSpec x c) :
    v < x.clusters.length ∧ x.clusters.getD v 0 = c := by
  unfold eligibleSpec at h
  rw [List.mem_filter, List.mem_range, Bool.and_eq_true, Bool.and_eq_true, beq_iff_eq] at h
  exact ⟨h.1, h.2.1.1⟩

theorem selectCluster_eq (choose : List Nat → Nat → List Nat) (x : Inp) (hg : GridOK x.bounds)
    (c : Nat) :
    selectCluster choose x c = match x.count with
      | some n => if n > 0 ∧ ((eligibleSpec x c).length : Int) > n then
          choose (eligibleSpec x c) n.toNat else eligibleSpec x c
      | none => eligibleSpec x c := by
  unfold selectCluster
  dsimp only
  rw [eligible_eq x hg]
  rfl

theorem mem_selectCluster (choose : List Nat → Nat → List Nat) (hch : ChooseOK choose) (x : Inp)
    (hg : GridOK x.bounds) (c v : Nat) (h : v ∈ selectCluster choose x c) : v ∈ eligibleSpec x c := by
  rw [selectCluster_eq choose x hg c] at h
  split at h
  · split at h
    · rename_i n _ hn
      exact (hch (eligibleSpec x c) n.toNat ((eligibleSpec_pairwise x c).imp Nat.ne_of_lt)
        ((Int.toNat_lt (Int.le_of_lt hn.1)).2 hn.2)).2.2 v h
    · exact h
  · exact h

/-- also for an empty request, which the code answers separately -/
theorem selectWith_spec (choose : List Nat → Nat → List Nat) (x : Inp) :
    (selectWith choose x).Pairwise (· < ·) ∧
      ∀ v, v ∈ selectWith choose x ↔ ∃ c ∈ x.req, v ∈ selectCluster choose x c := by
  unfold selectWith
  by_cases h : x.req.isEmpty = true
  · rw [if_pos h, List.isEmpty_iff.1 h]
    exact ⟨List.Pairwise.nil, fun v => ⟨nofun, fun ⟨_, hc, _⟩ => nomatch hc⟩⟩
  · rw [if_neg h]
    obtain ⟨h1, h2⟩ :=
      C07.Lemmas.distinctSorted_spec ((x.req.eraseDups).flatMap (selectCluster choose x))
    refine ⟨h1, fun v => (h2 v).trans ?_⟩
    simp only [List.mem_flatMap, List.mem_eraseDups]

theorem cluster_clause (choose : List Nat → Nat → List Nat) (hch : ChooseOK choose) (x : Inp)
    (hg : GridOK x.bounds) (c : Nat) (got : List Nat) (hgpw : got.Pairwise (· < ·))
    (hg' : ∀ v, v ∈ got ↔ v ∈ selectCluster choose x c) :
    (match x.count with
      | some n =>
        if n > 0 ∧ ((eligibleSpec x c).length : Int) > n then
          decide ((got.length : Int) = n) && got.all ((eligibleSpec x c).contains ·)
        else got == eligibleSpec x c
      | none => got == eligibleSpec x c) = true := by
  have hall : (∀ v, v ∈ got ↔ v ∈ eligibleSpec x c) → (got == eligibleSpec x c) = true := fun h =>
    beq_iff_eq.2 (Np.Lemmas.eq_of_pairwise_lt_of_mem_iff _ _ hgpw (eligibleSpec_pairwise x c) h)
  rw [selectCluster_eq choose x hg c] at hg'
  cases hc : x.count with
  | none =>
    rw [hc] at hg'
    exact hall hg'
  | some n =>
    rw [hc] at hg'
    dsimp only at hg' ⊢
    by_cases h : n > 0 ∧ ((eligibleSpec x c).length : Int) > n
    · rw [if_pos h] at hg' ⊢
      have hn0 : 0 ≤ n := Int.le_of_lt h.1
      obtain ⟨hnd, hlen, hsub⟩ := hch (eligibleSpec x c) n.toNat
        ((eligibleSpec_pairwise x c).imp Nat.ne_of_lt) ((Int.toNat_lt hn0).2 h.2)
      have hperm := (List.perm_ext_iff_of_nodup (hgpw.imp Nat.ne_of_lt) hnd).mpr hg'
      rw [Bool.and_eq_true, decide_eq_true_eq, List.all_eq_true, hperm.length_eq, hlen]
      exact ⟨Int.toNat_of_nonneg hn0, fun v hv => List.contains_iff_mem.mpr (hsub v ((hg' v).1 hv))⟩
    · rw [if_neg h] at hg' ⊢
      exact hall hg'

theorem selection_ok (choose : List Nat → Nat → List Nat) (hch : ChooseOK choose) (x : Inp)
    (hg : GridOK x.bounds) :
    SpecOK x (selectWith choose x) = true := by
  obtain ⟨hpw, hmem⟩ := selectWith_spec choose x
  generalize selectWith choose x = out at hpw hmem
  have hclu : ∀ c v, v ∈ selectCluster choose x c → v < x.clusters.length ∧ x.clusters.getD v 0 = c :=
    fun c v hv => mem_eligibleSpec x c v (mem_selectCluster choose hch x hg c v hv)
  have hgot : ∀ c ∈ x.req, ∀ v,
      v ∈ out.filter (fun i => x.clusters.getD i 0 == c) ↔ v ∈ selectCluster choose x c := by
    intro c hc v
    rw [List.mem_filter, beq_iff_eq, hmem]
    constructor
    · rintro ⟨⟨c', _, hv⟩, hvc⟩
      rwa [← (hclu c' v hv).2, hvc] at hv
    · intro hv
      exact ⟨⟨c, hc, hv⟩, (hclu c v hv).2⟩
  unfold SpecOK
  rw [Bool.and_eq_true, Bool.and_eq_true]
  refine ⟨⟨strictIncN_of_pairwise out hpw, ?_⟩, ?_⟩
  · rw [List.all_eq_true]
    intro v hv
    obtain ⟨c, hc, hvc⟩ := (hmem v).1 hv
    rw [Bool.and_eq_true, decide_eq_true_eq, (hclu c v hvc).2]
    exact ⟨(hclu c v hvc).1, List.contains_iff_mem.mpr hc⟩
  · rw [List.all_eq_true]
    intro c hc
    exact cluster_clause choose hch x hg c _ (List.Pairwise.filter _ hpw) (hgot c hc)

end PhyVerif.C17.Lemmas
