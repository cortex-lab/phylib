import PhyVerif.Model.C05
import PhyVerif.Spec.C05
import PhyVerif.Lemmas.C09
import Mathlib.Tactic.NormNum
import Mathlib.Algebra.Order.Field.Rat
/-! `Model/C05.lean` against `Spec/C05.lean`. The stable argsort is a permutation, and reading the keys along it gives
the plain sort of the keys; that ties `closestChannels` (a prefix of the argsort) to `nearInfo` (thresholds in the sorted
distances). On top of it: the dense record with automatic selection (`autoRecord`) and with an explicit list, and the
sparse record (`sparseRecord`). -/
namespace PhyVerif.C05.Lemmas
open PhyVerif PhyVerif.C09 PhyVerif.C05

theorem reorder_perm {α : Type} (l : List α) (d : α) (order : List Nat)
    (h : order.Perm (List.range l.length)) : (order.map fun k => l.getD k d).Perm l := by
  have := h.map (fun k => l.getD k d)
  rwa [Np.Lemmas.map_getD_range] at this

theorem mem_inter (n : Nat) (a b : List Nat) (c : Nat) :
    c ∈ inter n a b ↔ c < n ∧ c ∈ a ∧ c ∈ b := by
  unfold inter
  rw [List.mem_filter, List.mem_range, Bool.and_eq_true, List.contains_iff_mem, List.contains_iff_mem]

theorem nodup_filter_range (k : Nat) (p : Nat → Bool) : ((List.range k).filter p).Nodup :=
  List.Nodup.sublist List.filter_sublist List.nodup_range

theorem inter_nodup (n : Nat) (a b : List Nat) : (inter n a b).Nodup :=
  nodup_filter_range n _

theorem getD_le_listMax (l : List Rat) (i : Nat) (hi : i < l.length) : l.getD i 0 ≤ listMax l :=
  (C09.Lemmas.listMax_spec l (List.ne_nil_of_length_pos (Nat.zero_lt_of_lt hi))).2 _ (Np.Lemmas.getD_mem l i 0 hi)

theorem head_attains (f : Nat → Rat) (c0 : Nat) (tl : List Nat) (m : Rat) (b : Nat)
    (hpw : ((c0 :: tl).map f).Pairwise (· ≥ ·)) (hb : b ∈ c0 :: tl) (hfb : f b = m)
    (hle : f c0 ≤ m) : f c0 = m := by
  apply le_antisymm hle
  rw [List.map_cons, List.pairwise_cons] at hpw
  rcases List.mem_cons.1 hb with rfl | hb'
  · exact le_of_eq hfb.symm
  · rw [← hfb]; exact hpw.1 _ (List.mem_map_of_mem hb')

/-- the comparison used by `argsortRat` -/
abbrev leK : Rat × Nat → Rat × Nat → Bool := fun a b => decide (a.1 ≤ b.1)

/-- the comparison of the plain sort in `nearInfo` and `nearCountOK` -/
abbrev leR : Rat → Rat → Bool := fun a b => decide (a ≤ b)

theorem isort_sorted (l : List Rat) : (Np.isort leR l).Pairwise (· ≤ ·) :=
  (Np.Lemmas.isort_sorted leR (fun _ _ h => decide_eq_true (lt_of_not_ge (of_decide_eq_false h)).le)
    (fun _ _ _ h1 h2 => decide_eq_true (le_trans (of_decide_eq_true h1) (of_decide_eq_true h2))) l).imp
    of_decide_eq_true

theorem insertBy_map {α β : Type} (f : α → β) (le : β → β → Bool) (x : α) (L : List α) :
    (Np.insertBy (fun a b => le (f a) (f b)) x L).map f = Np.insertBy le (f x) (L.map f) := by
  induction L with
  | nil => rfl
  | cons y ys ih =>
    simp only [Np.insertBy, List.map_cons]
    split
    · rfl
    · rw [List.map_cons, ih]

theorem isort_map {α β : Type} (f : α → β) (le : β → β → Bool) (l : List α) :
    (Np.isort (fun a b => le (f a) (f b)) l).map f = Np.isort le (l.map f) := by
  induction l with
  | nil => rfl
  | cons x xs ih => rw [List.map_cons, Np.isort, Np.isort, insertBy_map, ih]

/-- the sorted (key, index) pairs behind `argsortRat` -/
def sp (keys : List Rat) : List (Rat × Nat) := Np.isort leK keys.zipIdx

theorem argsortRat_eq (keys : List Rat) : argsortRat keys = (sp keys).map (·.2) := rfl

theorem sp_perm (keys : List Rat) : (sp keys).Perm keys.zipIdx := Np.Lemmas.isort_perm _ _

theorem sp_mem (keys : List Rat) (p : Rat × Nat) (hp : p ∈ sp keys) : keys[p.2]? = some p.1 :=
  List.mem_zipIdx_iff_getElem?.1 ((sp_perm keys).mem_iff.1 hp)

theorem sp_length (keys : List Rat) : (sp keys).length = keys.length := by
  rw [(sp_perm keys).length_eq, List.length_zipIdx]

theorem argsortRat_perm (keys : List Rat) : (argsortRat keys).Perm (List.range keys.length) := by
  have h := (sp_perm keys).map (·.2)
  rwa [List.zipIdx_map_snd, ← List.range_eq_range'] at h

theorem argsortRat_length (keys : List Rat) : (argsortRat keys).length = keys.length := by
  rw [(argsortRat_perm keys).length_eq, List.length_range]

theorem mem_argsortRat (keys : List Rat) (c : Nat) : c ∈ argsortRat keys ↔ c < keys.length := by
  rw [(argsortRat_perm keys).mem_iff, List.mem_range]

/-- reading the keys along the argsort gives the plain sort of the keys: both are the key column of `sp keys` -/
theorem argsortRat_keys (keys : List Rat) :
    (argsortRat keys).map (fun i => keys.getD i 0) = Np.isort leR keys := by
  have h : (sp keys).map (·.1) = Np.isort leR (keys.zipIdx.map (·.1)) := isort_map (·.1) leR keys.zipIdx
  rw [List.zipIdx_map_fst] at h
  rw [← h, argsortRat_eq, List.map_map]
  refine List.map_congr_left fun p hp => ?_
  rw [Function.comp_apply, List.getD_eq_getElem?_getD, sp_mem keys p hp, Option.getD_some]

theorem argsortDesc_perm (v : List Rat) : (argsortDesc v).Perm (List.range v.length) :=
  (List.reverse_perm _).trans (argsortRat_perm v)

theorem argsortDesc_length (v : List Rat) : (argsortDesc v).length = v.length := by
  rw [(argsortDesc_perm v).length_eq, List.length_range]

theorem argsortDesc_keys (v : List Rat) :
    ((argsortDesc v).map (fun i => v.getD i 0)).Pairwise (· ≥ ·) := by
  unfold argsortDesc
  rw [List.map_reverse, List.pairwise_reverse, argsortRat_keys]
  exact isort_sorted v

theorem nonIncreasing_of_pairwise : ∀ (l : List Rat), l.Pairwise (· ≥ ·) → nonIncreasing l = true
  | [], _ => rfl
  | [_], _ => rfl
  | a :: b :: t, h => by
    rw [List.pairwise_cons] at h
    unfold nonIncreasing
    rw [Bool.and_eq_true]
    exact ⟨decide_eq_true (h.1 b List.mem_cons_self), nonIncreasing_of_pairwise (b :: t) h.2⟩

theorem isort_getD (ds : List Rat) (j : Nat) (hj : j < (argsortRat ds).length) :
    (Np.isort leR ds).getD j 0 = ds.getD (argsortRat ds)[j] 0 := by
  rw [← argsortRat_keys, Np.Lemmas.getD_map_of_lt _ _ j 0 0 hj, Np.Lemmas.getD_of_lt _ j 0 hj]

theorem isort_mono (ds : List Rat) (i j : Nat) (hij : i ≤ j) (hj : j < ds.length) :
    (Np.isort leR ds).getD i 0 ≤ (Np.isort leR ds).getD j 0 := by
  have hl : (Np.isort leR ds).length = ds.length := (Np.Lemmas.isort_perm leR ds).length_eq
  rw [Np.Lemmas.getD_of_lt _ i 0 (hl ▸ lt_of_le_of_lt hij hj), Np.Lemmas.getD_of_lt _ j 0 (hl ▸ hj)]
  rcases Nat.lt_or_eq_of_le hij with h | rfl
  · exact List.pairwise_iff_getElem.1 (isort_sorted ds) i j _ _ h
  · exact le_refl _

theorem le_cut_of_mem_take (ds : List Rat) (n c : Nat) (hnl : n ≤ ds.length)
    (hc : c ∈ (argsortRat ds).take n) : ds.getD c 0 ≤ (Np.isort leR ds).getD (n - 1) 0 := by
  obtain ⟨i, hi, rfl⟩ := List.mem_take_iff_getElem.1 hc
  have hin : i < n := (Nat.lt_min.1 hi).1
  rw [← isort_getD]
  exact isort_mono ds i (n - 1) (Nat.le_sub_one_of_lt hin)
    (Nat.sub_one_lt_of_le (Nat.zero_lt_of_lt hin) hnl)

theorem mem_take_of_lt (ds : List Rat) (n c : Nat) (hc : c < ds.length)
    (hd : ds.getD c 0 < (Np.isort leR ds).getD n 0) : c ∈ (argsortRat ds).take n := by
  obtain ⟨j, hj, rfl⟩ := List.mem_iff_getElem.1 ((mem_argsortRat ds c).2 hc)
  rw [← isort_getD] at hd
  refine List.mem_take_iff_getElem.2 ⟨j, Nat.lt_min.2 ⟨lt_of_not_ge fun hnj => ?_, hj⟩, rfl⟩
  exact absurd (isort_mono ds n j hnj (argsortRat_length ds ▸ hj)) (not_le.2 hd)

/-- the keys that `closestChannels`, `nearInfo` and `nearCountOK` sort -/
abbrev dists (g : Geometry) (b : Nat) : List Rat :=
  (List.range g.positions.length).map (dist2 g.positions b)

theorem dists_length (g : Geometry) (b : Nat) : (dists g b).length = g.positions.length := by
  rw [List.length_map, List.length_range]

theorem dists_getD (g : Geometry) (b i : Nat) (hi : i < g.positions.length) :
    (dists g b).getD i 0 = dist2 g.positions b i :=
  Np.Lemmas.getD_map_range _ _ i 0 hi

theorem closestChannels_take (g : Geometry) (b : Nat) (h0 : g.nClosest ≠ 0) :
    closestChannels g b = (argsortRat (dists g b)).take g.nClosest := if_neg h0

theorem mem_closest_of_all (g : Geometry) (b c : Nat) (hc : c < g.positions.length)
    (h : g.nClosest = 0 ∨ g.nClosest ≥ g.positions.length) : c ∈ closestChannels g b := by
  have hmem : c ∈ argsortRat (dists g b) := (mem_argsortRat _ c).2 (by rwa [dists_length])
  unfold closestChannels
  split
  · exact hmem
  · next h0 =>
    rwa [List.take_of_length_le]
    rw [argsortRat_length, dists_length]
    exact h.resolve_left h0

theorem nearInfo_spec (g : Geometry) (b c : Nat) (hc : c < g.positions.length) :
    ((nearInfo g b c).1 = true → c ∈ closestChannels g b) ∧
    ((nearInfo g b c).2 = true → c ∉ closestChannels g b) := by
  unfold nearInfo
  dsimp only
  split
  · next h =>
    exact ⟨fun _ => mem_closest_of_all g b c hc
      ((Bool.or_eq_true_iff.1 h).imp of_decide_eq_true of_decide_eq_true), fun h => absurd h Bool.false_ne_true⟩
  · next h =>
    rw [Bool.or_eq_true, decide_eq_true_eq, decide_eq_true_eq, not_or, not_le] at h
    have hl := dists_length g b
    have hmono := isort_mono (dists g b) (g.nClosest - 1) g.nClosest (Nat.sub_le _ _) (hl.symm ▸ h.2)
    have hin : (dists g b).getD c 0 < (Np.isort leR (dists g b)).getD g.nClosest 0 →
        c ∈ closestChannels g b := fun hd => by
      rw [closestChannels_take g b h.1]
      exact mem_take_of_lt _ _ c (hl.symm ▸ hc) hd
    have hout : (dists g b).getD c 0 > (Np.isort leR (dists g b)).getD (g.nClosest - 1) 0 →
        c ∉ closestChannels g b := fun hd hm => by
      rw [closestChannels_take g b h.1] at hm
      exact absurd (le_cut_of_mem_take _ _ c (hl.symm ▸ le_of_lt h.2) hm) (not_le.2 hd)
    split
    · next hcut =>
      dsimp only
      rw [decide_eq_true_eq, decide_eq_true_eq]
      exact ⟨fun h => hin (lt_of_le_of_lt h hcut), hout⟩
    · dsimp only
      rw [decide_eq_true_eq, decide_eq_true_eq]
      exact ⟨fun h => hin (lt_of_lt_of_le h hmono), hout⟩

theorem argsort_head_of_min (ds : List Rat) (b : Nat) (hb : b < ds.length)
    (hb0 : ds.getD b 0 = 0) (hnn : ∀ i, i < ds.length → 0 ≤ ds.getD i 0)
    (huniq : ∀ i, i < ds.length → ds.getD i 0 = 0 → i = b) :
    (argsortRat ds)[0]? = some b := by
  obtain ⟨j, hj, hjb⟩ := List.mem_iff_getElem.1 ((mem_argsortRat ds b).2 hb)
  have h0 : 0 < (argsortRat ds).length := Nat.zero_lt_of_lt hj
  have hlt : (argsortRat ds)[0] < ds.length := (mem_argsortRat ds _).1 (List.getElem_mem h0)
  have hle := isort_mono ds 0 j (Nat.zero_le j) (by rwa [argsortRat_length] at hj)
  rw [isort_getD ds 0 h0, isort_getD ds j hj, hjb, hb0] at hle
  rw [List.getElem?_eq_getElem h0, huniq _ hlt (le_antisymm hle (hnn _ hlt))]

theorem dist2_self (pos : List (Rat × Rat)) (b : Nat) : dist2 pos b b = 0 := by
  unfold dist2
  simp only [sub_self, mul_zero, add_zero]

theorem dist2_nonneg (pos : List (Rat × Rat)) (b c : Nat) : 0 ≤ dist2 pos b c :=
  add_nonneg (mul_self_nonneg _) (mul_self_nonneg _)

theorem dist2_eq_zero (pos : List (Rat × Rat)) (b c : Nat) (h : dist2 pos b c = 0) :
    pos.getD c (0, 0) = pos.getD b (0, 0) := by
  obtain ⟨e1, e2⟩ := mul_self_add_mul_self_eq_zero.1 h
  exact Prod.ext (sub_eq_zero.1 e1) (sub_eq_zero.1 e2)

/-- what `get_closest_channels` asserts (`out[0] == channel_index`, model.py:165) and `_find_best_channels` after it
(model.py:871): it holds because the positions are pairwise distinct, so only `b` is at distance 0 -/
theorem best_mem_closest (g : Geometry) (b : Nat) (hb : b < g.positions.length)
    (hnd : g.positions.Nodup) : b ∈ closestChannels g b := by
  have hl := dists_length g b
  have hhead := argsort_head_of_min (dists g b) b (hl.symm ▸ hb)
    (by rw [dists_getD g b b hb]; exact dist2_self _ _)
    (fun i hi => by rw [dists_getD g b i (hl ▸ hi)]; exact dist2_nonneg _ _ _)
    (fun i hi hz => by
      rw [dists_getD g b i (hl ▸ hi)] at hz
      exact (List.getD_inj (hl ▸ hi) hb hnd).1 (dist2_eq_zero _ _ _ hz))
  by_cases h0 : g.nClosest = 0
  · exact mem_closest_of_all g b b hb (Or.inl h0)
  · rw [closestChannels_take g b h0]
    exact List.mem_of_getElem? ((List.getElem?_take_of_lt (Nat.pos_of_ne_zero h0)).trans hhead)

theorem alignedOK_of (T : Mat) (r : Record)
    (ht : r.template = T.map fun row => r.channels.map fun c => row.getD c 0)
    (ha : r.amplitude = r.channels.map fun c => ptp (col T c)) : alignedOK T r = true := by
  simp only [alignedOK, Bool.and_eq_true, beq_iff_eq]
  exact ⟨⟨ht, ha⟩, by rw [ha, List.length_map]⟩

/-- the per-channel condition of `denseBaseOK` as a fact about Booleans (`near`: among the nearest channels) -/
theorem listed_cond : ∀ must mustNot cond inS near : Bool, (must = true → near = true) →
    (mustNot = true → near = false) → inS = (cond && near) →
    ((!(must && cond) || inS) && (!(mustNot || !cond) || !inS)) = true := by decide

theorem eligible_best (g : Geometry) (T : Mat) (thr : Rat) (h1 : thr ≤ 1) :
    eligible g T thr (argmaxFirst (chAmps T)) (argmaxFirst (chAmps T)) = true := by
  unfold eligible
  rw [Bool.and_eq_true, decide_eq_true_eq, C09.Lemmas.getD_argmax]
  refine ⟨mul_le_of_le_one_left (C09.Lemmas.listMax_chAmps_nonneg T) h1, ?_⟩
  cases g.shanks with
  | none => rfl
  | some sh => exact beq_self_eq_true _

/-- the record on a channel list `ids` passes `denseBaseOK` when `ids` holds, without repetition and by non-increasing
amplitude, exactly the eligible channels among the nearest ones of the peak channel (in whatever order among
equal amplitudes) -/
theorem denseBaseOK_of_facts (g : Geometry) (T : Mat) (thr : Rat) (hwf : DenseWF g T) (h1 : thr ≤ 1)
    (ids : List Nat) (hnd : ids.Nodup)
    (hpw : (ids.map fun c => (chAmps T).getD c 0).Pairwise (· ≥ ·))
    (hmem : ∀ c, c ∈ ids ↔ c < ncols T ∧ eligible g T thr (argmaxFirst (chAmps T)) c = true ∧
      c ∈ closestChannels g (argmaxFirst (chAmps T))) :
    denseBaseOK g T thr ⟨T.map fun row => ids.map fun c => row.getD c 0, ids,
      ids.map fun c => (chAmps T).getD c 0, argmaxFirst (chAmps T)⟩ = true := by
  obtain ⟨_, hnc, _, hpos, _, hposnd⟩ := hwf
  have hlen := C09.Lemmas.chAmps_length T
  have hbmx := C09.Lemmas.getD_argmax (chAmps T)
  have hblt : argmaxFirst (chAmps T) < ncols T :=
    hlen ▸ (C09.Lemmas.argmaxFirst_spec _ (List.ne_nil_of_length_pos (hlen ▸ hnc))).1
  have hbmem : argmaxFirst (chAmps T) ∈ ids :=
    (hmem _).2 ⟨hblt, eligible_best g T thr h1, best_mem_closest g _ (hpos ▸ hblt) hposnd⟩
  unfold denseBaseOK
  simp only [Bool.and_eq_true]
  refine ⟨⟨⟨⟨⟨⟨⟨?_, ?_⟩, ?_⟩, ?_⟩, ?_⟩, ?_⟩, ?_⟩, ?_⟩
  · -- aligned
    exact alignedOK_of T _ rfl (List.map_congr_left fun c hc => C09.Lemmas.chAmps_getD T c ((hmem c).1 hc).1)
  · -- distinct
    exact beq_iff_eq.2 (Np.Lemmas.eraseDups_of_nodup _ hnd)
  · -- below `nc`
    exact List.all_eq_true.2 fun c hc => decide_eq_true ((hmem c).1 hc).1
  · -- non-increasing
    exact nonIncreasing_of_pairwise _ hpw
  · -- `best < nc`
    exact decide_eq_true hblt
  · -- `best` attains the maximum
    exact beq_iff_eq.2 hbmx
  · -- so does the first listed channel
    cases ids with
    | nil => exact absurd hbmem List.not_mem_nil
    | cons c0 tl =>
      refine beq_iff_eq.2 (head_attains (fun c => (chAmps T).getD c 0) c0 tl _ _ hpw hbmem hbmx ?_)
      exact getD_le_listMax _ c0 (hlen ▸ ((hmem c0).1 List.mem_cons_self).1)
  · -- listed iff eligible and near, where `nearInfo` decides nearness
    refine List.all_eq_true.2 fun c hc => ?_
    have hc' : c < ncols T := List.mem_range.1 hc
    obtain ⟨hN1, hN2⟩ := nearInfo_spec g (argmaxFirst (chAmps T)) c (hpos ▸ hc')
    generalize nearInfo g (argmaxFirst (chAmps T)) c = ni at hN1 hN2 ⊢
    obtain ⟨must, mustNot⟩ := ni
    refine listed_cond must mustNot (eligible g T thr (argmaxFirst (chAmps T)) c) _
      (decide (c ∈ closestChannels g (argmaxFirst (chAmps T))))
      (fun h => decide_eq_true (hN1 h)) (fun h => decide_eq_false (hN2 h)) (Bool.eq_iff_iff.2 ?_)
    rw [List.contains_iff_mem, hmem c, Bool.and_eq_true, decide_eq_true_eq]
    exact and_iff_right hc'

/-- the channel list before reordering -/
def ids0 (g : Geometry) (T : Mat) (thr : Rat) : List Nat :=
  let nc := ncols T
  let amp := chAmps T
  let best := argmaxFirst amp
  let mx := amp.getD best 0
  let peak := (List.range nc).filter fun c => decide (amp.getD c 0 ≥ thr * mx)
  let close := closestChannels g best
  let close := match g.shanks with
    | some sh => inter nc close ((List.range nc).filter fun c => sh.getD c 0 == sh.getD best 0)
    | none => close
  inter nc peak close

theorem mem_ids0 (g : Geometry) (T : Mat) (thr : Rat) (c : Nat) :
    c ∈ ids0 g T thr ↔ c < ncols T ∧ eligible g T thr (argmaxFirst (chAmps T)) c = true ∧
      c ∈ closestChannels g (argmaxFirst (chAmps T)) := by
  unfold ids0 eligible
  dsimp only
  rw [C09.Lemmas.getD_argmax, mem_inter, List.mem_filter, List.mem_range, Bool.and_eq_true, decide_eq_true_eq]
  cases g.shanks with
  | none => exact ⟨fun h => ⟨h.1, ⟨h.2.1.2, rfl⟩, h.2.2⟩, fun h => ⟨h.1, ⟨h.1, h.2.1.1⟩, h.2.2⟩⟩
  | some sh =>
    rw [mem_inter, List.mem_filter, List.mem_range]
    exact ⟨fun h => ⟨h.1, ⟨h.2.1.2, h.2.2.2.2.2⟩, h.2.2.2.1⟩,
      fun h => ⟨h.1, ⟨h.1, h.2.1.1⟩, h.1, h.2.2, h.1, h.2.1.2⟩⟩

/-- `l` by non-increasing key: `l[np.argsort(key(l))[::-1]]` -/
def sortDesc (f : Nat → Rat) (l : List Nat) : List Nat :=
  (argsortDesc (l.map f)).map fun k => l.getD k 0

theorem sortDesc_perm (f : Nat → Rat) (l : List Nat) : (sortDesc f l).Perm l :=
  reorder_perm l 0 _ (List.length_map (as := l) f ▸ argsortDesc_perm _)

theorem sortDesc_sorted (f : Nat → Rat) (l : List Nat) : ((sortDesc f l).map f).Pairwise (· ≥ ·) := by
  have hp : (argsortDesc (l.map f)).Perm (List.range l.length) :=
    List.length_map (as := l) f ▸ argsortDesc_perm _
  rw [sortDesc, List.map_map, List.map_congr_left (g := fun i => (l.map f).getD i 0)]
  · exact argsortDesc_keys _
  · intro k hk
    exact (Np.Lemmas.getD_map_of_lt f l k 0 0 (List.mem_range.1 (hp.mem_iff.1 hk))).symm

/-- the channels `_find_best_channels` selects, by non-increasing amplitude -/
def autoChannels (g : Geometry) (T : Mat) (thr : Rat) : List Nat :=
  sortDesc (fun c => (chAmps T).getD c 0) (ids0 g T thr)

theorem mem_autoChannels (g : Geometry) (T : Mat) (thr : Rat) (c : Nat) :
    c ∈ autoChannels g T thr ↔ c < ncols T ∧ eligible g T thr (argmaxFirst (chAmps T)) c = true ∧
      c ∈ closestChannels g (argmaxFirst (chAmps T)) :=
  (sortDesc_perm _ _).mem_iff.trans (mem_ids0 g T thr c)

/-- the record `_get_template_dense` builds from the waveform `T` when it selects the channels itself -/
def autoRecord (g : Geometry) (T : Mat) (thr : Rat) : Record :=
  ⟨T.map fun row => (autoChannels g T thr).map fun c => row.getD c 0, autoChannels g T thr,
    (autoChannels g T thr).map fun c => (chAmps T).getD c 0, argmaxFirst (chAmps T)⟩

theorem findBest_eq (g : Geometry) (T : Mat) (thr : Rat) :
    findBestChannels g T thr = (autoChannels g T thr,
      (autoChannels g T thr).map fun c => (chAmps T).getD c 0, argmaxFirst (chAmps T)) := rfl

theorem getTemplateDense_none (g : Geometry) (wmi : Mat) (sc : Rat) (Tw : Mat) (thr : Rat) (unwh : Bool) :
    getTemplateDense g wmi sc Tw none thr unwh
      = autoRecord g (if unwh then unwhiten wmi sc Tw none else Tw) thr := rfl

theorem getTemplateDense_auto (g : Geometry) (wmi : Mat) (sc : Rat) (Tw : Mat) (thr : Rat) (unwh : Bool) :
    getTemplateDense g wmi sc Tw none thr unwh =
      (let T := if unwh then unwhiten wmi sc Tw none else Tw
       let r := findBestChannels g T thr
       ⟨T.map fun row => r.1.map fun c => row.getD c 0, r.1, r.2.1, r.2.2⟩) := by
  -- a bare `rfl` unfolds `findBestChannels` on both sides and is some twenty times dearer
  simp only [getTemplateDense_none, findBest_eq]
  rfl

theorem autoRecord_baseOK (g : Geometry) (T : Mat) (thr : Rat) (hwf : DenseWF g T) (h1 : thr ≤ 1) :
    denseBaseOK g T thr (autoRecord g T thr) = true :=
  denseBaseOK_of_facts g T thr hwf h1 (autoChannels g T thr)
    ((sortDesc_perm _ _).nodup_iff.2 (inter_nodup _ _ _)) (sortDesc_sorted _ _) (mem_autoChannels g T thr)

theorem col_sub (T : Mat) (l : List Nat) (j : Nat) (hj : j < l.length) :
    col (T.map fun row => l.map fun c => row.getD c 0) j = col T (l.getD j 0) := by
  unfold col
  rw [List.map_map]
  exact List.map_congr_left fun row _ => Np.Lemmas.getD_map_of_lt _ l j 0 0 hj

theorem chAmps'_sub (T : Mat) (l : List Nat) :
    getTemplateDense.chAmps' (T.map fun row => l.map fun c => row.getD c 0) l.length
      = l.map fun c => ptp (col T c) := by
  unfold getTemplateDense.chAmps'
  conv => rhs; rw [← Np.Lemmas.map_getD_range l 0, List.map_map]
  exact List.map_congr_left fun j hj => congrArg ptp (col_sub T l j (List.mem_range.1 hj))

set_option linter.unusedVariables false in -- `hwf`, `hl` are not needed
theorem dense_explicit_ok (g : Geometry) (wmi : Mat) (sc : Rat) (Tw : Mat) (l : List Nat) (thr : Rat) (unwh : Bool)
    (hwf : DenseWF g (if unwh then unwhiten wmi sc Tw none else Tw))
    (hl : ∀ c ∈ l, c < ncols (if unwh then unwhiten wmi sc Tw none else Tw)) :
    denseExplicitOK (if unwh then unwhiten wmi sc Tw none else Tw) l
      (getTemplateDense g wmi sc Tw (some l) thr unwh) = true := by
  generalize hT : (if unwh then unwhiten wmi sc Tw none else Tw) = T
  have hrec : getTemplateDense g wmi sc Tw (some l) thr unwh =
      ⟨T.map fun row => l.map fun c => row.getD c 0, l,
        getTemplateDense.chAmps' (T.map fun row => l.map fun c => row.getD c 0) l.length,
        argmaxFirst (chAmps T)⟩ := hT ▸ rfl
  rw [hrec]
  unfold denseExplicitOK
  simp only [Bool.and_eq_true, beq_iff_eq]
  exact ⟨⟨alignedOK_of T _ rfl (chAmps'_sub T l), trivial⟩, C09.Lemmas.getD_argmax _⟩

/-- the record `_get_template_sparse` builds from the kept channels `ch` (in storage order) and their waveform `Tk` -/
def sparseRecord (ch : List Nat) (Tk : Mat) : Record :=
  let amp := (List.range ch.length).map fun j => ptp (col Tk j)
  let order := argsortDesc amp
  ⟨Tk.map fun row => order.map fun j => row.getD j 0, order.map fun j => ch.getD j 0,
    order.map fun j => amp.getD j 0, ch.getD (argmaxFirst amp) 0⟩

theorem getTemplateSparse_eq (wmi : Mat) (sc : Rat) (Tw : Mat) (cols : List Int) (m : Int) (unwh : Bool) :
    getTemplateSparse wmi sc Tw cols m unwh =
      (let keep := keptCols Tw cols m
       let ch := keep.map fun j => (cols.getD j 0).toNat
       let sub : Mat := Tw.map fun row => keep.map fun j => row.getD j 0
       sparseRecord ch (if unwh then unwhiten wmi sc sub (some ch) else sub)) := by
  unfold getTemplateSparse sparseRecord
  simp only [List.length_map]

theorem sparse_order_perm (ch : List Nat) (Tk : Mat) :
    (argsortDesc ((List.range ch.length).map fun j => ptp (col Tk j))).Perm (List.range ch.length) := by
  have h := argsortDesc_perm ((List.range ch.length).map fun j => ptp (col Tk j))
  rwa [List.length_map, List.length_range] at h

theorem sparseRecord_channels_perm (ch : List Nat) (Tk : Mat) : (sparseRecord ch Tk).channels.Perm ch :=
  reorder_perm ch 0 _ (sparse_order_perm ch Tk)

theorem sparseRecord_ok (ch : List Nat) (Tk : Mat) (hnd : ch.Nodup) :
    sparseOK ch Tk (sparseRecord ch Tk) = true := by
  have hperm := sparse_order_perm ch Tk
  have hsorted := argsortDesc_keys ((List.range ch.length).map fun j => ptp (col Tk j))
  unfold sparseRecord sparseOK
  dsimp only
  generalize hamp : ((List.range ch.length).map fun j => ptp (col Tk j)) = amp at hperm hsorted ⊢
  have hal : amp.length = ch.length := by rw [← hamp, List.length_map, List.length_range]
  generalize argsortDesc amp = order at hperm hsorted ⊢
  have hlt : ∀ j ∈ order, j < ch.length := fun j hj => List.mem_range.1 (hperm.mem_iff.1 hj)
  have hchan : (order.map fun j => ch.getD j 0).Perm ch := reorder_perm ch 0 order hperm
  have hbest : ch ≠ [] → argmaxFirst amp < ch.length := fun h =>
    hal ▸ (C09.Lemmas.argmaxFirst_spec amp
      (List.ne_nil_of_length_pos (hal ▸ List.length_pos_iff.2 h))).1
  simp only [Bool.and_eq_true]
  refine ⟨⟨⟨⟨⟨⟨⟨⟨?_, ?_⟩, ?_⟩, ?_⟩, ?_⟩, ?_⟩, ?_⟩, ?_⟩, ?_⟩
  · -- distinct
    exact Bool.or_eq_true_iff.2 (Or.inl (beq_iff_eq.2 (Np.Lemmas.eraseDups_of_nodup _ (hchan.nodup_iff.2 hnd))))
  · -- non-increasing
    exact nonIncreasing_of_pairwise _ hsorted
  · -- as many amplitudes as channels
    exact beq_iff_eq.2 (by rw [List.length_map, List.length_map])
  · -- as many channels as kept
    exact beq_iff_eq.2 hchan.length_eq
  · -- listed ⊆ kept
    exact List.all_eq_true.2 fun c hc => List.contains_iff_mem.2 (hchan.mem_iff.1 hc)
  · -- kept ⊆ listed
    exact List.all_eq_true.2 fun c hc => List.contains_iff_mem.2 (hchan.mem_iff.2 hc)
  · -- aligned: position `j` of the record holds storage position `order[j]`
    refine List.all_eq_true.2 fun j hj => ?_
    have hj' : j < order.length := by rw [List.mem_range, List.length_map] at hj; exact hj
    have hoj : order.getD j 0 < ch.length := hlt _ (Np.Lemmas.getD_mem order j 0 hj')
    simp only [Bool.and_eq_true, beq_iff_eq]
    rw [Np.Lemmas.getD_map_of_lt _ _ j 0 _ hj', Np.Lemmas.getD_map_of_lt _ _ j 0 _ hj', Np.Lemmas.idxOf_getD ch hnd _ 0 hoj]
    exact ⟨col_sub Tk order j hj', rfl⟩
  · -- the first listed channel attains the maximum
    cases order with
    | nil => rfl
    | cons o0 tl =>
      have ho0 : o0 < ch.length := hlt o0 List.mem_cons_self
      simp only [List.map_cons, beq_iff_eq]
      rw [Np.Lemmas.idxOf_getD ch hnd _ 0 ho0]
      exact head_attains (fun j => amp.getD j 0) o0 tl _ (argmaxFirst amp) hsorted
        (hperm.mem_iff.2 (List.mem_range.2 (hbest (List.ne_nil_of_length_pos (Nat.zero_lt_of_lt ho0)))))
        (C09.Lemmas.getD_argmax amp) (getD_le_listMax amp o0 (hal.symm ▸ ho0))
  · -- so does `best`
    by_cases hch : ch = []
    · exact Bool.or_eq_true_iff.2 (Or.inl (hch ▸ rfl))
    · refine Bool.or_eq_true_iff.2 (Or.inr (beq_iff_eq.2 ?_))
      rw [Np.Lemmas.idxOf_getD ch hnd _ 0 (hbest hch), C09.Lemmas.getD_argmax]

theorem usedCols_map (cols : List Int) (m : Int) :
    (usedCols cols m).map (fun j => cols.getD j 0) = cols.filter (· ≠ m) := by
  conv => rhs; rw [← Np.Lemmas.map_getD_range cols 0, List.filter_map]
  refine congrArg _ (List.filter_congr fun j _ => Bool.eq_iff_iff.2 ?_)
  rw [bne_iff_ne, Function.comp_apply, decide_eq_true_eq]

set_option linter.unusedVariables false in -- `hrect`, `hT` are not needed
theorem sparse_record_ok (wmi : Mat) (sc : Rat) (Tw : Mat) (cols : List Int) (m : Int) (unwh : Bool)
    (hrect : ∀ row ∈ Tw, row.length = cols.length) (hT : Tw ≠ [])
    (hcols : ∀ c ∈ cols, c = m ∨ 0 ≤ c) (hdist : (cols.filter (· ≠ m)).Nodup) :
    let keep := keptCols Tw cols m
    let ch := keep.map fun j => (cols.getD j 0).toNat
    let sub : Mat := Tw.map fun row => keep.map fun j => row.getD j 0
    sparseOK ch (if unwh then unwhiten wmi sc sub (some ch) else sub)
      (getTemplateSparse wmi sc Tw cols m unwh) = true := by
  intro keep ch sub
  rw [getTemplateSparse_eq]
  refine sparseRecord_ok ch _ ?_
  -- the kept ids are a sublist of the distinct ids in use, and `toNat` is injective on non-negative ids
  have hsub : (keep.map fun j => cols.getD j 0).Sublist (cols.filter (· ≠ m)) :=
    usedCols_map cols m ▸ List.Sublist.map _ List.filter_sublist
  have hnn : ∀ z ∈ keep.map fun j => cols.getD j 0, 0 ≤ z := fun z hz => by
    have hz' := List.mem_filter.1 (hsub.subset hz)
    exact (hcols z hz'.1).resolve_left (of_decide_eq_true hz'.2)
  have hch : ch = (keep.map fun j => cols.getD j 0).map Int.toNat := by
    rw [List.map_map]
    rfl
  rw [hch]
  refine List.pairwise_map.2 (List.Pairwise.imp_of_mem (fun hx hy hxy e => hxy ?_) (hdist.sublist hsub))
  rw [← Int.toNat_of_nonneg (hnn _ hx), ← Int.toNat_of_nonneg (hnn _ hy), e]

end PhyVerif.C05.Lemmas
