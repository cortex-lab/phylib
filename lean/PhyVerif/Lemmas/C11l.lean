import PhyVerif.Model.C11l
/-! `mergeFrom` of `Model/C11l.lean`: the registers a `Merger` holds when `merge()` starts have no influence on the
files it writes nor on the exception it raises, since every register is re-computed from the probe directories before
it is read (Props: `merge_again_as_fresh`). -/
namespace PhyVerif.C11.Lemmas
open PhyVerif PhyVerif.C11

/-- two runs of a step raise the same exception, or save the same files and leave registers related by `R` -/
def SimRes (R : Reg → Reg → Prop) (x y : M (List (String × File) × Reg)) : Prop :=
  (∃ e, x = .error e ∧ y = .error e) ∨ ∃ ws r r', x = .ok (ws, r) ∧ y = .ok (ws, r') ∧ R r r'

theorem simRes_ite {R : Reg → Reg → Prop} (c : Prop) [Decidable c] (e : MergeErr)
    {y y' : M (List (String × File) × Reg)} (h : SimRes R y y') :
    SimRes R (if c then .error e else y) (if c then .error e else y') := by
  by_cases hc : c
  · rw [if_pos hc, if_pos hc]
    exact Or.inl ⟨e, rfl, rfl⟩
  · rwa [if_neg hc, if_neg hc]

/-- a step takes registers related by `R` to the same saves or exception, and to registers related by `R'` -/
def CSim (R : Reg → Reg → Prop) (c : Compute) (R' : Reg → Reg → Prop) : Prop :=
  ∀ fs r r', R r r' → SimRes R' (c fs r) (c fs r')

/-- running the steps from registers related by `R` gives the same file system and the same exception -/
def RSim (out : String) (R : Reg → Reg → Prop) (cs : List Compute) : Prop :=
  ∀ fs r r', R r r' →
    (runSteps (cs.map (saveStep out)) (fs, r)).1.1 = (runSteps (cs.map (saveStep out)) (fs, r')).1.1 ∧
    (runSteps (cs.map (saveStep out)) (fs, r)).2 = (runSteps (cs.map (saveStep out)) (fs, r')).2

theorem RSim_nil (out : String) (R : Reg → Reg → Prop) : RSim out R [] :=
  fun _ _ _ _ => ⟨rfl, rfl⟩

theorem RSim_cons {out : String} {R R' : Reg → Reg → Prop} {c : Compute} {cs : List Compute}
    (hc : CSim R c R') (hcs : RSim out R' cs) : RSim out R (c :: cs) := by
  intro fs r r' h
  rcases hc fs r r' h with ⟨e, h1, h2⟩ | ⟨ws, r1, r1', h1, h2, hR⟩
  · simp only [List.map_cons, runSteps, saveStep, h1, h2, and_self]
  · simp only [List.map_cons, runSteps, saveStep, h1, h2]
    exact hcs _ r1 r1' hR

theorem RSim_eq (out : String) (cs : List Compute) : RSim out Eq cs := by
  rintro fs r _ rfl
  exact ⟨rfl, rfl⟩

/-! ### the relations between the registers of two runs, stage by stage -/

/-- when `merge()` starts: nothing is known of the registers -/
def L0 : Reg → Reg → Prop := fun _ _ => True
/-- after `write_spike_times` -/
def L1 : Reg → Reg → Prop := fun r r' => r.order = r'.order
/-- after `write_spike_clusters` -/
def L2 : Reg → Reg → Prop := fun r r' =>
  r.order = r'.order ∧ r.clusters = r'.clusters ∧ r.templateOffsets = r'.templateOffsets

theorem cParams_sim (subdirs : List String) : CSim L0 (cParams subdirs) L0 := by
  intro fs r r' _
  unfold cParams
  repeat' split
  -- every branch but the last raises, and the exception does not depend on the registers
  all_goals try exact Or.inl ⟨_, rfl, rfl⟩
  exact Or.inr ⟨_, _, _, rfl, rfl, trivial⟩

theorem cProbeDesc_sim (subdirs : List String) : CSim L0 (cProbeDesc subdirs) L0 :=
  fun _ _ _ _ => Or.inr ⟨_, _, _, rfl, rfl, trivial⟩

theorem cSpikeTimes_sim (subdirs : List String) : CSim L0 (cSpikeTimes subdirs) L1 := by
  intro fs r r' _
  unfold cSpikeTimes
  repeat' split
  all_goals try exact Or.inl ⟨_, rfl, rfl⟩
  exact Or.inr ⟨_, _, _, rfl, rfl, rfl⟩

theorem cAmplitudes_sim (subdirs : List String) : CSim L1 (cAmplitudes subdirs) L1 := by
  rintro fs ⟨o, c, t, ch⟩ ⟨_, c', t', ch'⟩ ⟨⟩
  unfold cAmplitudes
  repeat' split
  all_goals try exact Or.inl ⟨_, rfl, rfl⟩
  exact Or.inr ⟨_, _, _, rfl, rfl, rfl⟩

theorem cSpikeTemplatesRaw_sim (subdirs : List String) : CSim L1 (cSpikeTemplatesRaw subdirs) L1 := by
  rintro fs ⟨o, c, t, ch⟩ ⟨_, c', t', ch'⟩ ⟨⟩
  unfold cSpikeTemplatesRaw
  repeat' split
  all_goals try exact Or.inl ⟨_, rfl, rfl⟩
  exact Or.inr ⟨_, _, _, rfl, rfl, rfl⟩

/-- `write_spike_clusters` re-creates `cluster_offsets`, `cluster_counts`, `template_offsets` from the probe
directories (merge.py:144-146): whatever the lists held before is dropped -/
theorem cSpikeClusters_sim (subdirs : List String) : CSim L1 (cSpikeClusters subdirs) L2 := by
  rintro fs ⟨o, c, t, ch⟩ ⟨_, c', t', ch'⟩ ⟨⟩
  unfold cSpikeClusters
  dsimp only
  -- `split` on an `if` of this size is slow
  repeat' first | refine simRes_ite _ _ ?_ | split
  all_goals try exact Or.inl ⟨_, rfl, rfl⟩
  exact Or.inr ⟨_, _, _, rfl, rfl, rfl, rfl, rfl⟩

theorem cClusterData_sim (subdirs : List String) (fn : String) : CSim L2 (cClusterData subdirs fn) L2 := by
  rintro fs ⟨o, c, t, ch⟩ ⟨_, _, _, ch'⟩ ⟨⟨⟩, ⟨⟩, ⟨⟩⟩
  unfold cClusterData
  split
  · exact Or.inl ⟨_, rfl, rfl⟩
  · exact Or.inr ⟨_, _, _, rfl, rfl, rfl, rfl, rfl⟩

/-- `write_channel_data` re-creates `channel_offsets`, `channel_index_offsets` (merge.py:203-207): from here on the
registers of the two runs are equal -/
theorem cChannelData_sim (subdirs : List String) : CSim L2 (cChannelData subdirs) Eq := by
  rintro fs ⟨o, c, t, ch⟩ ⟨_, _, _, ch'⟩ ⟨⟨⟩, ⟨⟩, ⟨⟩⟩
  unfold cChannelData
  repeat' split
  all_goals try exact Or.inl ⟨_, rfl, rfl⟩
  exact Or.inr ⟨_, _, _, rfl, rfl, rfl⟩

theorem computes_sim (subdirs : List String) (out : String) : RSim out L0 (computes subdirs out) :=
  RSim_cons (cParams_sim subdirs) <| RSim_cons (cProbeDesc_sim subdirs) <| RSim_cons (cSpikeTimes_sim subdirs) <|
    RSim_cons (cAmplitudes_sim subdirs) <| RSim_cons (cSpikeTemplatesRaw_sim subdirs) <|
    RSim_cons (cSpikeClusters_sim subdirs) <| RSim_cons (cClusterData_sim subdirs _) <|
    RSim_cons (cClusterData_sim subdirs _) <| RSim_cons (cClusterData_sim subdirs _) <|
    RSim_cons (cChannelData_sim subdirs) <| RSim_eq out _

theorem mergeFrom_as_fresh (reg0 : Reg) (fs : FS) (subdirs : List String) (out : String) :
    (mergeFrom reg0 fs subdirs out).1.1 = (merge fs subdirs out).1.1 ∧
    (mergeFrom reg0 fs subdirs out).2 = (merge fs subdirs out).2 := by
  unfold mergeFrom merge
  split
  · exact ⟨rfl, rfl⟩
  · exact computes_sim subdirs out fs reg0 {} trivial

end PhyVerif.C11.Lemmas
