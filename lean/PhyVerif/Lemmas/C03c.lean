import PhyVerif.Model.C03
import PhyVerif.Lemmas.C01b
/-! C03 through a READER: the one read `_extract_waveform` issues, `traces[max(0, t0):t1]` (traces.py:610), on the
reader objects of C01 (`Model/C01b.lean`) is the `rowsSlice` of the concatenated recording that the C03 model reads,
INCLUDING `t1` beyond the end of the recording (a window that crosses the last sample), which is outside `C01.InDom`
(slice bounds in `[-n, n]`): the reader clamps the stop bound first (`getRowsB_clamp`), and the clamped slice is in
C01's domain (`C01.Lemmas.getRowsB_eq`). -/
namespace PhyVerif.C03.Lemmas
open PhyVerif PhyVerif.C01

/-- `min(v, n)`, traces.py:70 -/
theorem normBound_clamp (v n : Int) (hv : 0 < v) (hn : 0 < n) :
    normBound (pyOr (some v) n) n = normBound (pyOr (some (min v n)) n) n := by
  have hm : 0 < min v n := Int.lt_min.2 ⟨hv, hn⟩
  unfold normBound pyOr
  simp only []
  rw [if_neg (Int.ne_of_gt hv), if_neg (Int.not_lt.2 (Int.le_of_lt hv)), if_neg (Int.ne_of_gt hm),
    if_neg (Int.not_lt.2 (Int.le_of_lt hm)), Int.min_assoc, Int.min_self]

theorem getRowsB_clamp {α : Type} (r : Reader α) (lo hi : Int) (hhi : 0 < hi)
    (hN : 0 < r.partBounds.getLast?.getD 0) :
    getRowsB r (.slice (some lo) (some hi)) =
      getRowsB r (.slice (some lo) (some (min hi ((r.partBounds.getLast?.getD 0 : Nat) : Int)))) := by
  -- on every backend a slice goes through `getRowsW`, where `hi` enters only as `normBound (pyOr (some hi) n) n`
  unfold getRowsB getRowsW
  cases r.backend <;> simp only [normBound_clamp hi _ hhi (Int.natCast_pos.2 hN)]

theorem npRows_slice {α : Type} (A : List (List α)) (lo hi : Int) (h0 : 0 ≤ lo) (h1 : lo ≤ hi) (h2 : hi ≤ A.length) :
    npRows A (.slice (some lo) (some hi)) = some (rowsSlice A lo hi) := by
  rw [npRows, C01.Lemmas.sliceIdx_inside A.length lo hi h0 h1 h2, Np.Lemmas.take_range']
  rfl

theorem rowsSlice_clamp {α : Type} (A : List (List α)) (lo hi : Int) :
    rowsSlice A lo (min hi A.length) = rowsSlice A lo hi := by
  by_cases h : hi ≤ A.length
  · rw [Int.min_eq_left h]
  · have hle : (A.length : Int) ≤ hi := Int.le_of_lt (Int.not_le.1 h)
    have hlen : A.length ≤ hi.toNat := (Int.le_toNat (Int.le_trans (Int.natCast_nonneg _) hle)).2 hle
    rw [Int.min_eq_right hle, rowsSlice, rowsSlice, List.take_eq_take_iff, List.length_drop, Int.toNat_natCast,
      Nat.min_self, Nat.min_eq_right (Nat.sub_le_sub_right hlen _)]

variable {β : Type}

theorem getRowsB_slice_inside {src : Source (List β)} {r : Reader (List β)} (b : C01.Lemmas.Built src r)
    (lo m : Int) (h0 : 0 ≤ lo) (h1 : lo < m) (h2 : m ≤ src.concat.length) :
    getRowsB r (.slice (some lo) (some m)) = .ok (rowsSlice src.concat lo m) := by
  have hd : InDom src.concat.length (.slice (some lo) (some m)) := by
    have hneg : -(src.concat.length : Int) ≤ 0 := Int.neg_nonpos_of_nonneg (Int.natCast_nonneg _)
    refine ⟨?_, ?_, ?_⟩
    · rintro s ⟨rfl⟩
      exact ⟨Int.le_trans hneg h0, Int.le_trans (Int.le_of_lt h1) h2⟩
    · rintro e ⟨rfl⟩
      exact ⟨Int.le_trans hneg (Int.le_trans h0 (Int.le_of_lt h1)), h2⟩
    · rw [C01.Lemmas.sliceIdx_inside _ lo m h0 (Int.le_of_lt h1) h2, Ne, List.range'_eq_nil_iff]
      exact Nat.sub_ne_zero_of_lt ((Int.toNat_lt_toNat (Int.lt_of_le_of_lt h0 h1)).2 h1)
  obtain ⟨rows, hrows, _, hget⟩ := C01.Lemmas.getRowsB_eq b _ hd (fun _ => rfl)
  rw [npRows_slice src.concat lo m h0 (Int.le_of_lt h1) h2] at hrows
  cases hrows
  exact hget

theorem reader_rows_slice (src : Source (List β)) (h : SrcOK src) (r : Reader (List β))
    (hr : build src = some r) (lo hi : Int) (hlo0 : 0 ≤ lo) (hlo : lo < src.concat.length) (hhi : lo < hi)
    (ops : List ColSel) :
    getItemOps r (.slice (some lo) (some hi)) ops =
      .ok ((rowsSlice src.concat lo hi).map (applyCols ops)) := by
  have b := C01.Lemmas.built_of_build src h r hr
  have hlast : r.partBounds.getLast?.getD 0 = src.concat.length := by
    rw [b.partBounds, C01.Lemmas.nSamples_eq, b.store]
    rfl
  have hN : 0 < src.concat.length := Int.natCast_pos.1 (Int.lt_of_le_of_lt hlo0 hlo)
  unfold getItemOps
  rw [getRowsB_clamp r lo hi (Int.lt_of_le_of_lt hlo0 hhi) (hlast ▸ hN), hlast,
    getRowsB_slice_inside b lo _ hlo0 (Int.lt_min.2 ⟨hhi, hlo⟩) (Int.min_le_right _ _), rowsSlice_clamp]

end PhyVerif.C03.Lemmas
