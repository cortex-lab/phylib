import PhyVerif.Model.C09
import PhyVerif.Spec.C09
import PhyVerif.Lemmas.C07
import Mathlib.Tactic.Ring
import Mathlib.Algebra.Order.Field.Rat
/-! What `Model/C09.lean` computes, entry by entry: its folds as `max`/`min` and first arg-max/arg-min, its
`bincount` quotients as means over the member spikes of `Spec/C09.lean`. -/
namespace PhyVerif.C09.Lemmas
open PhyVerif PhyVerif.C09

/-! ### `max` / `min` by folding, first arg-max / arg-min

Stated for any linear order: the `min` facts are the `max` facts of the order dual. -/

/-- the fold seeded with the head of a non-empty list (`listMax`, and `listMin` in the dual) is `List.max?` -/
theorem headFold_spec {α : Type} [LinearOrder α] (l : List α) (d : α) (h : l ≠ []) :
    l.foldl max (l.headD d) ∈ l ∧ ∀ x ∈ l, x ≤ l.foldl max (l.headD d) := by
  cases l with
  | nil => exact absurd rfl h
  | cons a t =>
    apply List.max?_eq_some_iff.mp
    rw [List.headD_cons, List.foldl_cons, max_self, List.max?_cons']

theorem listMax_spec (l : List Rat) (h : l ≠ []) : listMax l ∈ l ∧ ∀ x ∈ l, x ≤ listMax l :=
  headFold_spec l 0 h

theorem listMin_spec (l : List Rat) (h : l ≠ []) : listMin l ∈ l ∧ ∀ x ∈ l, listMin l ≤ x :=
  headFold_spec (α := Ratᵒᵈ) l 0 h

/-- the first position of an element `m` that bounds the list (`IsFirstMax`, and `IsFirstMin` in the dual) -/
theorem idxOf_bound_spec {α : Type} [LinearOrder α] [BEq α] [LawfulBEq α] (l : List α) (m d : α) (hm : m ∈ l)
    (hb : ∀ x ∈ l, x ≤ m) :
    l.idxOf m < l.length ∧ (∀ j, j < l.length → l.getD j d ≤ l.getD (l.idxOf m) d) ∧
      ∀ j, j < l.idxOf m → l.getD j d < l.getD (l.idxOf m) d := by
  have hlt : l.idxOf m < l.length := List.idxOf_lt_length_iff.mpr hm
  have hle : ∀ j, j < l.length → l.getD j d ≤ m := fun j hj => hb _ (Np.Lemmas.getD_mem l j d hj)
  rw [Np.Lemmas.getD_idxOf l m d hm]
  refine ⟨hlt, hle, fun j hj => lt_of_le_of_ne (hle j (lt_trans hj hlt)) fun he => ?_⟩
  -- an earlier position holding `m` contradicts `idxOf` being the first
  have hne := List.not_of_lt_findIdx (show j < l.findIdx (· == m) from hj)
  rw [List.getElem_eq_getD d, he, beq_self_eq_true] at hne
  cases hne

theorem argmaxFirst_spec (l : List Rat) (h : l ≠ []) : IsFirstMax l (argmaxFirst l) :=
  idxOf_bound_spec l _ 0 (listMax_spec l h).1 (listMax_spec l h).2

theorem argminFirst_spec (l : List Rat) (h : l ≠ []) : IsFirstMin l (argminFirst l) :=
  idxOf_bound_spec (α := Ratᵒᵈ) l _ 0 (listMin_spec l h).1 (listMin_spec l h).2

/-- also for the empty list: both sides are the default -/
theorem getD_idxOf_headFold {α : Type} [LinearOrder α] [BEq α] [LawfulBEq α] (l : List α) (d : α) :
    l.getD (l.idxOf (l.foldl max (l.headD d))) d = l.foldl max (l.headD d) := by
  cases l with
  | nil => rfl
  | cons a t => exact Np.Lemmas.getD_idxOf _ _ d (headFold_spec _ d (List.cons_ne_nil a t)).1

theorem getD_argmax (l : List Rat) : l.getD (argmaxFirst l) 0 = listMax l :=
  getD_idxOf_headFold l 0

theorem getD_argmin (l : List Rat) : l.getD (argminFirst l) 0 = listMin l :=
  getD_idxOf_headFold (α := Ratᵒᵈ) l 0

/-! ### scaling -/

/-- multiplying by `c` turns a head-seeded fold of `g₁` into one of `g₂` when it does so on pairs:
`max`/`min` stay for `0 ≤ c` and swap for `c ≤ 0` -/
theorem headFold_map_mul (g₁ g₂ : Rat → Rat → Rat) (c : Rat) (H : ∀ x y, g₁ x y * c = g₂ (x * c) (y * c))
    (v : List Rat) : (v.map (· * c)).foldl g₂ ((v.map (· * c)).headD 0) = v.foldl g₁ (v.headD 0) * c := by
  cases v with
  | nil => exact (zero_mul c).symm
  | cons a t =>
    rw [List.foldl_map]
    exact List.foldl_hom (· * c) fun x y => (H x y).symm

theorem listMax_map_mul (v : List Rat) (c : Rat) (hc : 0 ≤ c) : listMax (v.map (· * c)) = listMax v * c :=
  headFold_map_mul max max c (fun x y => max_mul_of_nonneg x y hc) v

theorem listMin_map_mul (v : List Rat) (c : Rat) (hc : 0 ≤ c) : listMin (v.map (· * c)) = listMin v * c :=
  headFold_map_mul min min c (fun x y => min_mul_of_nonneg x y hc) v

theorem listMax_map_mul_nonpos (v : List Rat) (c : Rat) (hc : c ≤ 0) :
    listMax (v.map (· * c)) = listMin v * c :=
  headFold_map_mul min max c (fun _ _ => (antitone_mul_right hc).map_min) v

theorem listMin_map_mul_nonpos (v : List Rat) (c : Rat) (hc : c ≤ 0) :
    listMin (v.map (· * c)) = listMax v * c :=
  headFold_map_mul max min c (fun _ _ => (antitone_mul_right hc).map_max) v

theorem ptp_scale (v : List Rat) (c : Rat) (hc : 0 ≤ c) : ptp (v.map (· * c)) = ptp v * c := by
  unfold ptp
  rw [listMax_map_mul v c hc, listMin_map_mul v c hc]
  ring

/-! ### spike amplitudes and depths, entry by entry -/

theorem unwhitened_getD (d : Data) (t : Nat) : (unwhitened d).getD t [] = matMul (d.wfsW.getD t []) d.wmi :=
  Np.Lemmas.getD_map _ _ t [] [] rfl

theorem unwhitened_length (d : Data) : (unwhitened d).length = d.wfsW.length := List.length_map _

theorem ampsAu_length (d : Data) : (ampsAu d).length = d.wfsW.length :=
  (List.length_map _).trans (unwhitened_length d)

/-- also beyond the last waveform: both sides are 0 there -/
theorem ampsAu_getD (d : Data) (t : Nat) : (ampsAu d).getD t 0 = listMax (chAmps ((unwhitened d).getD t [])) :=
  Np.Lemmas.getD_map _ _ t [] 0 rfl

theorem col_length (W : Mat) (j : Nat) : (col W j).length = W.length := List.length_map _

theorem chAmps_length (W : Mat) : (chAmps W).length = ncols W := (List.length_map _).trans List.length_range

theorem chAmps_getD (W : Mat) (j : Nat) (hj : j < ncols W) : (chAmps W).getD j 0 = ptp (col W j) :=
  Np.Lemmas.getD_map_range _ _ j 0 hj

theorem spikeAmps_length (d : Data) (ha : d.amplitudes.length = d.spikes.length) :
    (spikeAmps d).length = d.spikes.length := by
  rw [spikeAmps, List.length_map, List.length_zip, ha, Nat.min_self]

theorem spikeAmps_getD (d : Data) (i : Nat) (hi : i < d.spikes.length)
    (ha : d.amplitudes.length = d.spikes.length) :
    (spikeAmps d).getD i 0 = (ampsAu d).getD (d.spikes.getD i 0) 0 * d.amplitudes.getD i 0 :=
  Np.Lemmas.getD_map_zip _ _ _ i 0 0 0 hi (ha ▸ hi)

theorem spikeAmp_eq (d : Data) (i : Nat) (hi : i < d.spikes.length) (ha : d.amplitudes.length = d.spikes.length) :
    (spikeAmps d).getD i 0 =
      listMax (chAmps (matMul (d.wfsW.getD (d.spikes.getD i 0) []) d.wmi)) * d.amplitudes.getD i 0 ∨
    d.wfsW.length ≤ d.spikes.getD i 0 := by
  -- the equation holds outright: beyond the last waveform both sides are 0 (`ampsAu_getD`)
  left
  rw [spikeAmps_getD d i hi ha, ampsAu_getD, unwhitened_getD]

theorem depths_eq (feat0 : List (List Rat)) (cols : List (List Nat)) (ys : List Rat)
    (st : List Nat) (i : Nat) (hi : i < feat0.length) (hl : st.length = feat0.length) :
    (depths feat0 cols ys st).getD i none =
      (let f := (feat0.getD i []).map fun x => (max x 0) * (max x 0)
       let y := (cols.getD (st.getD i 0) []).map fun c => ys.getD c 0
       if f.sum = 0 then none else some (dot y f / f.sum)) :=
  Np.Lemmas.getD_map_zip _ _ _ i [] 0 none hi (hl ▸ hi)

/-! ### per-id sums and means

A list is the map of its `getD` over `range` (`Np.Lemmas.map_getD_range`): counting and filtering its elements is
filtering the positions, which is what `membersOf` does. -/

theorem count_eq_members (s : List Nat) (t : Nat) : s.count t = (membersOf s t).length := by
  have h : s.count t = (((List.range s.length).map fun i => s.getD i 0).filter (· == t)).length := by
    rw [Np.Lemmas.map_getD_range, List.count_eq_length_filter]
  rw [h, List.filter_map, List.length_map]
  rfl

theorem wsum_eq_members (s : List Nat) (t : Nat) (w : List Rat) (hw : w.length = s.length) :
    (((s.zip w).filter fun p => p.1 == t).map (·.2)).sum =
      ((membersOf s t).map fun i => w.getD i 0).sum := by
  have h : s.zip w = (List.range s.length).map fun i => (s.getD i 0, w.getD i 0) := by
    rw [← List.zip_map', Np.Lemmas.map_getD_range, ← hw, Np.Lemmas.map_getD_range]
  rw [h, List.filter_map, List.map_map]
  rfl

theorem bincountW_getD (s : List Nat) (w : List Rat) (n t : Nat) (ht : t < n) :
    (bincountW s w n).getD t 0 = (((s.zip w).filter fun p => p.1 == t).map (·.2)).sum :=
  Np.Lemmas.getD_map_range _ n t 0 ht

theorem bincountW_length (s : List Nat) (w : List Rat) (n : Nat) : (bincountW s w n).length = n :=
  (List.length_map _).trans List.length_range

theorem bincountN_length (s : List Nat) (n : Nat) : (bincountN s n).length = n :=
  (List.length_map _).trans List.length_range

theorem bincountN_getD (s : List Nat) (n t : Nat) (ht : t < n) :
    (bincountN s n).getD t 0 = s.count t :=
  Np.Lemmas.getD_map_range _ n t 0 ht

theorem ampsV_length (d : Data) : (ampsV d).length = d.wfsW.length := by
  rw [ampsV, List.length_map, List.length_zip, bincountW_length, bincountN_length, Nat.min_self]

theorem ampsV_getD (d : Data) (t : Nat) (ht : t < d.wfsW.length) :
    (ampsV d).getD t none =
      if d.spikes.count t = 0 then none
      else some ((bincountW d.spikes (spikeAmps d) d.wfsW.length).getD t 0 / (d.spikes.count t : Nat)) := by
  rw [← bincountN_getD d.spikes _ t ht]
  exact Np.Lemmas.getD_map_zip _ _ _ t 0 0 none ((bincountW_length ..).symm ▸ ht) ((bincountN_length ..).symm ▸ ht)

theorem ampsV_eq_mean (d : Data) (ha : d.amplitudes.length = d.spikes.length) (t : Nat)
    (ht : t < d.wfsW.length) :
    (ampsV d).getD t none = meanOver d.spikes (spikeAmps d) t ∧ (ampsV d).length = d.wfsW.length := by
  refine ⟨?_, ampsV_length d⟩
  rw [ampsV_getD d t ht, bincountW_getD _ _ _ _ ht,
    wsum_eq_members _ _ _ (spikeAmps_length d ha), count_eq_members]
  rfl

theorem mem_unique_ofNat (ids : List Nat) (t : Nat) : t ∈ Np.unique (ids.map Int.ofNat) ↔ t ∈ ids := by
  simpa using (PhyVerif.C07.Lemmas.unique_spec (ids.map Int.ofNat)).2 t

theorem meanAmps_eq (ids : List Nat) (amps : List Rat) (h : amps.length = ids.length) :
    meanAmps ids amps = (Np.unique (ids.map Int.ofNat)).map fun t =>
      (t, ((membersOf ids t).map fun i => amps.getD i 0).sum / ((membersOf ids t).length : Nat)) := by
  unfold meanAmps
  apply List.map_congr_left
  intro t ht
  have hle : t < ids.foldl max 0 + 1 :=
    Nat.lt_succ_of_le ((Np.Lemmas.le_foldl_max ids 0).2 t ((mem_unique_ofNat ids t).mp ht))
  show (t, _) = (t, _)
  congr 1
  rw [bincountW_getD _ _ _ _ hle, bincountN_getD _ _ _ hle, wsum_eq_members _ _ _ h, count_eq_members]

/-! ### signs -/

theorem ptp_nonneg (v : List Rat) : 0 ≤ ptp v := by
  cases v with
  | nil => exact (sub_self (0 : Rat)).ge
  | cons a t =>
    have ha : a ∈ a :: t := List.mem_cons_self
    exact sub_nonneg.mpr (le_trans ((listMin_spec _ (List.cons_ne_nil a t)).2 a ha)
      ((listMax_spec _ (List.cons_ne_nil a t)).2 a ha))

theorem listMax_nonneg (l : List Rat) (h : ∀ x ∈ l, 0 ≤ x) : 0 ≤ listMax l := by
  cases l with
  | nil => exact le_refl (0 : Rat)
  | cons a t => exact h _ (listMax_spec _ (List.cons_ne_nil a t)).1

theorem listMax_chAmps_nonneg (W : Mat) : 0 ≤ listMax (chAmps W) := by
  apply listMax_nonneg
  intro x hx
  unfold chAmps at hx
  obtain ⟨j, _, rfl⟩ := List.mem_map.mp hx
  exact ptp_nonneg _

theorem ampsAu_getD_nonneg (d : Data) (k : Nat) : 0 ≤ (ampsAu d).getD k 0 := by
  rw [ampsAu_getD]
  exact listMax_chAmps_nonneg _

theorem spikeAmps_nonneg (d : Data) (hnn : ∀ a ∈ d.amplitudes, 0 ≤ a) :
    ∀ x ∈ spikeAmps d, 0 ≤ x := by
  intro x hx
  unfold spikeAmps at hx
  obtain ⟨p, hp, rfl⟩ := List.mem_map.mp hx
  exact mul_nonneg (ampsAu_getD_nonneg d p.1) (hnn _ (List.of_mem_zip hp).2)

theorem list_sum_nonneg (l : List Rat) (h : ∀ x ∈ l, 0 ≤ x) : 0 ≤ l.sum := by
  induction l with
  | nil => exact le_refl (0 : Rat)
  | cons a l ih =>
    rw [List.sum_cons]
    exact add_nonneg (h a List.mem_cons_self) (ih fun x hx => h x (List.mem_cons_of_mem a hx))

theorem wsum_nonneg (s : List Nat) (w : List Rat) (t : Nat) (h : ∀ x ∈ w, 0 ≤ x) :
    0 ≤ (((s.zip w).filter fun p => p.1 == t).map (·.2)).sum := by
  apply list_sum_nonneg
  intro x hx
  obtain ⟨p, hp, rfl⟩ := List.mem_map.mp hx
  exact h _ (List.of_mem_zip (List.mem_filter.mp hp).1).2

theorem ampsV_nonneg (d : Data) (hnn : ∀ a ∈ d.amplitudes, 0 ≤ a) (t : Nat)
    (ht : t < d.wfsW.length) (v : Rat) (hv : (ampsV d).getD t none = some v) : 0 ≤ v := by
  rw [ampsV_getD d t ht, bincountW_getD _ _ _ _ ht] at hv
  split at hv
  · cases hv
  · injection hv with hv
    rw [← hv]
    exact div_nonneg (wsum_nonneg _ _ _ (spikeAmps_nonneg d hnn)) (Nat.cast_nonneg _)

end PhyVerif.C09.Lemmas
