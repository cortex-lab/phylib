import PhyVerif.Lemmas.C19
/-! `Model/C19.lean`, continued: the registrations read off the history without the code's filter (`registeredFwd`,
`hits` of `Spec/C19.lean`), a `connect` undone by an `unconnect`, and `is_complete()` and the messages of a reporter. -/
namespace PhyVerif.C19.Lemmas
open PhyVerif PhyVerif.C19

/-- The code's filter asks of each field of a registration whether it is among the items; the specification
(`hits_iff`) asks of each item whether it names a field. -/
theorem keeps_iff (items : List UItem) (c : Cb) :
    keeps items c = true ↔ .cb c.id ∉ items ∧ (∀ s, c.sender = some s → .obj s ∉ items) ∧
      (∀ o, c.owner = some o → .obj o ∉ items) := by
  unfold keeps
  cases c.sender <;> cases c.owner <;>
    simp only [List.contains_eq_mem, Bool.and_true, Bool.and_eq_true, Bool.not_eq_eq_eq_not, Bool.not_true,
      decide_eq_false_iff_not, and_assoc, Option.some.injEq, forall_eq', reduceCtorEq, false_implies,
      implies_true, and_self, and_true, true_and]

theorem hits_iff (items : List UItem) (c : Cb) :
    hits items c = true ↔ .cb c.id ∈ items ∨ (∃ s, c.sender = some s ∧ .obj s ∈ items) ∨
      (∃ o, c.owner = some o ∧ .obj o ∈ items) := by
  simp only [hits, List.any_eq_true]
  constructor
  · rintro ⟨it, hm, h⟩
    cases it with
    | cb j => exact .inl (by rwa [← beq_iff_eq.mp h])
    | obj p =>
      rcases Bool.or_eq_true _ _ ▸ h with h | h
      · exact .inr (.inl ⟨p, beq_iff_eq.mp h, hm⟩)
      · exact .inr (.inr ⟨p, beq_iff_eq.mp h, hm⟩)
  · rintro (h | ⟨s, hs, h⟩ | ⟨o, ho, h⟩)
    · exact ⟨_, h, beq_self_eq_true _⟩
    · exact ⟨_, h, by simp [hs]⟩
    · exact ⟨_, h, by simp [ho]⟩

theorem keeps_eq_not_hits (items : List UItem) (c : Cb) : keeps items c = !hits items c := by
  rw [Bool.eq_iff_iff, keeps_iff, Bool.not_eq_true', ← Bool.not_eq_true, hits_iff]
  simp only [not_or, not_exists, not_and]

/-- the fold of `registered` started from any list: what survives of the list, then what the
history registers -/
theorem foldl_regStep (ops : List EOp) : ∀ acc : List Cb,
    ops.foldl regStep acc = acc.filter (fun c => survives c ops) ++ registeredFwd ops := by
  induction ops with
  | nil => intro acc; exact (List.filter_eq_self.2 fun _ _ => rfl).symm.trans (List.append_nil _).symm
  | cons op ops ih =>
    intro acc
    rw [List.foldl_cons, ih]
    cases op with
    | connect r =>
      simp only [regStep, registeredFwd]
      cases connectCb r with
      | none => rfl
      | some c => rw [List.filter_append, List.append_assoc, List.filter_cons, List.filter_nil]; rfl
    | unconnect items =>
      simp only [regStep, List.filter_filter, keeps_eq_not_hits, Bool.and_comm]
      rfl
    | reset => exact congrArg (· ++ _) (List.filter_eq_nil_iff.2 fun _ _ => Bool.false_ne_true).symm
    | _ => rfl

theorem registered_forward (ops : List EOp) : registered ops = registeredFwd ops := by
  rw [registered_eq, foldl_regStep]; rfl

/-- the emitter's callback list after ANY history (no hypothesis on the nesting of contexts: an unmatched
exit leaves the state alone) -/
theorem erunState_cbs (result : Call → Nat) (ops : List EOp) : ∀ st : EState,
    (erunState result st ops).cbs = ops.foldl regStep st.cbs := by
  induction ops with
  | nil => intro st; rfl
  | cons op ops ih => intro st; rw [erunState, ih, estep_cbs]; rfl

theorem state_registered (result : Call → Nat) (ops : List EOp) :
    (erunState result EState.init ops).cbs = registeredFwd ops := by
  rw [erunState_cbs, foldl_regStep]; rfl

theorem emitsSpecF_eq (result : Call → Nat) (ops : List EOp) : ∀ pre : List EOp,
    emitsSpecF result pre ops = emitsSpecG result pre ops := by
  induction ops with
  | nil => intro pre; rfl
  | cons op ops ih =>
    intro pre
    cases op with
    | emit e s a kw => simp only [emitsSpecF, emitsSpecG, ih, registered_forward]
    | _ => exact ih _

theorem emit_outcomes_forward (result : Call → Nat) (ops : List EOp) (h : ExitsMatched ops 0) :
    erun result EState.init ops = emitsSpecF result [] ops := by
  rw [emitsSpecF_eq]
  exact emit_outcomes_any_nesting result ops h

theorem keeps_cb (i : Nat) (c : Cb) : keeps [.cb i] c = !(i == c.id) := by
  rw [keeps_eq_not_hits]
  -- `hits [.cb i] c` evaluates to `(i == c.id) || false`
  exact congrArg not (Bool.or_false _)

theorem connect_unconnect_inverse (result : Call → Nat) (st : EState) (r : ConnReq)
    (hfresh : ∀ c ∈ st.cbs, c.id ≠ r.id) :
    (estep result (estep result st (.connect r)).1 (.unconnect [.cb r.id])).1 = st := by
  have hf : st.cbs.filter (keeps [.cb r.id]) = st.cbs :=
    List.filter_eq_self.2 fun c hc => by
      rw [keeps_cb, Bool.not_eq_true', beq_eq_false_iff_ne]
      exact (hfresh c hc).symm
  rw [estep_connect]
  show ({ st with cbs := (regStep st.cbs (.connect r)).filter (keeps [.cb r.id]) } : EState) = st
  simp only [regStep]
  cases h : connectCb r with
  | none => rw [hf]
  | some c =>
    rw [List.filter_append, hf, List.filter_cons, keeps_cb, connectCb_id r c h, beq_self_eq_true]
    exact congrArg (EState.mk · _ _) (List.append_nil _)

theorem rrun_mem {P : RState → Prop} (hP : ∀ st op, P st → P (rstep st op).1) (ops : List ROp) :
    ∀ st, P st → ∀ t ∈ rrun st ops, P t.1 ∧ t.2.2 = rstep t.1 t.2.1 := by
  induction ops with
  | nil => intro st _ t h; cases h
  | cons op ops ih =>
    intro st hst t h
    rcases List.mem_cons.mp h with rfl | h
    · exact ⟨hst, rfl⟩
    · exact ih _ (hP st op hst) t h

def RInv (st : RState) : Prop := st.completed = true → st.max ≤ st.value

theorem rstep_inv (st : RState) (op : ROp) (h : RInv st) :
    RInv (rstep st op).1 ∧ ((rstep st op).2.complete = true → isComplete (rstep st op).1 = true) := by
  cases op with
  | setMax m =>
    refine ⟨fun hc => ?_, nofun⟩
    simp only [rstep] at hc
    split at hc
    · cases hc
    · exact Int.le_trans (Int.not_lt.mp ‹_›) (h hc)
  | reset m =>
    -- the flag survives a reset only if the new maximum is not above the new value 0
    refine ⟨fun hc => Int.not_lt.mp fun h0 => ?_, nofun⟩
    rw [show (rstep st (.reset m)).1.completed = false from
      if_pos (Bool.or_eq_true_iff.2 (.inl (decide_eq_true h0)))] at hc
    cases hc
  | _ =>
    show RInv (setValue st _).1 ∧ ((setValue st _).2.complete = true → isComplete (setValue st _).1 = true)
    rw [setValue_eq]
    exact ⟨of_decide_eq_true, fun h => (Bool.and_eq_true _ _ ▸ h).1⟩

theorem reporter_is_complete (ops : List ROp) :
    ∀ t ∈ rrun RState.init ops,
      (t.2.2.1.completed = true → isComplete t.2.2.1 = true) ∧
      (t.2.2.2.complete = true → isComplete t.2.2.1 = true) := by
  intro t ht
  obtain ⟨hP, hs⟩ := rrun_mem (fun st op h => (rstep_inv st op h).1) ops _ (fun h => absurd h Bool.false_ne_true) t ht
  obtain ⟨h1, h2⟩ := rstep_inv t.1 t.2.1 hP
  rw [← hs] at h1 h2
  exact ⟨fun hc => decide_eq_true (h1 hc), h2⟩

/-- what a step emits is decided by the value it hands to `_set_value` -/
theorem rstep_out (st : RState) (op : ROp) :
    (rstep st op).2 = match valueSet st op with
      | some v => ⟨some (v, st.max), decide (st.max ≤ v) && !st.completed⟩
      | none => ⟨none, false⟩ := by
  cases op with
  | setMax m => rfl
  | reset m => rfl
  | _ => exact congrArg Prod.snd (setValue_eq st _)

theorem mem_printed (o : ROut) (v m : Int) :
    REv.progress v m ∈ o.printed ↔ o.progress = some (v, m) ∧ m ≠ 0 ∧ v ≤ m := by
  have he : REv.progress v m ∈ o.events ↔ o.progress = some (v, m) := by
    obtain ⟨_ | ⟨v', m'⟩, c⟩ := o <;> cases c <;> simp [ROut.events, eq_comm]
  rw [ROut.printed, List.mem_filter, he]
  simp [printsMessage]

theorem count_printed (o : ROut) : o.printed.count REv.complete = if o.complete then 1 else 0 := by
  rw [ROut.printed, List.count_filter rfl]
  obtain ⟨_ | ⟨v, m⟩, _ | _⟩ := o <;> rfl

theorem reporter_messages (ops : List ROp) :
    ∀ t ∈ rrun RState.init ops,
      (∀ v m, REv.progress v m ∈ t.2.2.2.printed ↔
        (valueSet t.1 t.2.1 = some v ∧ m = t.1.max ∧ m ≠ 0 ∧ v ≤ m)) ∧
      (t.2.2.2.complete = true ↔ ∃ v, valueSet t.1 t.2.1 = some v ∧ t.1.max ≤ v ∧ t.1.completed = false) ∧
      t.2.2.2.printed.count REv.complete = (if t.2.2.2.complete then 1 else 0) ∧
      (∀ v, valueSet t.1 t.2.1 = some v →
        t.2.2.2.events = REv.progress v t.1.max :: (if t.2.2.2.complete then [REv.complete] else [])) ∧
      (valueSet t.1 t.2.1 = none → t.2.2.2.events = []) ∧
      t.2.2.2.printed.Sublist t.2.2.2.events := by
  rintro ⟨pre, op, post, out⟩ ht
  have ho : out = _ :=
    (congrArg Prod.snd (rrun_mem (P := fun _ => True) (fun _ _ _ => trivial) ops _ trivial _ ht).2).trans
      (rstep_out pre op)
  subst ho
  refine ⟨fun v m => ?_, ?_, count_printed _, ?_, ?_, List.filter_sublist⟩
  · rw [mem_printed]
    cases valueSet pre op <;> simp [and_assoc, eq_comm]
  · cases valueSet pre op <;> simp
  · intro v hv
    rw [hv]
    rfl
  · intro hv
    rw [hv]
    rfl

end PhyVerif.C19.Lemmas
