import PhyVerif.Model.C02b
import PhyVerif.Lemmas.C02
/-! Proofs about the statement-level model of `_append_op` (`Model/C02b.lean`): the state after the three statements,
from which the clone's operations, the frame, well-formedness and the refinement of `derive` are read off. -/
namespace PhyVerif.C02.Lemmas
open PhyVerif PhyVerif.C02

variable {β : Type}

theorem addr_lt (s : Store β) (h : s.WF) (rd : Nat) (hr : rd < s.readers.length) : s.addr rd < s.lists.length :=
  h rd hr

/-- state after the three statements: one new list object (the parent's operations and `op`) and one new reader
object holding its address -/
theorem run_appendOp (s : Store β) (self : Nat) (op : Op β) (hs : self < s.readers.length) :
    run s (appendOpProgram s self op) =
      { lists := s.lists ++ [s.opsOf self ++ [op]], readers := s.readers ++ [s.lists.length] } := by
  simp [run, appendOpProgram, exec, Store.opsOf, Store.addr, List.getD_eq_getElem?_getD,
    List.getElem?_append_left hs]

theorem appendOp_clone_ops (s : Store β) (self : Nat) (op : Op β) (hs : self < s.readers.length) :
    (run s (appendOpProgram s self op)).opsOf s.readers.length = s.opsOf self ++ [op] := by
  rw [run_appendOp s self op hs, Store.opsOf, Store.addr, Np.Lemmas.getD_append_length, Np.Lemmas.getD_append_length]

theorem appendOp_frame (s : Store β) (hwf : s.WF) (self : Nat) (op : Op β) (hs : self < s.readers.length)
    (rd : Nat) (hr : rd < s.readers.length) :
    (run s (appendOpProgram s self op)).opsOf rd = s.opsOf rd := by
  rw [run_appendOp s self op hs, Store.opsOf, Store.addr, Np.Lemmas.getD_append_left _ _ _ _ hr,
    Np.Lemmas.getD_append_left _ _ _ _ (show s.readers.getD rd 0 < s.lists.length from addr_lt s hwf rd hr)]
  rfl

theorem appendOp_wf (s : Store β) (hwf : s.WF) (self : Nat) (op : Op β) (hs : self < s.readers.length) :
    (run s (appendOpProgram s self op)).WF := by
  rw [run_appendOp s self op hs]
  intro rd hr
  rw [List.length_append, List.length_singleton] at hr
  rw [List.length_append, List.length_singleton, Store.addr]
  by_cases h : rd < s.readers.length
  · rw [Np.Lemmas.getD_append_left _ _ _ _ h]
    exact Nat.lt_succ_of_lt (addr_lt s hwf rd h)
  · obtain rfl : rd = s.readers.length := by omega
    rw [Np.Lemmas.getD_append_length]
    exact Nat.lt_succ_self _

theorem appendOp_refines_derive (s : Store β) (hwf : s.WF) (self : Nat) (op : Op β) (hs : self < s.readers.length) :
    (run s (appendOpProgram s self op)).abs = (derive s.abs self op).1 := by
  have hlen : (run s (appendOpProgram s self op)).readers.length = s.readers.length + 1 := by
    rw [run_appendOp s self op hs]
    exact List.length_append
  have hfr : (List.range s.readers.length).map (run s (appendOpProgram s self op)).opsOf =
      (List.range s.readers.length).map s.opsOf :=
    List.map_congr_left fun rd hrd => appendOp_frame s hwf self op hs rd (List.mem_range.mp hrd)
  have hg : s.abs.getD self [] = s.opsOf self := Np.Lemmas.getD_map_range s.opsOf _ self [] hs
  rw [derive_eq, hg]
  unfold Store.abs
  rw [hlen, List.range_succ, List.map_append, List.map_singleton, appendOp_clone_ops s self op hs, hfr]

theorem aliasing_variant_changes_parent (s : Store β) (hwf : s.WF) (self : Nat) (op : Op β)
    (hs : self < s.readers.length) :
    (run s (aliasingVariant s self op)).opsOf self = s.opsOf self ++ [op] := by
  have hrun : run s (aliasingVariant s self op) =
      { lists := s.lists.set (s.addr self) (s.opsOf self ++ [op]), readers := s.readers ++ [s.addr self] } := by
    simp [run, aliasingVariant, exec, Store.opsOf, Store.addr, List.getD_eq_getElem?_getD]
  have ha : s.readers.getD self 0 < s.lists.length := addr_lt s hwf self hs
  rw [hrun]
  simp only [Store.opsOf, Store.addr]
  rw [Np.Lemmas.getD_append_left _ _ _ _ hs, List.getD_eq_getElem?_getD (l := s.lists.set _ _),
    List.getElem?_set_self ha]
  rfl

end PhyVerif.C02.Lemmas
