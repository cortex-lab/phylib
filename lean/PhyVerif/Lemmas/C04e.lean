import PhyVerif.Model.C04c
import PhyVerif.Spec.C04
import PhyVerif.Spec.C04b
import PhyVerif.Lemmas.C04c
import PhyVerif.Lemmas.C01
import PhyVerif.Lemmas.C02
import PhyVerif.Lemmas.C04s
/-! The full loader `loadFull` of `Model/C04c`: its steps taken alone (extra per-spike attributes, traces, the monotone
test), then what it adds to `load` (`FullSpec`) and its attributes one by one. -/
namespace PhyVerif.C04.Lemmas
open PhyVerif PhyVerif.C04

theorem strip_eq_iff (pre suf fl m : List Char) :
    (pre <+: fl ∧ suf <:+ fl ∧ pre.length + suf.length ≤ fl.length ∧
      (fl.drop pre.length).take (fl.length - (pre.length + suf.length)) = m) ↔ fl = pre ++ (m ++ suf) := by
  constructor
  · rintro ⟨⟨r, rfl⟩, hs, hlen, rfl⟩
    rw [List.length_append] at hlen
    have hs' : suf <:+ r := List.suffix_of_suffix_length_le hs (List.suffix_append _ _) (by omega)
    obtain ⟨mid, rfl⟩ := hs'
    rw [List.drop_left, List.take_left' (by simp only [List.length_append]; omega)]
  · rintro rfl
    refine ⟨List.prefix_append _ _, ⟨pre ++ m, List.append_assoc _ _ _⟩, by simp only [List.length_append]; omega, ?_⟩
    rw [List.drop_left, List.take_left' (by simp only [List.length_append]; omega)]

theorem spike_toList (n : String) : ("spike_" ++ n ++ ".npy").toList = spikePre ++ (n.toList ++ npySuf) := by
  rw [String.toList_append, String.toList_append, List.append_assoc,
    show "spike_".toList = spikePre from String.toList_ofList, show ".npy".toList = npySuf from String.toList_ofList]

theorem spikeAttrName_some (f n : String) :
    spikeAttrName f = some n ↔ f = "spike_" ++ n ++ ".npy" := by
  rw [← String.toList_inj, spike_toList, ← strip_eq_iff, spikeAttrName, Option.ite_some_none_eq_some,
    ← String.toList_inj, String.toList_ofList]
  simp only [Bool.and_eq_true, List.isPrefixOf_iff_prefix, List.isSuffixOf_iff_suffix, decide_eq_true_eq, and_assoc]
  -- `spikeAttrName` writes the two lengths as the numerals 6 and 10
  exact Iff.rfl

/-- the attribute one file contributes to `_load_spike_attributes`, if any -/
def spikeAttrOf (ns : Nat) (fa : String × Arr) : Option (String × Arr) :=
  (spikeAttrName fa.1).bind fun n =>
    if n ∉ skipAttrs ∧ (squeeze (scrub fa.2)).shape.head? = some ns then some (n, squeeze (scrub fa.2)) else none

theorem spikeAttrOf_eq_some (ns : Nat) (f : String) (a : Arr) (n : String) (x : Arr) :
    spikeAttrOf ns (f, a) = some (n, x) ↔
      f = "spike_" ++ n ++ ".npy" ∧ n ∉ skipAttrs ∧ x = squeeze (scrub a) ∧ x.shape.head? = some ns := by
  rw [← spikeAttrName_some, spikeAttrOf]
  cases spikeAttrName f with
  | none => exact ⟨nofun, fun h => nomatch h.1⟩
  | some m =>
    rw [Option.bind_some]
    constructor
    · intro h
      split at h
      · next hc =>
        cases h
        exact ⟨rfl, hc.1, rfl, hc.2⟩
      · cases h
    · rintro ⟨h1, h2, rfl, h4⟩
      cases h1
      exact if_pos ⟨h2, h4⟩

theorem loadSpikeAttributes_eq (ns : Nat) (d : Dir) :
    loadSpikeAttributes ns d = .ok (d.filterMap (spikeAttrOf ns)) := by
  induction d with
  | nil => rfl
  | cons fa rest ih =>
    obtain ⟨f, a⟩ := fa
    rw [loadSpikeAttributes, List.filterMap_cons, spikeAttrOf, ih]
    cases spikeAttrName f with
    | none => rfl
    | some n =>
      dsimp only [Option.bind_some]
      by_cases hskip : n ∈ skipAttrs
      · rw [if_pos hskip, if_neg fun h => h.1 hskip]
      · rw [if_neg hskip]
        cases (squeeze (scrub a)).shape with
        | nil => rw [if_neg fun h => nomatch h.2]
        | cons k ks =>
          dsimp only
          by_cases hk : k = ns
          · rw [if_pos hk, if_pos ⟨hskip, congrArg some hk⟩]
            rfl
          · rw [if_neg hk, if_neg fun h => hk (Option.some.inj h.2)]

/-- the reserved names, written down in the model and in the table -/
theorem skipAttrs_eq : skipAttrs = skipSpikeAttrs := rfl

theorem loadSpikeAttributes_mem (ns : Nat) (d : Dir) (attrs : List (String × Arr))
    (h : loadSpikeAttributes ns d = .ok attrs) (n : String) (x : Arr) :
    (n, x) ∈ attrs ↔ IsSpikeAttr d ns n x := by
  rw [loadSpikeAttributes_eq] at h
  cases h
  rw [List.mem_filterMap, IsSpikeAttr, ← skipAttrs_eq]
  constructor
  · rintro ⟨⟨f, a⟩, hm, hfa⟩
    obtain ⟨rfl, r⟩ := (spikeAttrOf_eq_some ns f a n x).1 hfa
    exact ⟨a, hm, r⟩
  · rintro ⟨a, hm, r⟩
    exact ⟨_, hm, (spikeAttrOf_eq_some ns _ a n x).2 ⟨rfl, r⟩⟩

/-- the two files `load` may create are not extra attributes: `spike_clusters.npy` is a reserved name -/
theorem attr_not_created (n : String) (hskip : n ∉ skipAttrs) : "spike_" ++ n ++ ".npy" ∉ createdNames := by
  intro hm
  simp only [createdNames, List.mem_cons, List.not_mem_nil, or_false] at hm
  rcases hm with hm | hm
  · have h1 := (spikeAttrName_some _ n).2 hm.symm
    rw [show spikeAttrName "spike_clusters.npy" = some "clusters" from
      (spikeAttrName_some _ _).2 (by decide +kernel)] at h1
    cases h1
    exact hskip List.mem_cons_self
  · have h1 := (spikeAttrName_some _ n).2 hm.symm
    rw [show spikeAttrName "whitening_mat_inv.npy" = none by decide +kernel] at h1
    cases h1

section Traces
open PhyVerif.C01

/-- the channel map as column numbers; part of the statement of `load_traces_permuted` -/
def chans (cm : Arr) : List Nat := (cmIdx cm).map Int.toNat

theorem selCols_idx_nonneg {β : Type} (l : List Int) (row : List β) (h : ∀ i ∈ l, 0 ≤ i) :
    selCols (.idx l) row = Np.take row (l.map Int.toNat) := by
  unfold selCols Np.take
  simp only
  induction l with
  | nil => rfl
  | cons i rest ih =>
    have hi := h i (by simp)
    have ih' := ih (fun j hj => h j (by simp [hj]))
    simp only [List.filterMap_cons, List.map_cons] at ih' ⊢
    rw [if_neg (by omega), ih']

theorem take_spec {α : Type} (a : List α) (idx : List Nat) (h : ∀ c ∈ idx, c < a.length) :
    (Np.take a idx).length = idx.length ∧
    ∀ k (hk : k < idx.length), (Np.take a idx)[k]? = a[idx[k]]? := by
  induction idx with
  | nil => exact ⟨rfl, nofun⟩
  | cons c rest ih =>
    obtain ⟨ih1, ih2⟩ := ih fun x hx => h x (List.mem_cons_of_mem _ hx)
    have hc := h c List.mem_cons_self
    have e : Np.take a (c :: rest) = a[c] :: Np.take a rest := by
      rw [Np.take, List.filterMap_cons, List.getElem?_eq_getElem hc]
      rfl
    rw [e]
    refine ⟨congrArg (· + 1) ih1, fun k hk => ?_⟩
    cases k with
    | zero => exact (List.getElem?_eq_getElem hc).symm
    | succ k => exact ih2 k (Nat.lt_of_succ_lt_succ hk)

theorem npRows_mem {α : Type} (A : List α) (it : Item) (rows : List α) (h : npRows A it = some rows) :
    ∀ r ∈ rows, r ∈ A := by
  intro r hr
  cases it with
  | int i =>
    simp only [npRows] at h
    split at h
    · obtain ⟨x, hx, rfl⟩ := Option.map_eq_some_iff.1 h
      cases List.mem_singleton.1 hr
      exact List.mem_of_getElem? hx
    · cases h
  | slice start stop =>
    cases h
    obtain ⟨i, -, hi⟩ := List.mem_filterMap.1 hr
    exact List.mem_of_getElem? hi
  | list l =>
    obtain ⟨i, -, hi⟩ := Np.Lemmas.mapM_some_mem _ l rows h r hr
    split at hi
    · exact List.mem_of_getElem? hi
    · cases hi

theorem traces_permuted {β : Type} (parts : List (List (List β))) (cm : Arr) (it : Item)
    (tr : C02.Heap β × Nat) (htr : loadTraces (some parts) cm = some tr)
    (hnn : ∀ i ∈ cmIdx cm, 0 ≤ i) (hd : InDom parts.flatten.length it) :
    tracesGet parts tr it =
      (npRows parts.flatten it).map fun rows => rows.map fun row => Np.take row (chans cm) := by
  simp only [loadTraces, Option.map_some, Option.some.injEq] at htr
  subst htr
  unfold tracesGet
  rw [C02.Lemmas.eval_eq_eager _ parts _ it hd, C02.Lemmas.derive_ops']
  rw [← C02.Lemmas.applyOps_commutes_rows]
  congr 1
  funext rows
  simp only [List.getD_eq_getElem?_getD, List.getElem?_cons_zero, Option.getD_some, List.nil_append,
    C02.applyOps, List.foldl_cons, List.foldl_nil, C02.applyOp]
  apply List.map_congr_left
  intro row _
  exact selCols_idx_nonneg _ row hnn

end Traces

theorem isZeros_replicate (shape : List Nat) (k : Nat) (hk : k = shape.foldl (· * ·) 1) :
    IsZeros shape ⟨shape, List.replicate k (.num 0)⟩ :=
  ⟨rfl, List.length_replicate.trans hk, fun _ hc => (List.mem_replicate.1 hc).2⟩

theorem eye_isEye (one : Cell) (n : Nat) : IsEye one n (eye one n) :=
  ⟨rfl, grid_length n n _, fun i j hi hj => flatten_const_getElem? n _ n i j hi hj⟩

/-- (any other two leading constructors make `monotone` false) -/
theorem monotone_cons_cons : ∀ (a b : Cell) (t : List Cell), monotone (a :: b :: t) = true →
    cellInt a ≤ cellInt b ∧ monotone (b :: t) = true
  | .num x, .num y, t, h => by
    rw [monotone, Bool.and_eq_true, decide_eq_true_eq] at h
    exact h

/-- (the index proofs are written out: found by the default tactic they cost more than the rest of the statement) -/
theorem monotone_cellInt : ∀ l : List Cell, monotone l = true →
    ∀ i (h : i + 1 < l.length), cellInt (l[i]'(Nat.lt_of_succ_lt h)) ≤ cellInt (l[i + 1]'h)
  | a :: b :: t, hm, i, h => by
    obtain ⟨h0, ht⟩ := monotone_cons_cons a b t hm
    cases i with
    | zero => exact h0
    | succ i => exact monotone_cellInt (b :: t) ht i (Nat.lt_of_succ_lt_succ h)
  | [_], _, i, h => absurd (Nat.lt_of_succ_lt_succ h) (Nat.not_lt_zero i)

theorem monotone_spec (l : List Int) : monotone (l.map Cell.num) = true ↔ NonDecreasing l := by
  constructor
  · intro h i hi
    have := monotone_cellInt _ h i ((List.length_map Cell.num).symm ▸ hi)
    rwa [List.getElem_map, List.getElem_map] at this
  · intro h
    induction l with
    | nil => rfl
    | cons a t ih =>
      cases t with
      | nil => rfl
      | cons b t' =>
        rw [List.map_cons, List.map_cons, monotone, Bool.and_eq_true, decide_eq_true_eq]
        exact ⟨h 0 (Nat.succ_lt_succ (Nat.succ_pos _)), ih fun i hi => h (i + 1) (Nat.succ_lt_succ hi)⟩

theorem load_monotone (inv : Arr → Arr) {one : Cell} (d : Dir) (v : View) (d' : Dir)
    (h : load inv d one = .ok (v, d')) : monotone v.times.arr.data = true := by
  obtain ⟨times, samples, st, sc, cm, pos, hv, -, htm, -⟩ := load_nf inv d v d' h
  rw [show v.times = times from congrArg View.times hv]
  rcases htm with ⟨s, -, rfl, -, hm⟩ | ⟨-, t, -, rfl, hm, -⟩ <;> exact hm

theorem timesVal_length (rate : Rat) (tden : Nat) (t : TimeSrc) :
    (timesVal rate tden t).length = t.arr.data.length := by
  cases t <;> exact List.length_map _

theorem div_mono (a b : Int) (q : Rat) (hq : 0 < q) (h : a ≤ b) : (a : Rat) / q ≤ (b : Rat) / q := by
  rw [Rat.div_def, Rat.div_def]
  exact Rat.mul_le_mul_of_nonneg_right (Rat.intCast_le_intCast.2 h) (Rat.le_of_lt (Rat.inv_pos.2 hq))

section Full
open PhyVerif.C01
variable {β : Type} (inv : Arr → Arr) (rate : Rat) (tden ncd : Nat) (one : Cell)
  (raw : Option (List (List (List β)))) (d : Dir) (fv : FullView β) (d' : Dir)

/-- what a successful `loadFull` returns, field by field (the steps `loadFull` adds to `load`) -/
structure FullSpec : Prop where
  base : load inv d one = .ok (fv.base, d')
  checks : ∀ c ∈ shapeChecks fv.base fv.templateCols fv.nSpikes fv.nChannels fv.nTemplates ncd, c.2 = true
  uncurated : fv.base.templates = none → fv.base.spikeClusters.data = fv.base.spikeTemplates.data
  nSpikes : fv.nSpikes = fv.base.times.arr.shape.headD 0
  nChannels : fv.nChannels = fv.base.channelMap.shape.headD 0
  nTemplates : fv.nTemplates = (match fv.base.templates with
    | some t => t.shape.headD 0
    | none => maxIdPlus1 fv.base.spikeTemplates)
  templateCols : fv.templateCols = fv.base.templateCols.map colsFix
  spikeSamples : fv.spikeSamples = samplesVal rate tden fv.base.samples
  spikeTimes : fv.spikeTimes = timesVal rate tden fv.base.times
  positions : fv.positions = (if positionsDistinct fv.base.channelPositions then Positions.file fv.base.channelPositions
    else .linear fv.nChannels)
  channelShanks : fv.channelShanks = fv.base.channelShanks.getD (zerosVec fv.nChannels)
  channelProbes : fv.channelProbes = fv.base.channelProbes.getD (zerosVec fv.nChannels)
  wm : fv.wm = fv.base.wm.getD (eye one fv.nChannels)
  wmi : fv.wmi = fv.base.wmi.getD (inv fv.wm)
  similar : fv.similar = fv.base.similar.getD (zerosMat fv.nTemplates fv.nTemplates)
  spikeAttributes : loadSpikeAttributes fv.nSpikes d' = .ok fv.spikeAttributes
  traces : fv.traces = loadTraces raw fv.base.channelMap
  nSamples : fv.nSamples = raw.map (fun parts => (C01.bounds parts).getLast?.getD 0)
  duration : fv.duration = (match fv.nSamples with
    | some n => (n : Rat) / rate
    | none => fv.spikeTimes.getLast?.getD 0)

theorem loadFull_nf (h : loadFull inv rate tden ncd one raw d = .ok (fv, d')) :
    FullSpec inv rate tden ncd one raw d fv d' := by
  unfold loadFull at h
  simp only [bind, Except.bind, pure, Except.pure, throw, throwThe, MonadExceptOf.throw] at h
  cases hl : load inv d one with
  | error e => rw [hl] at h; cases h
  | ok r =>
    obtain ⟨v, dd⟩ := r
    simp only [hl] at h
    split at h
    · cases h
    next hfind =>
    split at h
    · cases h
    next hcur =>
    split at h
    · cases h
    next attrs hattrs =>
    injection h with h
    injection h with h1 h2
    subst h1 h2
    refine ⟨hl, fun c hc => ?_, fun ht => ?_, rfl, rfl, rfl, rfl, rfl, rfl, rfl, rfl, rfl, rfl, rfl, rfl, hattrs,
      rfl, rfl, rfl⟩
    · simpa using List.find?_eq_none.1 hfind c hc
    · simpa [show v.templates = none from ht] using hcur

theorem loadFull_base (h : loadFull inv rate tden ncd one raw d = .ok (fv, d')) :
    load inv d one = .ok (fv.base, d') :=
  (loadFull_nf inv rate tden ncd one raw d fv d' h).base

theorem rowP_of_row {pats : List String} {tr : Arr → Arr} {Dflt : Arr → Prop} {val : Option Arr} {dflt : Arr}
    (hr : Row d pats tr val) (hd : Dflt dflt) : RowP d pats tr Dflt (val.getD dflt) := by
  rcases hr with ⟨f, a, hw, hl, rfl⟩ | ⟨ha, rfl⟩
  · exact .inl ⟨f, a, hw, hl, rfl⟩
  · exact .inr ⟨ha, hd⟩

theorem loadFull_defaults (h : loadFull inv rate tden ncd one raw d = .ok (fv, d')) :
    RowP d Attr.channelShanks.files Attr.channelShanks.transform (IsZeros [fv.nChannels]) fv.channelShanks ∧
    RowP d Attr.channelProbes.files Attr.channelProbes.transform (IsZeros [fv.nChannels]) fv.channelProbes ∧
    RowP d Attr.wm.files Attr.wm.transform (IsEye one fv.nChannels) fv.wm ∧
    RowP d Attr.similar.files Attr.similar.transform (IsZeros [fv.nTemplates, fv.nTemplates]) fv.similar := by
  have nf := loadFull_nf inv rate tden ncd one raw d fv d' h
  have hv := load_values inv d fv.base d' nf.base
  rw [nf.channelShanks, nf.channelProbes, nf.wm, nf.similar]
  have hvec := isZeros_replicate [fv.nChannels] _ (Nat.one_mul _).symm
  exact ⟨rowP_of_row d (hv .channelShanks) hvec, rowP_of_row d (hv .channelProbes) hvec,
    rowP_of_row d (hv .wm) (eye_isEye one _),
    rowP_of_row d (hv .similar) (isZeros_replicate [_, _] _ (congrArg (· * _) (Nat.one_mul _).symm))⟩

theorem loadFull_positions (h : loadFull inv rate tden ncd one raw d = .ok (fv, d')) :
    ExpectedPositions d fv.nChannels fv.positions := by
  have nf := loadFull_nf inv rate tden ncd one raw d fv d' h
  rcases load_values inv d fv.base d' nf.base .channelPositions with ⟨f, a, hw, hl, hval⟩ | ⟨-, hn⟩
  · simp only [View.attr, Option.some.injEq] at hval
    refine ⟨f, a, hw, hl, ?_⟩
    rw [nf.positions, hval]
    by_cases hdist : (arrRows (Attr.channelPositions.transform a)).Nodup
    · exact .inl ⟨hdist, by simp [positionsDistinct, hdist]⟩
    · exact .inr ⟨hdist, by simp [positionsDistinct, hdist]⟩
  · cases hn

theorem shape_of_headD_len3 (s : List Nat) (h : s.length = 3) : ∃ a b, s = [s.headD 0, a, b] := by
  match s, h with
  | [x, a, b], _ => exact ⟨a, b, rfl⟩

theorem getD_shape {o : Option Arr} {dflt : Arr} {s : List Nat} (ho : ∀ a, o = some a → a.shape = s)
    (hd : dflt.shape = s) : (o.getD dflt).shape = s := by
  cases o with
  | none => exact hd
  | some a => exact ho a rfl

theorem loadFull_shapes (h : loadFull inv rate tden ncd one raw d = .ok (fv, d')) :
    fv.base.times.arr.shape = [fv.nSpikes] ∧
    fv.base.samples.arr.shape.length = 1 ∧
    (∀ a, fv.base.amplitudes = some a → a.shape = [fv.nSpikes]) ∧
    fv.base.spikeTemplates.shape = [fv.nSpikes] ∧
    fv.base.spikeClusters.shape = [fv.nSpikes] ∧
    fv.base.channelMap.shape = [fv.nChannels] ∧
    (ncd ≠ 0 → ∀ c ∈ fv.base.channelMap.data, cellInt c ≤ (ncd : Int) - 1) ∧
    fv.base.channelPositions.shape = [fv.nChannels, 2] ∧
    fv.channelShanks.shape = [fv.nChannels] ∧
    fv.channelProbes.shape = [fv.nChannels] ∧
    (∀ t, fv.base.templates = some t → ∃ nsw nloc, t.shape = [fv.nTemplates, nsw, nloc] ∧
      ∀ c, fv.templateCols = some c → c.shape = [fv.nTemplates, nloc]) ∧
    fv.wm.shape = [fv.nChannels, fv.nChannels] ∧
    (∀ w, fv.base.wmi = some w → w.shape = [fv.nChannels, fv.nChannels]) ∧
    fv.similar.shape = [fv.nTemplates, fv.nTemplates] := by
  have nf := loadFull_nf inv rate tden ncd one raw d fv d' h
  have hc := nf.checks
  simp only [shapeChecks, List.forall_mem_cons, beq_iff_eq, Option.all_eq_true, Bool.or_eq_true, List.all_eq_true,
    decide_eq_true_eq] at hc
  obtain ⟨c1, c2, c3, c4, c5, c6, c7, c8, c9, c10, c11, c12, c13, c14, c15, -⟩ := hc
  refine ⟨c1, c2, c3, c4, c5, c6, fun hn => c7.resolve_left hn, c8, ?_, ?_, ?_, ?_, c14, ?_⟩
  · rw [nf.channelShanks]; exact getD_shape c9 rfl
  · rw [nf.channelProbes]; exact getD_shape c10 rfl
  · intro t ht
    obtain ⟨a, b, hab⟩ := shape_of_headD_len3 t.shape (c11 t ht)
    have hnt : fv.nTemplates = t.shape.headD 0 := by rw [nf.nTemplates, ht]
    refine ⟨a, b, by rw [hnt]; exact hab, ?_⟩
    intro c hcc
    rw [ht, hcc] at c12
    simp only [beq_iff_eq] at c12
    rw [c12, hab]
    rfl
  · rw [nf.wm]; exact getD_shape c13 rfl
  · rw [nf.similar]; exact getD_shape c15 rfl

theorem loadFull_times (h : loadFull inv rate tden ncd one raw d = .ok (fv, d')) :
    (∀ s, d.lookup "spike_times.npy" = some s →
      fv.spikeSamples = (scrub s).data.map cellInt ∧
      fv.spikeTimes = fv.spikeSamples.map fun (k : Int) => (k : Rat) / rate) ∧
    ("spike_times.npy" ∉ names d → ∃ f t, Wins d ["spikes.times*.npy"] f ∧ d.lookup f = some t ∧
      fv.spikeTimes = (scrub t).data.map (fun c => (cellInt c : Rat) / (tden : Rat)) ∧
      ((∃ g s, Wins d ["spikes.samples*.npy"] g ∧ d.lookup g = some s ∧
          fv.spikeSamples = (scrub s).data.map cellInt) ∨
       (Absent d ["spikes.samples*.npy"] ∧
          fv.spikeSamples = fv.spikeTimes.map fun x => roundHalfEven (x * rate)))) := by
  have nf := loadFull_nf inv rate tden ncd one raw d fv d' h
  rw [nf.spikeSamples, nf.spikeTimes]
  rcases load_times inv d fv.base d' nf.base with ⟨s, h1, h2, h3⟩ | ⟨h0, f, t, hw, hl, h2, h3⟩
  · refine ⟨?_, fun hn => nomatch h1.symm.trans (lookup_none_of_not_mem d _ hn)⟩
    intro s' hs'
    rw [h1] at hs'
    injection hs' with hs'
    subst hs'
    rw [h2, h3, samplesVal, timesVal, List.map_map]
    exact ⟨rfl, rfl⟩
  · refine ⟨fun s hs' => ?_, fun _ => ⟨f, t, hw, hl, ?_, ?_⟩⟩
    · exact nomatch hs'.symm.trans (lookup_none_of_not_mem d _ h0)
    · rw [h2]; rfl
    · rcases h3 with ⟨g, s, hg, hgl, h4⟩ | ⟨ha, h4⟩
      · exact .inl ⟨g, s, hg, hgl, by rw [h4]; rfl⟩
      · refine .inr ⟨ha, ?_⟩
        rw [h4, h2, samplesVal, timesVal, List.map_map]
        rfl

theorem loadFull_spike_attributes (h : loadFull inv rate tden ncd one raw d = .ok (fv, d')) (n : String) (x : Arr) :
    (n, x) ∈ fv.spikeAttributes ↔ IsSpikeAttr d fv.nSpikes n x := by
  have nf := loadFull_nf inv rate tden ncd one raw d fv d' h
  obtain ⟨a, w, hd', -⟩ := load_dir inv d fv.base d' nf.base
  rw [loadSpikeAttributes_mem fv.nSpikes d' fv.spikeAttributes nf.spikeAttributes n x, IsSpikeAttr, IsSpikeAttr,
    ← skipAttrs_eq]
  refine exists_congr fun y => and_congr_left fun hy => ?_
  rw [hd', List.mem_append, List.mem_append]
  refine ⟨fun hm => ?_, fun hm => .inl (.inl hm)⟩
  have hnc := attr_not_created n hy.1
  simp only [List.mem_ite_nil_right, List.mem_singleton, Prod.mk.injEq] at hm
  rcases hm with (hm | hm) | hm
  · exact hm
  · exact absurd (hm.2.1 ▸ List.mem_cons_self) hnc
  · exact absurd (hm.2.1 ▸ List.mem_cons_of_mem _ List.mem_cons_self) hnc

theorem loadFull_traces (parts : List (List (List β)))
    (h : loadFull inv rate tden ncd one (some parts) d = .ok (fv, d')) (hncd : ncd ≠ 0)
    (hrect : ∀ p ∈ parts, ∀ row ∈ p, row.length = ncd)
    (hnn : ∀ c ∈ fv.base.channelMap.data, 0 ≤ cellInt c) (it : Item)
    (hd : InDom parts.flatten.length it) :
    ∃ tr, fv.traces = some tr ∧
      tracesGet parts tr it =
        ((npRows parts.flatten it).map fun rows => rows.map fun row => Np.take row (chans fv.base.channelMap)) ∧
      (∀ c ∈ chans fv.base.channelMap, c < ncd) ∧
      ∀ rows, npRows parts.flatten it = some rows → ∀ row ∈ rows,
        (Np.take row (chans fv.base.channelMap)).length = (chans fv.base.channelMap).length ∧
        ∀ k (hk : k < (chans fv.base.channelMap).length),
          (Np.take row (chans fv.base.channelMap))[k]? = row[(chans fv.base.channelMap)[k]]? := by
  have htr := (loadFull_nf inv rate tden ncd one _ d fv d' h).traces
  obtain ⟨-, -, -, -, -, -, hle, -⟩ := loadFull_shapes inv rate tden ncd one _ d fv d' h
  have hnn' : ∀ i ∈ cmIdx fv.base.channelMap, 0 ≤ i := by
    intro i hi
    obtain ⟨c, hc, rfl⟩ := List.mem_map.1 hi
    exact hnn c hc
  have hlt : ∀ c ∈ chans fv.base.channelMap, c < ncd := by
    intro c hc
    simp only [chans, cmIdx, List.map_map, List.mem_map, Function.comp] at hc
    obtain ⟨cell, hcell, rfl⟩ := hc
    have h1 := hle hncd cell hcell
    have h2 := hnn cell hcell
    omega
  refine ⟨_, htr, traces_permuted parts fv.base.channelMap it _ rfl hnn' hd, hlt, ?_⟩
  intro rows hrows row hrow
  have hmem := npRows_mem parts.flatten it rows hrows row hrow
  obtain ⟨p, hp, hrp⟩ := List.mem_flatten.1 hmem
  have hlen := hrect p hp row hrp
  exact take_spec row _ (fun c hc => by rw [hlen]; exact hlt c hc)

theorem loadFull_duration (h : loadFull inv rate tden ncd one raw d = .ok (fv, d')) :
    (∀ parts, raw = some parts → fv.nSamples = some parts.flatten.length ∧
      fv.duration = (parts.flatten.length : Rat) / rate) ∧
    (raw = none → fv.nSamples = none ∧ fv.duration = fv.spikeTimes.getLast?.getD 0) := by
  have nf := loadFull_nf inv rate tden ncd one raw d fv d' h
  constructor
  · rintro parts rfl
    have : fv.nSamples = some parts.flatten.length := by
      rw [nf.nSamples, Option.map_some, C01.Lemmas.nSamples_eq parts]
      rfl
    exact ⟨this, by rw [nf.duration, this]⟩
  · rintro rfl
    have : fv.nSamples = none := nf.nSamples
    exact ⟨this, by rw [nf.duration, this]⟩

theorem timesVal_sorted (hr : 0 < rate) (htd : 0 < tden) (t : TimeSrc) (hm : monotone t.arr.data = true) :
    ∀ i (hi : i + 1 < (timesVal rate tden t).length),
      (timesVal rate tden t)[i]'(Nat.lt_of_succ_lt hi) ≤ (timesVal rate tden t)[i + 1]'hi := by
  intro i hi
  have hc := monotone_cellInt t.arr.data hm i (timesVal_length rate tden t ▸ hi)
  cases t with
  | samplesOverRate s =>
    simp only [timesVal, List.getElem_map]
    exact div_mono _ _ rate hr hc
  | stored s =>
    simp only [timesVal, List.getElem_map]
    exact div_mono _ _ tden (Rat.natCast_pos.2 htd) hc

theorem loadFull_times_sorted (h : loadFull inv rate tden ncd one raw d = .ok (fv, d'))
    (hr : 0 < rate) (htd : 0 < tden) :
    ∀ i (hi : i + 1 < fv.spikeTimes.length), fv.spikeTimes[i]'(Nat.lt_of_succ_lt hi) ≤ fv.spikeTimes[i + 1]'hi := by
  have nf := loadFull_nf inv rate tden ncd one raw d fv d' h
  rw [nf.spikeTimes]
  exact timesVal_sorted rate tden hr htd _ (load_monotone inv d fv.base d' nf.base)

end Full

end PhyVerif.C04.Lemmas
