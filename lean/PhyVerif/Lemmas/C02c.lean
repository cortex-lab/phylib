import PhyVerif.Model.C02c
import PhyVerif.Lemmas.C02
/-! Proofs about blocks handed out by `__getitem__` and modified by the caller (`Model/C02c.lean`). -/
namespace PhyVerif.C02.Lemmas
open PhyVerif PhyVerif.C01 PhyVerif.C02

variable {β : Type}

theorem getitem_eq_some (m : Mem β) (np : Nat) (ops : List (Op β)) (it : Item) (m' : Mem β) (a : Nat)
    (hg : getitem m np ops it = some (m', a)) :
    ∃ rows, getRows (m.parts np) it = some rows ∧ m' = ⟨m.arrays ++ [applyOps ops rows]⟩ ∧ a = m.arrays.length := by
  obtain ⟨rows, hr, he⟩ := Option.map_eq_some_iff.1 hg
  cases he
  exact ⟨rows, hr, rfl, rfl⟩

theorem getitem_block (h : Heap β) (m : Mem β) (np : Nat) (r : Nat) (it : Item) :
    (getitem m np (h.getD r []) it).map (fun p => p.1.block p.2) = eval h (m.parts np) r it := by
  unfold getitem eval
  cases getRows (m.parts np) it with
  | none => rfl
  | some rows => exact congrArg some (Np.Lemmas.getD_append_length _ _ _)

theorem getitem_fresh (m : Mem β) (np : Nat) (ops : List (Op β)) (it : Item) (m' : Mem β) (a : Nat)
    (hg : getitem m np ops it = some (m', a)) :
    a = m.arrays.length ∧ m'.arrays.take m.arrays.length = m.arrays := by
  obtain ⟨rows, _, rfl, rfl⟩ := getitem_eq_some m np ops it m' a hg
  simp

theorem getitem_block_fresh (h : Heap β) (m : Mem β) (np : Nat) (hnp : np ≤ m.arrays.length) (r : Nat)
    (hr : r < h.length) (it : Item) :
    (getitem m np h[r] it).map (fun p => p.1.block p.2) = eval h (m.parts np) r it ∧
    (m.parts np).length = np ∧
    ∀ m' a, getitem m np h[r] it = some (m', a) →
      a = m.arrays.length ∧ np ≤ a ∧ m'.arrays.length = a + 1 ∧
      m'.arrays.take m.arrays.length = m.arrays ∧ m'.parts np = m.parts np := by
  refine ⟨List.getElem_eq_getD (h := hr) [] ▸ getitem_block h m np r it, by simp [Mem.parts, hnp], fun m' a hg => ?_⟩
  obtain ⟨rows, _, rfl, rfl⟩ := getitem_eq_some m np _ it m' a hg
  refine ⟨rfl, hnp, by simp, by simp, ?_⟩
  simp only [Mem.parts]
  rw [List.take_append_of_le_length hnp]

/-- the block's address `m.arrays.length` lies outside the first `np` objects, hence `hnp` -/
theorem scribble_parts (m : Mem β) (np : Nat) (hnp : np ≤ m.arrays.length) (ops : List (Op β)) (it : Item)
    (m' : Mem β) (a : Nat) (hg : getitem m np ops it = some (m', a)) (f : List (List β) → List (List β)) :
    (scribble m' a f).parts np = m.parts np := by
  obtain ⟨rows, _, rfl, rfl⟩ := getitem_eq_some m np ops it m' a hg
  simp only [scribble, Mem.parts]
  rw [List.take_set_of_le hnp, List.take_append_of_le_length hnp]

end PhyVerif.C02.Lemmas
