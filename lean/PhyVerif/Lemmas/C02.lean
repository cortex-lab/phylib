import PhyVerif.Model.C02
import PhyVerif.Lemmas.C01
/-! Proofs for C02 (`Model/C02.lean`): deferred operations act row by row, so they commute with row selection; `derive`
appends one list to the heap. Statements: `Props/C02.lean`. -/
namespace PhyVerif.C02.Lemmas
open PhyVerif PhyVerif.C01 PhyVerif.C02

/-- the per-row function of one deferred operation -/
def opRow {β : Type} : Op β → List β → List β
  | .elem f => fun row => row.map f
  | .cols c => selCols c

/-- … and of a list of them -/
def rowFn {β : Type} : List (Op β) → List β → List β
  | [] => id
  | op :: ops => fun row => rowFn ops (opRow op row)

theorem applyOp_eq_map {β : Type} (op : Op β) (A : List (List β)) :
    applyOp op A = A.map (opRow op) := by
  cases op <;> rfl

theorem applyOps_eq_map {β : Type} (ops : List (Op β)) (A : List (List β)) :
    applyOps ops A = A.map (rowFn ops) := by
  induction ops generalizing A with
  | nil => exact (List.map_id A).symm
  | cons op ops ih =>
    show applyOps ops (applyOp op A) = _
    rw [ih, applyOp_eq_map, List.map_map]
    rfl

theorem take_map {α γ : Type} (g : α → γ) (A : List α) (idx : List Nat) :
    (Np.take A idx).map g = Np.take (A.map g) idx := by
  unfold Np.take
  rw [List.map_filterMap]
  congr 1
  funext i
  simp

/-- NumPy row selection commutes with any function applied row by row -/
theorem npRows_map {α γ : Type} (g : α → γ) (A : List α) (it : Item) :
    (npRows A it).map (List.map g) = npRows (A.map g) it := by
  cases it with
  | int i =>
    simp only [npRows, List.length_map]
    rw [apply_ite (Option.map (List.map g)), List.getElem?_map]
    cases A[(if i < 0 then i + (A.length : Int) else i).toNat]? <;> rfl
  | slice start stop =>
    simp only [npRows, List.length_map, Option.map_some, take_map]
  | list l =>
    simp only [npRows, List.length_map]
    rw [Np.Lemmas.mapM_option_map]
    congr 1
    funext i
    rw [apply_ite (Option.map g), List.getElem?_map]
    rfl

theorem applyOps_commutes_rows {β : Type} (ops : List (Op β)) (A : List (List β)) (it : Item) :
    (npRows A it).map (applyOps ops) = npRows (applyOps ops A) it := by
  have : applyOps ops = List.map (rowFn ops) := funext (applyOps_eq_map ops)
  rw [this, npRows_map]

/-! ### `derive`

The lemmas in `getD` form (`derive_ops'`, `derive_preserves_others`, `derivations_preserve`, `eval_eq_eager`,
`evalCols_eq_eager`) also answer a dangling address, with "no operations". The property theorems of these names are
stated with `h[r]` under `r < h.length` ("Reachability" in `Props/C02.lean`), so that none of them holds through the
default; they follow from the `_at` lemmas or by `List.getElem_eq_getD`. -/

/-- the three statements of `_append_op` append the parent's list, extended by `op`, at the next address -/
theorem derive_eq {β : Type} (h : Heap β) (r : Nat) (op : Op β) :
    derive h r op = (h ++ [h.getD r [] ++ [op]], h.length) := by
  simp [derive, List.getD_eq_getElem?_getD]

theorem derive_ops' {β : Type} (h : Heap β) (r : Nat) (op : Op β) :
    (derive h r op).1.getD (derive h r op).2 [] = h.getD r [] ++ [op] := by
  rw [derive_eq]
  exact Np.Lemmas.getD_append_length _ _ _

theorem derive_length {β : Type} (h : Heap β) (r : Nat) (op : Op β) :
    (derive h r op).1.length = h.length + 1 := by
  rw [derive_eq, List.length_append]
  rfl

theorem runDerivations_length {β : Type} (h : Heap β) (ds : List (Nat × Op β)) :
    (runDerivations h ds).length = h.length + ds.length := by
  induction ds generalizing h with
  | nil => rfl
  | cons d ds ih =>
    obtain ⟨r, op⟩ := d
    show (runDerivations (derive h r op).1 ds).length = _
    rw [ih, derive_length, List.length_cons]; omega

theorem derive_preserves_others_at {β : Type} (h : Heap β) (r : Nat) (op : Op β) (r' : Nat)
    (hr' : r' < h.length) :
    (derive h r op).1[r']? = some h[r'] := by
  rw [derive_eq, List.getElem?_append_left hr', List.getElem?_eq_getElem hr']

theorem derivations_preserve_at {β : Type} (h : Heap β) (ds : List (Nat × Op β)) (r' : Nat)
    (hr' : r' < h.length) :
    (runDerivations h ds)[r']? = some h[r'] := by
  induction ds generalizing h with
  | nil => exact List.getElem?_eq_getElem hr'
  | cons d ds ih =>
    obtain ⟨r, op⟩ := d
    have hlt : r' < (derive h r op).1.length := by rw [derive_length]; omega
    show (runDerivations (derive h r op).1 ds)[r']? = _
    rw [ih _ hlt, ← List.getElem?_eq_getElem hlt, derive_preserves_others_at h r op r' hr']

theorem derive_preserves_others {β : Type} (h : Heap β) (r : Nat) (op : Op β) (r' : Nat)
    (hr' : r' < h.length) :
    (derive h r op).1.getD r' [] = h.getD r' [] := by
  rw [derive_eq]
  exact Np.Lemmas.getD_append_left _ _ _ _ hr'

theorem derivations_preserve {β : Type} (h : Heap β) (ds : List (Nat × Op β)) (r' : Nat)
    (hr' : r' < h.length) :
    (runDerivations h ds).getD r' [] = h.getD r' [] := by
  rw [List.getD_eq_getElem?_getD, derivations_preserve_at h ds r' hr', ← List.getElem_eq_getD]
  rfl

theorem eval_eq_eager {β : Type} (h : Heap β) (parts : List (List (List β))) (r : Nat) (it : Item)
    (hd : InDom parts.flatten.length it) :
    eval h parts r it = npRows (applyOps (h.getD r []) parts.flatten) it := by
  unfold eval
  rw [PhyVerif.C01.Lemmas.getRows_eq_concat' parts it hd, applyOps_commutes_rows]

theorem evalCols_eq {β : Type} (h : Heap β) (parts : List (List (List β))) (r : Nat) (it : Item) (c : ColSel) :
    evalCols h parts r it c = (getRows parts it).map (applyOps (h.getD r [] ++ [.cols c])) := by
  unfold evalCols eval
  simp only
  rw [derive_ops']

theorem evalCols_eq_eager {β : Type} (h : Heap β) (parts : List (List (List β))) (r : Nat)
    (it : Item) (c : ColSel) (hd : InDom parts.flatten.length it) :
    evalCols h parts r it c =
      npRows (applyOps (h.getD r [] ++ [.cols c]) parts.flatten) it := by
  rw [evalCols_eq, PhyVerif.C01.Lemmas.getRows_eq_concat' parts it hd, applyOps_commutes_rows]

theorem derivations_preserve_eval {β : Type} (h : Heap β) (ds : List (Nat × Op β)) (parts : List (List (List β)))
    (r' : Nat) (hr' : r' < h.length) (it : Item) :
    eval (runDerivations h ds) parts r' it = eval h parts r' it := by
  unfold eval
  rw [derivations_preserve h ds r' hr']

theorem derivations_preserve_evalCols {β : Type} (h : Heap β) (ds : List (Nat × Op β)) (parts : List (List (List β)))
    (r' : Nat) (hr' : r' < h.length) (it : Item) (c : ColSel) :
    evalCols (runDerivations h ds) parts r' it c = evalCols h parts r' it c := by
  rw [evalCols_eq, evalCols_eq, derivations_preserve h ds r' hr']

end PhyVerif.C02.Lemmas
