import PhyVerif.Model.C10
import PhyVerif.Spec.C10
import PhyVerif.Lemmas.Np
/-! About `Model/C10.lean`: the assignment file a save and a load resolve, what each `step` leaves alone, the dict
`load_metadata` fills for one field, and the file `save_metadata` writes read back. -/
namespace PhyVerif.C10.Lemmas
open PhyVerif PhyVerif.C10
open PhyVerif.C18 (Cell)

variable {α : Type} [Zero α]

theorem findAssign_eq_or (l : List (CName × List Nat)) :
    findAssign l = (l.find? fun p => p.1.isNone).or (l.find? fun p => p.1.isSome) := by
  unfold findAssign
  cases l.find? (fun p => p.1.isNone) <;> rfl

theorem mem_writeAssign (name : CName) (sc : List Nat) (l : List (CName × List Nat)) (q : CName × List Nat) :
    q ∈ writeAssign name sc l → q = (name, sc) ∨ q ∈ l := by
  induction l with
  | nil => exact fun h => Or.inl (List.mem_singleton.1 h)
  | cons r rs ih =>
    intro h
    unfold writeAssign at h
    split at h
    · exact (List.mem_cons.1 h).imp_right (List.mem_cons_of_mem _)
    · rcases List.mem_cons.1 h with h | h
      · exact Or.inr (h ▸ List.mem_cons_self)
      · exact (ih h).imp_right (List.mem_cons_of_mem _)

theorem find_writeAssign_hit (P : CName → Bool) (sc : List Nat) (l : List (CName × List Nat))
    (p : CName × List Nat) (h : l.find? (fun q => P q.1) = some p) :
    (writeAssign p.1 sc l).find? (fun q => P q.1) = some (p.1, sc) := by
  induction l with
  | nil => cases h
  | cons q qs ih =>
    cases hq : P q.1 with
    | true =>
      simp only [List.find?_cons, hq] at h
      cases h
      simp [writeAssign, hq]
    | false =>
      simp only [List.find?_cons, hq] at h
      have hp : P p.1 = true := by simpa using List.find?_some h
      have hne : q.1 ≠ p.1 := fun e => by rw [e, hp] at hq; cases hq
      simp only [writeAssign, hne, if_false, List.find?_cons, hq]
      exact ih h

theorem find_writeAssign_miss (Q : CName → Bool) (name : CName) (hn : Q name = false) (sc : List Nat)
    (l : List (CName × List Nat)) (h : l.find? (fun q => Q q.1) = none) :
    (writeAssign name sc l).find? (fun q => Q q.1) = none :=
  List.find?_eq_none.2 fun q hq => by
    rcases mem_writeAssign name sc l q hq with rfl | hq
    · simp [hn]
    · exact List.find?_eq_none.1 h q hq

/-- the file the save resolves is the file the next load resolves -/
theorem findAssign_write (l : List (CName × List Nat)) (p : CName × List Nat) (sc : List Nat)
    (h : findAssign l = some p) : findAssign (writeAssign p.1 sc l) = some (p.1, sc) := by
  rw [findAssign_eq_or] at h ⊢
  cases h1 : l.find? (fun q => q.1.isNone) with
  | some p' =>
    rw [h1] at h
    cases h
    rw [find_writeAssign_hit (fun n => n.isNone) sc l _ h1]
    rfl
  | none =>
    rw [h1] at h
    have hp : p.1.isSome = true := by simpa using List.find?_some h
    have hn : p.1.isNone = false := by rw [← Option.not_isSome, hp]; rfl
    rw [find_writeAssign_miss (fun n => n.isNone) p.1 hn sc l h1]
    exact find_writeAssign_hit (fun n => n.isSome) sc l p h

/-- every name matches one of the two patterns -/
theorem findAssign_none (l : List (CName × List Nat)) (h : findAssign l = none) : l = [] := by
  cases l with
  | nil => rfl
  | cons q qs =>
    rw [findAssign_eq_or, Option.or_eq_none_iff] at h
    have a := List.find?_eq_none.1 h.1 q List.mem_cons_self
    have b := List.find?_eq_none.1 h.2 q List.mem_cons_self
    cases hq : q.1 <;> simp [hq] at a b

theorem findAssign_mem (l : List (CName × List Nat)) (p : CName × List Nat) (h : findAssign l = some p) :
    p ∈ l := by
  rw [findAssign_eq_or, Option.or_eq_some_iff] at h
  rcases h with h | ⟨_, h⟩ <;> exact List.mem_of_find?_eq_some h

/-- a write to an existing file adds no name, so no conflict between the two name patterns -/
theorem conflict_writeAssign (l : List (CName × List Nat)) (p : CName × List Nat) (hp : p ∈ l) (sc : List Nat) :
    Conflict (writeAssign p.1 sc l) → Conflict l := by
  have key : ∀ (P : CName → Prop), (∃ q ∈ writeAssign p.1 sc l, P q.1) → ∃ q ∈ l, P q.1 := by
    intro P ⟨q, hq, hP⟩
    rcases mem_writeAssign _ _ _ _ hq with rfl | hq
    · exact ⟨p, hp, hP⟩
    · exact ⟨q, hq, hP⟩
  exact fun ⟨a, b⟩ => ⟨key (fun n => n.isNone = true) a, key (fun n => n.isSome = true) b⟩

theorem lookup_writeAssign_ne (name n : CName) (sc : List Nat) (h : n ≠ name) (l : List (CName × List Nat)) :
    (writeAssign name sc l).lookup n = l.lookup n := by
  have hb : (n == name) = false := by simpa using h
  induction l with
  | nil => simp [writeAssign, List.lookup_cons, hb]
  | cons q qs ih =>
    obtain ⟨a, b⟩ := q
    by_cases e : a = name
    · subst e
      simp [writeAssign, List.lookup_cons, hb]
    · simp only [writeAssign, e, if_false, List.lookup_cons, ih]

theorem run_cons (render : Cell → String) (scale : α → α) (d : Disk α) (op : Op) (ops : List Op) :
    run render scale d (op :: ops) = run render scale (step render scale d op) ops := rfl

theorem run_append (render : Cell → String) (scale : α → α) (d : Disk α) (a b : List Op) :
    run render scale d (a ++ b) = run render scale (run render scale d a) b := List.foldl_append

theorem run_invariant (render : Cell → String) (scale : α → α) (I : Disk α → Prop) (P : Op → Prop)
    (hstep : ∀ d op, P op → I d → I (step render scale d op)) (ops : List Op) (d : Disk α)
    (hP : ∀ op ∈ ops, P op) (h : I d) : I (run render scale d ops) :=
  List.foldlRecOn ops _ h fun d hd op hop => hstep d op (hP op hop) hd

theorem step_saveClusters (render : Cell → String) (scale : α → α) (d : Disk α) (p : CName × List Nat)
    (h : findAssign d.assign = some p) (sc : List Nat) :
    step render scale d (.saveClusters sc) = { d with assign := writeAssign p.1 sc d.assign } := by
  simp only [step, h]

theorem step_reload_found (render : Cell → String) (scale : α → α) (d : Disk α)
    (h : (findAssign d.assign).isSome) : step render scale d .reload = d := by
  obtain ⟨p, hp⟩ := Option.isSome_iff_exists.1 h
  simp only [step, hp]

theorem step_reload_none (render : Cell → String) (scale : α → α) (d : Disk α) (h : findAssign d.assign = none) :
    step render scale d .reload = { d with assign := [(none, d.fixed.spikeTemplates)] } := by
  simp only [step, findAssign_none _ h]
  rfl

theorem step_fixed (render : Cell → String) (scale : α → α) (d : Disk α) (op : Op) :
    (step render scale d op).fixed = d.fixed := by
  cases op with
  | saveClusters _ | reload =>
    unfold step
    cases findAssign d.assign <;> rfl
  | saveSubset _ _ =>
    unfold step
    cases d.fixed.hasRaw <;> rfl
  | _ => rfl

theorem step_files (render : Cell → String) (scale : α → α) (d : Disk α) (op : Op)
    (h : match op with | .writeFile _ _ => False | .saveMeta _ _ => False | _ => True) :
    (step render scale d op).files = d.files := by
  cases op with
  | writeFile _ _ | saveMeta _ _ => exact h.elim
  | saveClusters _ | reload =>
    unfold step
    cases findAssign d.assign <;> rfl
  | saveSubset _ _ =>
    unfold step
    cases d.fixed.hasRaw <;> rfl
  | close => rfl

theorem step_subset (render : Cell → String) (scale : α → α) (d : Disk α) (op : Op)
    (h : match op with | .saveSubset _ _ => False | _ => True) :
    (step render scale d op).subset = d.subset := by
  cases op with
  | saveSubset _ _ => exact h.elim
  | saveClusters _ | reload =>
    unfold step
    cases findAssign d.assign <;> rfl
  | _ => rfl

theorem step_assign (render : Cell → String) (scale : α → α) (d : Disk α) (op : Op)
    (h : match op with | .saveClusters _ => False | .reload => False | _ => True) :
    (step render scale d op).assign = d.assign := by
  cases op with
  | saveClusters _ | reload => exact h.elim
  | saveSubset _ _ =>
    unfold step
    cases d.fixed.hasRaw <;> rfl
  | _ => rfl

theorem step_saveSubset (render : Cell → String) (scale : α → α) (d : Disk α) (sel : List Nat) (maxN : Nat) :
    (step render scale d (.saveSubset sel maxN)).subset =
      if d.fixed.hasRaw then some (C03.saveSubset scale d.fixed.raw d.fixed.chunks d.fixed.spikeSamples
        d.fixed.spikeTemplates d.fixed.orders sel d.fixed.nsw (C03.subsetWidth maxN d.fixed.nClosest))
      else d.subset := by
  unfold step
  cases d.fixed.hasRaw <;> rfl

theorem step_frame (render : Cell → String) (scale : α → α) (d : Disk α) (op : Op) (name : FName)
    (hs : match op with
      | .saveMeta field _ => name ≠ ("cluster_" ++ field, true)
      | .writeFile s _ => name ≠ s
      | _ => True) :
    (step render scale d op).files.lookup name = d.files.lookup name := by
  cases op with
  | saveMeta field m => exact Np.Lemmas.lookup_upsert_ne _ _ _ _ hs
  | writeFile s f => exact Np.Lemmas.lookup_upsert_ne _ _ _ _ hs
  | _ => rw [step_files render scale d _ trivial]

theorem step_writes_only (render : Cell → String) (scale : α → α) (d : Disk α) (op : Op) :
    (step render scale d op).fixed = d.fixed ∧
    (Target.subsetStore ∉ touched d op → (step render scale d op).subset = d.subset) ∧
    (∀ n, Target.assign n ∉ touched d op → (step render scale d op).assign.lookup n = d.assign.lookup n) ∧
    (∀ n, Target.table n ∉ touched d op → (step render scale d op).files.lookup n = d.files.lookup n) := by
  refine ⟨step_fixed render scale d op, fun hn => ?_, fun n hn => ?_, fun n hn => ?_⟩
  · cases op with
    | saveSubset sel maxN =>
      rw [step_saveSubset]
      cases h : d.fixed.hasRaw
      · rfl
      · exact absurd (by simp only [touched, h, if_true]; exact List.mem_cons_self) hn
    | _ => exact step_subset render scale d _ trivial
  · cases op with
    | saveClusters sc =>
      cases h : findAssign d.assign with
      | none => simp only [step, h]
      | some p =>
        rw [step_saveClusters render scale d p h]
        refine lookup_writeAssign_ne p.1 n sc (fun e => hn ?_) d.assign
        simp only [touched, h, e]
        exact List.mem_cons_self
    | reload =>
      cases h : findAssign d.assign with
      | some p => rw [step_reload_found render scale d (by rw [h]; rfl)]
      | none =>
        rw [step_reload_none render scale d h, findAssign_none _ h]
        cases n with
        | none => exact absurd (by simp only [touched, h]; exact List.mem_cons_self) hn
        | some x => rfl
    | _ => rw [step_assign render scale d _ trivial]
  · refine step_frame render scale d op n ?_
    cases op with
    | saveMeta field m => exact fun e => hn (e ▸ List.mem_cons_self)
    | writeFile s f => exact fun e => hn (e ▸ List.mem_cons_self)
    | _ => trivial

/-- `hfile`: the session was opened by a load, so there is an assignment file; it is part of what every step keeps -/
theorem shown_step (render : Cell → String) (scale : α → α) (d : Disk α) (fs : List (String × List (Nat × Cell)))
    (op : Op) (hfile : (findAssign d.assign).isSome) :
    shown (step render scale d op) = (absStep ⟨shown d, fs⟩ op).clusters ∧
    (findAssign (step render scale d op).assign).isSome ∧
    (¬ Conflict d.assign → ¬ Conflict (step render scale d op).assign) := by
  cases op with
  | saveClusters sc =>
    obtain ⟨p, hp⟩ := Option.isSome_iff_exists.1 hfile
    have hw := findAssign_write d.assign p sc hp
    rw [step_saveClusters render scale d p hp]
    exact ⟨by simp only [shown, hw, absStep], by rw [hw]; rfl,
      fun hnc hc => hnc (conflict_writeAssign _ p (findAssign_mem _ _ hp) sc hc)⟩
  | reload =>
    rw [step_reload_found render scale d hfile]
    exact ⟨rfl, hfile, id⟩
  | saveSubset sel maxN =>
    simp only [step]
    split <;> exact ⟨rfl, hfile, id⟩
  | _ => exact ⟨rfl, hfile, id⟩

theorem shown_run (render : Cell → String) (scale : α → α) (ops : List Op) : ∀ (d : Disk α)
    (fs : List (String × List (Nat × Cell))), (findAssign d.assign).isSome →
    shown (run render scale d ops) = (absRun ⟨shown d, fs⟩ ops).clusters ∧
    (findAssign (run render scale d ops).assign).isSome ∧
    (¬ Conflict d.assign → ¬ Conflict (run render scale d ops).assign) := by
  induction ops with
  | nil => exact fun _ _ h => ⟨rfl, h, id⟩
  | cons op ops ih =>
    intro d fs h
    obtain ⟨h1, h2, h3⟩ := shown_step render scale d fs op h
    obtain ⟨k1, k2, k3⟩ := ih (step render scale d op) (absStep ⟨shown d, fs⟩ op).fields h2
    refine ⟨?_, k2, fun hnc => k3 (h3 hnc)⟩
    rw [run_cons, k1, h1]
    rfl

theorem clusters_last_saved (render : Cell → String) (scale : α → α) (d : Disk α)
    (hfile : (findAssign d.assign).isSome) (ops : List Op) :
    shown (run render scale d ops) = (absRun ⟨shown d, []⟩ ops).clusters :=
  (shown_run render scale ops d [] hfile).1

theorem assign_stays_loadable (render : Cell → String) (scale : α → α) (d : Disk α)
    (hfile : (findAssign d.assign).isSome) (hnc : ¬ Conflict d.assign) (ops : List Op) :
    (findAssign (run render scale d ops).assign).isSome ∧ ¬ Conflict (run render scale d ops).assign :=
  ⟨(shown_run render scale ops d [] hfile).2.1, (shown_run render scale ops d [] hfile).2.2 hnc⟩

theorem absRun_clusters_ok (ns : Nat) (ops : List Op) (a : Abs) (h : AssignOK ns a.clusters) (hs : SavesOK ns ops) :
    AssignOK ns (absRun a ops).clusters :=
  List.foldlRecOn (motive := fun a => AssignOK ns a.clusters) ops absStep h fun a ha op hop => by
    cases op with
    | saveClusters sc => exact hs _ hop
    | _ => exact ha

/-- the load that opens a session, on ANY directory, also one where both name patterns match (`Conflict`: the real load
raises, this one is the identity); so absence of a conflict afterwards is claimed only where the load creates the file -/
theorem first_load (render : Cell → String) (scale : α → α) (d : Disk α) :
    (findAssign (step render scale d .reload).assign).isSome ∧
    shown (step render scale d .reload) = shown d ∧
    ((findAssign d.assign).isSome → step render scale d .reload = d) ∧
    (findAssign d.assign = none →
      (step render scale d .reload).assign = [(none, d.fixed.spikeTemplates)] ∧
      ¬ Conflict (step render scale d .reload).assign) ∧
    (step render scale d .reload).files = d.files ∧ (step render scale d .reload).subset = d.subset ∧
    (step render scale d .reload).fixed = d.fixed := by
  cases h : findAssign d.assign with
  | some p =>
    have hfile : (findAssign d.assign).isSome := by rw [h]; rfl
    rw [step_reload_found render scale d hfile]
    exact ⟨hfile, rfl, fun _ => rfl, nofun, rfl, rfl, rfl⟩
  | none =>
    rw [step_reload_none render scale d h]
    refine ⟨rfl, ?_, nofun, fun _ => ⟨rfl, ?_⟩, rfl, rfl, rfl⟩
    · simp only [shown, h]
      rfl
    · intro ⟨_, q, hq, hs⟩
      cases List.mem_singleton.1 hq
      cases hs

/-- a file the loader passes over can be written or removed without changing what a load shows -/
theorem metadataView_putFile_skipped (parse : String → Cell) (fnum : Nat → Option Int) (files : List (FName × File))
    (name : FName) (f : File) (h : ∀ acc, viewStep parse fnum acc (name, f) = acc) :
    metadataView parse fnum (putFile files name f) = metadataView parse fnum (files.filter fun p => p.1 != name) := by
  obtain ⟨s, b⟩ := name
  cases b <;> simp [metadataView, metadataViewIn, putFile, List.foldl_append, List.filter_append, h]

theorem unreadable_ignored (parse : String → Cell) (fnum : Nat → Option Int) (files : List (FName × File)) (name : FName) :
    metadataView parse fnum (putFile files name .unreadable) =
      metadataView parse fnum (files.filter fun p => p.1 != name) :=
  metadataView_putFile_skipped parse fnum files name _ fun acc => by
    unfold viewStep
    split <;> rfl

theorem cluster_info_excluded (parse : String → Cell) (fnum : Nat → Option Int) (files : List (FName × File)) (tsv : Bool) (f : File) :
    metadataView parse fnum (putFile files ("cluster_info", tsv) f) =
      metadataView parse fnum (files.filter fun p => p.1 != ("cluster_info", tsv)) :=
  metadataView_putFile_skipped parse fnum files _ f fun _ => if_pos (beq_self_eq_true _)

theorem dictSet_append (fnum : Nat → Option Int) (k v : Cell) (d : List (Cell × Cell))
    (h : ∀ q ∈ d, keyOf fnum q.1 ≠ keyOf fnum k) : dictSet fnum k v d = d ++ [(k, v)] := by
  induction d with
  | nil => rfl
  | cons q qs ih =>
    have hq := h q List.mem_cons_self
    simp only [dictSet, hq, if_false, List.cons_append, ih fun r hr => h r (List.mem_cons_of_mem _ hr)]

theorem foldl_dictSet_distinct (fnum : Nat → Option Int) (rows : List (Cell × Cell)) : ∀ acc : List (Cell × Cell),
    (acc ++ rows).Pairwise (fun a b => keyOf fnum a.1 ≠ keyOf fnum b.1) →
    rows.foldl (fun d r => dictSet fnum r.1 r.2 d) acc = acc ++ rows := by
  induction rows with
  | nil => exact fun acc _ => (List.append_nil acc).symm
  | cons r rs ih =>
    obtain ⟨k, v⟩ := r
    intro acc h
    have hk : ∀ q ∈ acc, keyOf fnum q.1 ≠ keyOf fnum k := fun q hq =>
      (List.pairwise_append.1 h).2.2 q hq _ List.mem_cons_self
    rw [List.foldl_cons, dictSet_append fnum k v acc hk, ih _ (by rwa [List.append_assoc]), List.append_assoc]
    rfl

/-- `d[k] = v` then `d.get(κ)`: the class of `k` now shows `v` under the key object it had before (or `k` when new);
every other class is untouched -/
theorem dictGet_dictSet (fnum : Nat → Option Int) (k v : Cell) (κ : Key) (d : List (Cell × Cell)) :
    dictGet fnum (dictSet fnum k v d) κ =
      if keyOf fnum k == κ then some (((dictGet fnum d κ).map (·.1)).getD k, v) else dictGet fnum d κ := by
  induction d with
  | nil =>
    simp only [dictSet, dictGet, List.find?_cons, List.find?_nil]
    cases keyOf fnum k == κ <;> rfl
  | cons q qs ih =>
    unfold dictSet
    split
    · next hq =>
      simp only [dictGet, List.find?_cons, hq]
      cases keyOf fnum k == κ <;> rfl
    · next hq =>
      simp only [dictGet, List.find?_cons]
      cases hqκ : keyOf fnum q.1 == κ
      · exact ih
      · rw [beq_false_of_ne fun e => hq ((eq_of_beq hqκ).trans e.symm)]
        rfl

theorem mem_keys_dictSet (fnum : Nat → Option Int) (k v : Cell) (κ : Key) (d : List (Cell × Cell)) :
    κ ∈ (dictSet fnum k v d).map (fun q => keyOf fnum q.1) →
      κ = keyOf fnum k ∨ κ ∈ d.map fun q => keyOf fnum q.1 := by
  induction d with
  | nil => exact fun h => Or.inl (List.mem_singleton.1 h)
  | cons q qs ih =>
    unfold dictSet
    split
    · next hq =>
      intro h
      rcases List.mem_cons.1 h with e | e
      · exact Or.inl (e.trans hq)
      · exact Or.inr (List.mem_cons_of_mem _ e)
    · intro h
      rcases List.mem_cons.1 h with e | e
      · exact Or.inr (e ▸ List.mem_cons_self)
      · exact (ih e).imp_right (List.mem_cons_of_mem _)

/-- the ids of a dict are pairwise different AS KEYS (the Python dict invariant) -/
theorem dictSet_nodup (fnum : Nat → Option Int) (k v : Cell) (d : List (Cell × Cell))
    (h : (d.map fun q => keyOf fnum q.1).Nodup) : ((dictSet fnum k v d).map fun q => keyOf fnum q.1).Nodup := by
  induction d with
  | nil => exact List.pairwise_singleton _ _
  | cons q qs ih =>
    rw [List.map_cons, List.nodup_cons] at h
    unfold dictSet
    split
    · exact List.nodup_cons.2 h
    · next hq =>
      exact List.nodup_cons.2 ⟨fun hm => (mem_keys_dictSet fnum k v _ qs hm).elim hq h.1, ih h.2⟩

theorem foldl_dictSet_nodup (fnum : Nat → Option Int) (rows acc : List (Cell × Cell))
    (h : (acc.map fun q => keyOf fnum q.1).Nodup) :
    ((rows.foldl (fun d r => dictSet fnum r.1 r.2 d) acc).map fun q => keyOf fnum q.1).Nodup :=
  List.foldlRecOn (motive := fun d : List (Cell × Cell) => (d.map fun q => keyOf fnum q.1).Nodup) rows _ h
    fun d hd r _ => dictSet_nodup fnum r.1 r.2 d hd

/-- a dict filled row by row (`rows`: parsed id, parsed value): for every key class, the VALUE is the one of the last
row of that class and the KEY object the one of the first row of that class (or what the dict held before) -/
theorem dictGet_foldl (fnum : Nat → Option Int) (κ : Key) (rows : List (Cell × Cell)) :
    ∀ (acc : List (Cell × Cell)),
      (dictGet fnum (rows.foldl (fun d r => dictSet fnum r.1 r.2 d) acc) κ).map (·.2) =
        ((rows.reverse.find? fun r => keyOf fnum r.1 == κ).map (·.2)).or ((dictGet fnum acc κ).map (·.2)) ∧
      (dictGet fnum (rows.foldl (fun d r => dictSet fnum r.1 r.2 d) acc) κ).map (·.1) =
        ((dictGet fnum acc κ).map (·.1)).or ((rows.find? fun r => keyOf fnum r.1 == κ).map (·.1)) := by
  induction rows with
  | nil => simp
  | cons r rows ih =>
    intro acc
    obtain ⟨i1, i2⟩ := ih (dictSet fnum r.1 r.2 acc)
    rw [List.foldl_cons, i1, i2, dictGet_dictSet, List.reverse_cons, List.find?_append]
    cases h : keyOf fnum r.1 == κ
    · simp only [List.find?_cons, h, List.find?_nil, Option.or_none, Bool.false_eq_true, if_false, and_self]
    · simp only [List.find?_cons, h, if_true]
      exact ⟨by cases rows.reverse.find? _ <;> rfl, by cases dictGet fnum acc κ <;> rfl⟩

/-- the per-row update of `loadMetadata` -/
def rowStep (parse : String → Cell) (fnum : Nat → Option Int) (out : List (String × List (Cell × Cell)))
    (row : List (String × String)) : List (String × List (Cell × Cell)) :=
  match row.reverse.lookup "cluster_id" with
  | none => out
  | some cid =>
    (row.filter fun p => p.1 != "cluster_id").foldl (fun out2 p =>
      let old := (out2.lookup p.1).getD []
      (out2.filter fun q => q.1 != p.1) ++ [(p.1, dictSet fnum (parse cid) (parse p.2) old)]) out

theorem loadMetadata_table (parse : String → Cell) (fnum : Nat → Option Int) (header : List String)
    (rows : List (List String)) :
    loadMetadata parse fnum (.table header rows) =
      some ((rows.map fun r => ((header.zip r).filter fun p => p.2 != "")).foldl (rowStep parse fnum) []) := rfl

/-- the update a row of a two-column table performs: `out[f][k] = v` -/
theorem rowStep_two (parse : String → Cell) (fnum : Nat → Option Int)
    (f : String) (hf : f ≠ "cluster_id") (out : List (String × List (Cell × Cell))) (c v : String)
    (hc : c ≠ "") (hv : v ≠ "") :
    rowStep parse fnum out ((["cluster_id", f].zip [c, v]).filter fun p => p.2 != "") =
      (out.filter fun q => q.1 != f) ++ [(f, dictSet fnum (parse c) (parse v) ((out.lookup f).getD []))] := by
  have hfb : ("cluster_id" == f) = false := by simpa using fun h => hf h.symm
  simp [rowStep, hc, hv, hf, hfb, List.lookup_cons]

theorem foldl_rowStep_two (parse : String → Cell) (fnum : Nat → Option Int) (f : String) (hf : f ≠ "cluster_id")
    (rows : List (String × String)) (hne : ∀ r ∈ rows, r.1 ≠ "" ∧ r.2 ≠ "") : ∀ D : List (Cell × Cell),
    rows.foldl (fun out r => rowStep parse fnum out ((["cluster_id", f].zip [r.1, r.2]).filter fun p => p.2 != ""))
        [(f, D)] =
      [(f, (rows.map fun r => (parse r.1, parse r.2)).foldl (fun d r => dictSet fnum r.1 r.2 d) D)] := by
  induction rows with
  | nil => exact fun _ => rfl
  | cons r rs ih =>
    intro D
    have h := hne r List.mem_cons_self
    rw [List.foldl_cons, rowStep_two parse fnum f hf _ r.1 r.2 h.1 h.2, List.map_cons, List.foldl_cons,
      ← ih fun r' hr' => hne r' (List.mem_cons_of_mem _ hr')]
    simp only [List.filter, bne_self_eq_false, List.lookup_cons_self, Option.getD_some, List.nil_append]

/-- the field of a two-column file is the dict filled row by row, so `dictGet_foldl` says which row's value and which
row's key a reload shows -/
theorem loadMetadata_two_columns (parse : String → Cell) (fnum : Nat → Option Int)
    (f : String) (hf : f ≠ "cluster_id") (rows : List (String × String))
    (hne : ∀ r ∈ rows, r.1 ≠ "" ∧ r.2 ≠ "") :
    loadMetadata parse fnum (.table ["cluster_id", f] (rows.map fun r => [r.1, r.2])) =
      some (if rows = [] then [] else
        [(f, (rows.map fun r => (parse r.1, parse r.2)).foldl (fun d r => dictSet fnum r.1 r.2 d) [])]) := by
  simp only [loadMetadata_table, List.foldl_map]
  cases rows with
  | nil => rfl
  | cons r rs =>
    have h := hne r List.mem_cons_self
    rw [if_neg (List.cons_ne_nil _ _), List.foldl_cons, rowStep_two parse fnum f hf [] r.1 r.2 h.1 h.2]
    refine congrArg some ((foldl_rowStep_two parse fnum f hf rs (fun r' hr' => hne r' (List.mem_cons_of_mem _ hr'))
      (dictSet fnum (parse r.1) (parse r.2) [])).trans ?_)
    rw [List.foldl_map]
    rfl

def Sorted (l : List (Nat × Cell)) : Prop := l.Pairwise (fun a b => a.1 < b.1)

/-- the file `save_metadata` writes reads back as the saved mapping; the codec hypotheses are about the saved cells
only (`str` / `_try_make_number` satisfy them for integers, floats and strings that are not numerals) -/
theorem loadMetadata_simpleTable (render : Cell → String) (parse : String → Cell) (fnum : Nat → Option Int)
    (f : String) (hf : f ≠ "cluster_id") (data : List (Nat × Cell))
    (hrt : ∀ p ∈ data, parse (render p.2) = p.2) (hne : ∀ p ∈ data, render p.2 ≠ "")
    (hid : ∀ n : Nat, parse (toString n) = .int n)
    (hs : Sorted data) :
    loadMetadata parse fnum (simpleTable render f data) =
      some (if data = [] then [] else [(f, data.map fun p => (Cell.int p.1, p.2))]) := by
  have hrows : (data.map fun p => [toString p.1, render p.2]) =
      ((data.map fun p => (toString p.1, render p.2)).map fun r => [r.1, r.2]) := by
    rw [List.map_map]; rfl
  have hmap : (data.map fun p => (toString p.1, render p.2)).map (fun r => (parse r.1, parse r.2)) =
      data.map fun p => (Cell.int p.1, p.2) := by
    rw [List.map_map]
    exact List.map_congr_left fun q hq => by simp only [Function.comp, hid, hrt q hq]
  have hkeys : (data.map fun p : Nat × Cell => (Cell.int p.1, p.2)).Pairwise
      (fun a b => keyOf fnum a.1 ≠ keyOf fnum b.1) := by
    rw [List.pairwise_map]
    exact List.Pairwise.imp (fun h => by simp only [keyOf, ne_eq, Key.num.injEq]; omega) hs
  unfold simpleTable
  rw [hrows, loadMetadata_two_columns parse fnum f hf, hmap, foldl_dictSet_distinct fnum _ [] hkeys]
  · simp
  · intro r hr
    obtain ⟨p, hp, rfl⟩ := List.mem_map.1 hr
    exact ⟨by simp, hne p hp⟩

theorem mem_insertById (x q : Nat × Cell) (l : List (Nat × Cell)) :
    q ∈ insertById x l → q = x ∨ q ∈ l := by
  induction l with
  | nil => exact fun h => Or.inl (List.mem_singleton.1 h)
  | cons y ys ih =>
    unfold insertById
    split
    · exact List.mem_cons.1
    · split
      · exact fun h => (List.mem_cons.1 h).imp_right (List.mem_cons_of_mem _)
      · intro h
        rcases List.mem_cons.1 h with rfl | h
        · exact Or.inr List.mem_cons_self
        · exact (ih h).imp_right (List.mem_cons_of_mem _)

theorem sorted_insertById (x : Nat × Cell) (l : List (Nat × Cell)) (h : Sorted l) :
    Sorted (insertById x l) := by
  induction l with
  | nil => exact List.pairwise_singleton _ _
  | cons y ys ih =>
    obtain ⟨hy, hys⟩ := List.pairwise_cons.1 h
    unfold insertById
    split
    · next hlt =>
      refine List.pairwise_cons.2 ⟨fun q hq => ?_, h⟩
      rcases List.mem_cons.1 hq with rfl | hq
      · exact hlt
      · exact Nat.lt_trans hlt (hy q hq)
    · split
      · next heq => exact List.pairwise_cons.2 ⟨fun q hq => heq ▸ hy q hq, hys⟩
      · next hnlt hne =>
        refine List.pairwise_cons.2 ⟨fun q hq => ?_, ih hys⟩
        rcases mem_insertById x q ys hq with rfl | hq
        · omega
        · exact hy q hq

theorem sorted_cleanMeta (m : List (Nat × Option Cell)) : Sorted (cleanMeta m) :=
  List.foldlRecOn (motive := Sorted) m _ List.Pairwise.nil fun acc h p _ => by
    split
    · exact sorted_insertById _ _ h
    · exact List.Pairwise.filter _ h

theorem stem_beq (a b : String) : ("cluster_" ++ a == "cluster_" ++ b) = (a == b) := by
  rw [Bool.eq_iff_iff]
  simp only [beq_iff_eq]
  exact String.append_right_inj _

theorem name_bne (a b : String) :
    ((("cluster_" ++ a, true) : FName) != ("cluster_" ++ b, true)) = (a != b) := by
  rw [Bool.eq_iff_iff]
  simp only [bne_iff_ne, ne_eq, Prod.mk.injEq, and_true]
  rw [String.append_right_inj]

/-! ### a file says nothing about a field that is not in its header -/

theorem rowStep_names (parse : String → Cell) (fnum : Nat → Option Int) (S : String → Prop)
    (out : List (String × List (Cell × Cell))) (row : List (String × String))
    (hout : ∀ fd ∈ out, S fd.1) (hrow : ∀ p ∈ row, S p.1) :
    ∀ fd ∈ rowStep parse fnum out row, S fd.1 := by
  unfold rowStep
  split
  · exact hout
  · refine List.foldlRecOn (motive := fun out : List (String × List (Cell × Cell)) => ∀ fd ∈ out, S fd.1) _ _ hout
      fun out hout c hc fd hfd => ?_
    rcases List.mem_append.1 hfd with h | h
    · exact hout fd (List.mem_filter.1 h).1
    · cases List.mem_singleton.1 h
      exact hrow c (List.mem_filter.1 hc).1

theorem loadMetadata_names (parse : String → Cell) (fnum : Nat → Option Int) (header : List String)
    (rows : List (List String)) (fields : List (String × List (Cell × Cell)))
    (h : loadMetadata parse fnum (.table header rows) = some fields) : ∀ fd ∈ fields, fd.1 ∈ header := by
  cases h
  refine List.foldlRecOn (motive := fun out : List (String × List (Cell × Cell)) => ∀ fd ∈ out, fd.1 ∈ header) _ _
    (fun _ h => nomatch h) fun out hout r hr => ?_
  refine rowStep_names parse fnum (· ∈ header) out r hout fun p hp => ?_
  obtain ⟨r0, _, rfl⟩ := List.mem_map.1 hr
  exact (List.of_mem_zip (List.mem_filter.1 hp).1).1

theorem fileField_none_of_header (parse : String → Cell) (fnum : Nat → Option Int) (field : String)
    (name : FName) (header : List String) (rows : List (List String)) (h : field ∉ header) :
    fileField parse fnum field (name, .table header rows) = none := by
  unfold fileField
  split
  · rfl
  · cases hl : loadMetadata parse fnum (.table header rows) with
    | none => rfl
    | some fields =>
      simp only [Option.bind_some]
      refine List.lookup_eq_none_iff.2 fun p hp => bne_iff_ne.2 fun e => h ?_
      rw [e]
      exact loadMetadata_names parse fnum header rows fields hl p (List.mem_reverse.1 hp)

end PhyVerif.C10.Lemmas
