import PhyVerif.Model.C15c
import PhyVerif.Spec.C15b
import PhyVerif.Lemmas.C15
import PhyVerif.Lemmas.C07
/-!
Proofs for the second part of C15 (`Model/C15b.lean`).  The loop on the flat count array adds to cell `ravelN e` what the
event list of `Model/C15.lean` holds of `e` (`loopArr_spec`).  The last section is the whole call once its three integers
(samples, bin, number of bins) are known: `correlogramsOfInts` of `Model/C15c.lean`, shared by the exact and the rounded
conversions.  Statements: `Props/C15.lean`.
-/
namespace PhyVerif.C15.Lemmas
open PhyVerif PhyVerif.C15

/-! ### firing rate with its factor -/

theorem firing_rate_eq (sc : List Int) (ids : List Nat) (bin : Rat) (dur : Option Rat)
    (hdom : InDom sc ids) (hb : 0 < bin) :
    firingRate sc (some ids) bin dur = some (specFiringRate sc ids bin dur) := by
  unfold firingRate
  rw [if_neg (not_not_intro hb)]
  simp only [idsOr, firing_outer sc ids hdom, specFiring, specFiringRate, List.map_map, Function.comp_def]

theorem firing_zero_of_empty (sc : List Int) (ids : List Nat) (bin : Rat) (dur : Option Rat)
    (i : Nat) (hi : i < ids.length) (he : Int.ofNat (ids.getD i 0) ∉ sc) (j : Nat) (hj : j < ids.length) :
    ((specFiringRate sc ids bin dur).getD i []).getD j 0 = 0 ∧
    ((specFiringRate sc ids bin dur).getD j []).getD i 0 = 0 := by
  have h0 : sc.count (Int.ofNat (ids.getD i 0)) = 0 := List.count_eq_zero.mpr he
  unfold specFiringRate
  rw [Np.Lemmas.getD_map_of_lt _ ids i 0 [] hi, Np.Lemmas.getD_map_of_lt _ ids j 0 0 hj,
    Np.Lemmas.getD_map_of_lt _ ids j 0 [] hj, Np.Lemmas.getD_map_of_lt _ ids i 0 0 hi, h0, Nat.mul_zero, Nat.zero_mul]
  exact ⟨Rat.zero_mul _, Rat.zero_mul _⟩

/-! ### `cluster_ids=None` -/

theorem unique_inDom (sc : List Int) (h : ∀ c ∈ sc, 0 ≤ c) : InDom sc (Np.unique sc) := by
  obtain ⟨h1, h2⟩ := C07.Lemmas.unique_spec sc
  refine ⟨h1.imp Nat.ne_of_lt, fun c hc => ⟨h c hc, (h2 c.toNat).mpr ?_⟩⟩
  show ((c.toNat : Nat) : Int) ∈ sc
  rwa [Int.toNat_of_nonneg (h c hc)]

/-! ### the helpers `_increment`, `_diff_shifted`, `_create_correlograms_array` -/

theorem bincount_length_le (idx : List Nat) (n : Nat) (h : ∀ i ∈ idx, i < n) : (Np.bincount idx).length ≤ n := by
  unfold Np.bincount
  rw [List.length_map, List.length_range, Nat.zero_max]
  exact (C07.Lemmas.bincount_bound_le_iff idx n).2 h

theorem bincount_getD (idx : List Nat) (p : Nat) : (Np.bincount idx).getD p 0 = idx.count p := by
  unfold Np.bincount
  rw [Nat.zero_max]
  have hM := (C07.Lemmas.bincount_bound_le_iff idx _).1 (Nat.le_refl _)
  generalize (if idx.isEmpty then 0 else idx.foldl max 0 + 1) = M at hM ⊢
  by_cases hp : p < M
  · exact Np.Lemmas.getD_map_range _ M p 0 hp
  · rw [Np.Lemmas.getD_of_le _ _ _ (by rw [List.length_map, List.length_range]; exact Nat.le_of_not_lt hp),
      List.count_eq_zero.mpr fun hmem => hp (hM p hmem)]

/-- `arr[:len(bb)] += bb`, entry by entry -/
theorem getD_add_prefix (arr bb : List Nat) (h : bb.length ≤ arr.length) (p : Nat) :
    (List.zipWith (· + ·) (arr.take bb.length) bb ++ arr.drop bb.length).getD p 0 = arr.getD p 0 + bb.getD p 0 := by
  induction bb generalizing arr p with
  | nil => simp
  | cons b bs ih =>
    cases arr with
    | nil => simp at h
    | cons a as =>
      simp only [List.length_cons, List.take_succ_cons, List.zipWith_cons_cons, List.cons_append,
        List.drop_succ_cons]
      cases p with
      | zero => rfl
      | succ p => exact ih as (Nat.le_of_succ_le_succ h) p

theorem increment_spec (arr idx : List Nat) (h : ∀ i ∈ idx, i < arr.length) :
    ∃ r, increment arr idx = some r ∧ r.length = arr.length ∧
      ∀ p, r.getD p 0 = arr.getD p 0 + idx.count p := by
  have hlen := bincount_length_le idx arr.length h
  unfold increment
  rw [if_pos hlen]
  refine ⟨_, rfl, ?_, fun p => by rw [getD_add_prefix _ _ hlen, bincount_getD]⟩
  rw [List.length_append, List.length_zipWith, List.length_take, List.length_drop, Nat.min_eq_left hlen, Nat.min_self,
    Nat.add_sub_cancel' hlen]

theorem diffShifted_spec (arr : List Int) (s : Nat) (hs : s ≤ arr.length) :
    ∃ d, diffShifted arr s = some d ∧ d.length = arr.length - s ∧
      ∀ a, a < arr.length - s → d.getD a 0 = arr.getD (a + s) 0 - arr.getD a 0 := by
  have hlen : (List.zipWith (· - ·) (arr.drop s) (arr.take (arr.length - s))).length = arr.length - s := by
    rw [List.length_zipWith, List.length_drop, List.length_take, Nat.min_eq_left (Nat.sub_le _ _), Nat.min_self]
  unfold diffShifted
  rw [if_pos hs]
  refine ⟨_, rfl, hlen, fun a ha => ?_⟩
  rw [Nat.add_comm a s, Np.Lemmas.getD_of_lt _ a 0 (hlen.symm ▸ ha), List.getElem_zipWith, List.getElem_drop,
    List.getElem_take, Np.Lemmas.getD_of_lt arr (s + a) 0 (Nat.add_lt_of_lt_sub' ha),
    Np.Lemmas.getD_of_lt arr a 0 (Nat.lt_of_lt_of_le ha (Nat.sub_le _ _))]

theorem createArray_shape (nc : Nat) (w : Int) :
    Shape3 (createArray nc w) nc ((w / 2).toNat + 1) ∧
    ∀ i j k, get3 (createArray nc w) i j k = 0 := by
  refine ⟨⟨List.length_replicate, fun row hrow => ?_⟩, fun i j k => ?_⟩
  · rw [List.eq_of_mem_replicate hrow]
    exact ⟨List.length_replicate, fun v hv => by rw [List.eq_of_mem_replicate hv, List.length_replicate]⟩
  · -- outside the array a level reads `[]`, whose entries read 0 as well
    unfold get3 createArray
    rw [Np.Lemmas.getD_replicate]
    split
    · rw [Np.Lemmas.getD_replicate]
      split
      · rw [Np.Lemmas.getD_replicate, ite_self]
      · rfl
    · rfl

/-! ### float → integer conversions -/

theorem clipLo_pos : 0 < clipLo := by
  unfold clipLo
  rw [Rat.lt_div_iff (by decide), Rat.zero_mul]
  decide

theorem clip_id (x lo hi : Rat) (h1 : lo ≤ x) (h2 : x ≤ hi) : clip x lo hi = x := by
  unfold clip
  rw [if_neg (Rat.not_lt.mpr h1), if_neg (Rat.not_lt.mpr h2)]

theorem truncInt_eq_floor (q : Rat) (h : 0 ≤ q) : truncInt q = q.floor := by simp [truncInt, h]

theorem floor_nonneg (q : Rat) (h : 0 ≤ q) : 0 ≤ q.floor :=
  Rat.le_floor_iff.2 (by simpa using h)

theorem truncInt_intCast (z : Int) : truncInt (z : Rat) = z := by
  unfold truncInt
  split
  · exact Rat.floor_intCast z
  · rw [← Rat.intCast_neg, Rat.floor_intCast, Int.neg_neg]

/-- the half window back from the odd number of bins -/
theorem odd_ediv_two (h : Int) : (2 * h + 1) / 2 = h := by
  rw [Int.add_comm, Int.add_mul_ediv_left _ _ (by decide), show (1 : Int) / 2 = 0 from rfl, Int.zero_add]

theorem floor_intdiv (z B : Int) (hB : 0 < B) : ((z : Rat) / (B : Rat)).floor = z / B := by
  have hBq : (0 : Rat) < (B : Rat) := Rat.intCast_pos.mpr hB
  apply Int.le_antisymm
  · apply Int.lt_add_one_iff.mp
    rw [Rat.floor_lt_iff, Rat.div_lt_iff hBq, ← Rat.intCast_mul, Rat.intCast_lt_intCast]
    exact Int.lt_ediv_add_one_mul_self z hB
  · rw [Rat.le_floor_iff, ← Rat.not_lt, Rat.div_lt_iff hBq, ← Rat.intCast_mul, Rat.intCast_lt_intCast]
    exact Int.not_lt.mpr (Int.ediv_mul_le z (Int.ne_of_gt hB))

/-- spike times on the sample grid, as one equation between lists -/
theorem map_mul_onGrid (times : List Rat) (rate : Rat) (T : List Int) (hlen : T.length = times.length)
    (h : ∀ a, a < times.length → times.getD a 0 * rate = ((T.getD a 0 : Int) : Rat)) :
    times.map (· * rate) = T.map fun (z : Int) => (z : Rat) := by
  apply List.ext_getElem
  · simp [hlen]
  · intro a h1 h2
    simp only [List.length_map] at h1 h2
    have e := h a h1
    rw [Np.Lemmas.getD_of_lt _ _ _ h1, Np.Lemmas.getD_of_lt _ _ _ h2] at e
    simp only [List.getElem_map, e]

/-- on the grid a conversion that leaves whole numbers alone returns the sample numbers -/
theorem map_onGrid (g : Rat → Int) (rate : Rat) (times : List Rat) (T : List Int)
    (hT : times.map (· * rate) = T.map fun (z : Int) => (z : Rat)) (hg : ∀ z ∈ T, g (z : Rat) = z) :
    (times.map fun t => g (t * rate)) = T := by
  show times.map (g ∘ (· * rate)) = T
  rw [← List.map_map, hT, List.map_map]
  conv => rhs; rw [← List.map_id T]
  exact List.map_congr_left hg

theorem samplesOf_onGrid (rate : Rat) (times : List Rat) (T : List Int)
    (hT : times.map (· * rate) = T.map fun (z : Int) => (z : Rat)) : samplesOf rate times = T :=
  map_onGrid truncInt rate times T hT fun z _ => truncInt_intCast z

theorem samples_sorted (times : List Rat) (rate : Rat) (T : List Int) (hr : 0 < rate)
    (hT : times.map (· * rate) = T.map fun (z : Int) => (z : Rat)) (hs : times.Pairwise (· ≤ ·)) :
    T.Pairwise (· ≤ ·) := by
  have h1 : (times.map (· * rate)).Pairwise (· ≤ ·) :=
    hs.map _ fun a b hab => Rat.mul_le_mul_of_nonneg_right hab (Rat.le_of_lt hr)
  rw [hT, List.pairwise_map] at h1
  exact h1.imp Rat.intCast_le_intCast.mp

theorem winsize_spec (window bin : Rat) (hb1 : clipLo ≤ bin) (hb2 : bin ≤ clipHi)
    (hw1 : clipLo ≤ window) (hw2 : window ≤ clipHi) :
    0 ≤ ((1 / 2 : Rat) * window / bin).floor ∧
    winsizeBins window bin = 2 * ((1 / 2 : Rat) * window / bin).floor + 1 ∧
    halfOf window bin = ((1 / 2 : Rat) * window / bin).floor.toNat ∧
    winsizeBins window bin = 2 * (halfOf window bin : Int) + 1 := by
  have hq : 0 ≤ (1 / 2 : Rat) * window / bin := by
    apply Rat.le_of_lt
    rw [Rat.lt_div_iff (Std.lt_of_lt_of_le clipLo_pos hb1), Rat.zero_mul]
    exact Rat.mul_pos (by decide +kernel) (Std.lt_of_lt_of_le clipLo_pos hw1)
  have hf := floor_nonneg _ hq
  have hw : winsizeBins window bin = 2 * ((1 / 2 : Rat) * window / bin).floor + 1 := by
    unfold winsizeBins
    rw [clip_id _ _ _ hb1 hb2, clip_id _ _ _ hw1 hw2, truncInt_eq_floor _ hq]
  have hh : halfOf window bin = ((1 / 2 : Rat) * window / bin).floor.toNat := by
    unfold halfOf
    rw [hw, odd_ediv_two]
  exact ⟨hf, hw, hh, by rw [hh, Int.toNat_of_nonneg hf, hw]⟩

/-! ### the loop on the count array -/

/-- `ravel?` without the range check -/
def ravelN (nc m : Nat) (e : Ev) : Nat := (e.1 * nc + e.2.1) * m + e.2.2.toNat

/-- the range check of `ravel?` -/
def InRange (nc m : Nat) (e : Ev) : Prop := e.1 < nc ∧ e.2.1 < nc ∧ 0 ≤ e.2.2 ∧ e.2.2 < (m : Int)

theorem InRange.toNat_lt {nc m : Nat} {e : Ev} (h : InRange nc m e) : e.2.2.toNat < m :=
  (Int.toNat_lt h.2.2.1).2 h.2.2.2

theorem ravel?_of_inRange (nc m : Nat) (e : Ev) (h : InRange nc m e) : ravel? nc m e = some (ravelN nc m e) := by
  unfold ravel? ravelN
  exact if_pos h

theorem pair_inj (a b a' b' m : Nat) (hb : b < m) (hb' : b' < m) (h : a * m + b = a' * m + b') :
    a = a' ∧ b = b' := by
  have hm : 0 < m := Nat.lt_of_le_of_lt (Nat.zero_le b) hb
  have h1 := congrArg (· % m) h
  have h2 := congrArg (· / m) h
  simp only [Nat.mul_comm _ m, Nat.mul_add_mod, Nat.mul_add_div hm, Nat.mod_eq_of_lt hb, Nat.mod_eq_of_lt hb',
    Nat.div_eq_of_lt hb, Nat.div_eq_of_lt hb', Nat.add_zero] at h1 h2
  exact ⟨h2, h1⟩

theorem ravelN_inj (nc m : Nat) (e e' : Ev) (h : InRange nc m e) (h' : InRange nc m e')
    (heq : ravelN nc m e = ravelN nc m e') : e = e' := by
  obtain ⟨h1, h2⟩ := pair_inj _ _ _ _ m h.toNat_lt h'.toNat_lt heq
  obtain ⟨h3, h4⟩ := pair_inj _ _ _ _ nc h.2.1 h'.2.1 h1
  refine Prod.ext h3 (Prod.ext h4 ?_)
  rw [← Int.toNat_of_nonneg h.2.2.1, ← Int.toNat_of_nonneg h'.2.2.1, h2]

theorem ravelN_lt (nc m : Nat) (e : Ev) (h : InRange nc m e) : ravelN nc m e < nc * nc * m :=
  Np.Lemmas.mul_add_lt (Np.Lemmas.mul_add_lt h.1 h.2.1) h.toNat_lt

theorem evAt_inRange (x : Inp) (nc m : Nat) (hs : Sorted x) (hb : 0 < x.bin)
    (hcl : ∀ a, a < x.n → x.cl a < nc) (hm : x.half < (m : Int)) (s : Nat) (mask : Nat → Bool) :
    ∀ e ∈ evAt x s (stepMask x s mask), InRange nc m e := by
  intro e he
  obtain ⟨a, ha, hea⟩ := List.mem_filterMap.mp he
  have hlt : a + s < x.n := Nat.add_lt_of_lt_sub (List.mem_range.mp ha)
  split at hea
  · next hmask =>
    cases hea
    rw [stepMask, if_pos hlt, Bool.and_eq_true, decide_eq_true_eq] at hmask
    exact ⟨hcl a (Nat.lt_of_le_of_lt (Nat.le_add_right a s) hlt), hcl (a + s) hlt,
      Int.ediv_nonneg (Int.sub_nonneg_of_le (hs a (a + s) (Nat.le_add_right a s) hlt)) (Int.le_of_lt hb),
      Int.lt_of_le_of_lt hmask.2 hm⟩
  · cases hea

/-- one iteration of `loopArr` -/
theorem increment_events (nc m : Nat) (evs : List Ev) (hin : ∀ e ∈ evs, InRange nc m e) (arr : List Nat)
    (hlen : arr.length = nc * nc * m) :
    evs.mapM (ravel? nc m) = some (evs.map (ravelN nc m)) ∧
    ∃ arr1, increment arr (evs.map (ravelN nc m)) = some arr1 ∧ arr1.length = arr.length ∧
      ∀ e, InRange nc m e → arr1.getD (ravelN nc m e) 0 = arr.getD (ravelN nc m e) 0 + evs.count e := by
  refine ⟨Np.Lemmas.mapM_option_eq_some _ _ _ fun e he => ravel?_of_inRange nc m e (hin e he), ?_⟩
  obtain ⟨arr1, h1, h1len, h1get⟩ := increment_spec arr (evs.map (ravelN nc m)) (by
    intro i hi
    obtain ⟨e, he, rfl⟩ := List.mem_map.mp hi
    rw [hlen]; exact ravelN_lt nc m e (hin e he))
  exact ⟨arr1, h1, h1len, fun e he => by
    rw [h1get, count_map_of_iff (ravelN nc m) evs e _ fun b hb => ⟨ravelN_inj nc m b e (hin b hb) he, congrArg _⟩]⟩

/-- the array loop keeps `arr` the table of counts of the event list `acc` of `loop` -/
theorem loopArr_spec (x : Inp) (nc m : Nat) (hs : Sorted x) (hb : 0 < x.bin)
    (hcl : ∀ a, a < x.n → x.cl a < nc) (hm : x.half < (m : Int)) :
    ∀ (f s : Nat) (mask : Nat → Bool) (arr : List Nat) (acc : List Ev), arr.length = nc * nc * m →
      (∀ e, InRange nc m e → arr.getD (ravelN nc m e) 0 = acc.count e) →
      ∃ arr', loopArr x nc m f s mask arr = some arr' ∧
        ∀ e, InRange nc m e → arr'.getD (ravelN nc m e) 0 = (loop x f s mask acc).count e := by
  intro f
  induction f with
  | zero => intro s mask arr acc _ hrep; exact ⟨arr, rfl, hrep⟩
  | succ k ih =>
    intro s mask arr acc hlen hrep
    rw [loopArr, loop]
    split
    · obtain ⟨hmap, arr1, h1, h1len, h1get⟩ :=
        increment_events nc m _ (evAt_inRange x nc m hs hb hcl hm s mask) arr hlen
      simp only [hmap, h1]
      exact ih (s + 1) _ arr1 _ (h1len.trans hlen) fun e he => by
        rw [h1get e he, hrep e he, List.count_append]
    · exact ⟨arr, rfl, hrep⟩

theorem createArray_flat (nc : Nat) (w : Int) :
    (createArray nc w).flatten.flatten = List.replicate (nc * nc * ((w / 2).toNat + 1)) 0 := by
  simp [createArray, List.flatten_replicate_replicate]

theorem loopArr_zero (x : Inp) (nc half : Nat) (hs : Sorted x) (hb : 0 < x.bin)
    (hcl : ∀ a, a < x.n → x.cl a < nc) (hh : x.half = (half : Int)) :
    (loopArr x nc (half + 1) x.n 1 (fun _ => true) (List.replicate (nc * nc * (half + 1)) 0)).bind
        (fun flat => some (reshape3 nc (half + 1) flat)) = some (countArray (ccg x) nc half) := by
  obtain ⟨arr', h1, h1get⟩ := loopArr_spec x nc (half + 1) hs hb hcl (hh ▸ Int.ofNat_lt.mpr (Nat.lt_succ_self half))
    x.n 1 (fun _ => true) (List.replicate (nc * nc * (half + 1)) 0) [] List.length_replicate
    (fun e _ => by rw [Np.Lemmas.getD_replicate, ite_self]; rfl)
  rw [h1]
  exact congrArg some (map3_congr fun i hi j hj k hk =>
    h1get (i, j, Int.ofNat k) ⟨hi, hj, Int.natCast_nonneg k, Int.ofNat_lt.mpr hk⟩)

theorem correlogramsArr_eq (t : List Int) (sc : List Int) (ids : List Nat) (bin : Int) (half : Nat) (w : Int)
    (hw : (w / 2).toNat = half) (hsorted : t.Pairwise (· ≤ ·)) (hb : 0 < bin) (hlen : sc.length = t.length)
    (hdom : InDom sc ids) :
    correlogramsArr t sc ids bin w = correlograms t sc ids bin half := by
  subst hw
  unfold correlogramsArr correlograms
  rw [Np.Lemmas.indexOf_eq sc ids hdom.1 hdom.2]
  simp only [Option.bind_eq_bind, Option.bind_some, Option.pure_def, createArray_flat]
  refine loopArr_zero _ ids.length _ (sorted_of_pairwise t hsorted _ _ _) hb (fun a ha => ?_) rfl
  have ha' : a < sc.length := hlen ▸ ha
  exact Nat.lt_of_le_of_lt (Nat.le_of_eq (relabel_getD sc ids a ha'))
    (List.idxOf_lt_length_iff.mpr (hdom.2 _ (List.getElem_mem ha')).2)

/-! ### the whole call, from the three integers it computes first -/

theorem zip_tail_of_pairwise (l : List Rat) (h : l.Pairwise (· ≤ ·)) :
    (l.zip l.tail).all (fun p => decide (p.1 ≤ p.2)) = true := by
  induction l with
  | nil => rfl
  | cons a l ih =>
    cases l with
    | nil => rfl
    | cons b l' =>
      rw [List.pairwise_cons] at h
      rw [List.tail_cons, List.zip_cons_cons, List.all_cons, Bool.and_eq_true, decide_eq_true_eq]
      exact ⟨h.1 b List.mem_cons_self, ih h.2⟩

theorem correlogramsQ_ofInts (times : List Rat) (sc : List Int) (ids : Option (List Nat)) (rate bin window : Rat)
    (sym : Bool) :
    correlogramsQ times sc ids rate bin window sym =
      correlogramsOfInts (samplesOf rate times) (binsizeOf rate bin) (winsizeBins window bin) times sc ids rate sym :=
  rfl

theorem correlogramsOfInts_eq_spec (S : List Int) (B w : Int) (times : List Rat) (sc : List Int) (ids : List Nat)
    (rate : Rat) (sym : Bool) (hr : 0 < rate) (hsorted : times.Pairwise (· ≤ ·)) (hlen : sc.length = times.length)
    (hdom : InDom sc ids) (hB : 1 ≤ B) (hS : S.Pairwise (· ≤ ·)) (hSlen : S.length = times.length) :
    correlogramsOfInts S B w times sc (some ids) rate sym =
      some (if sym then symmetrize (specCcg S sc ids B (w / 2).toNat) else specCcg S sc ids B (w / 2).toNat) := by
  have hB0 : 0 < B := Int.lt_of_lt_of_le Int.zero_lt_one hB
  have hl : sc.length = S.length := hlen.trans hSlen.symm
  unfold correlogramsOfInts
  -- the four asserts
  rw [if_neg (not_not_intro hr), if_neg (not_not_intro (zip_tail_of_pairwise times hsorted)),
    if_neg (not_not_intro hlen.symm), if_neg (Int.not_lt.mpr hB)]
  simp only [idsOr]
  rw [correlogramsArr_eq S sc ids B _ w rfl hS hB0 hl hdom, correlograms_eq_spec S sc ids B _ hS hB0 hl hdom]

end PhyVerif.C15.Lemmas
