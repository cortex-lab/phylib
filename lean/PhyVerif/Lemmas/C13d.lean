import PhyVerif.Model.C13b
import PhyVerif.Model.C13d
import PhyVerif.Lemmas.C13
import PhyVerif.Lemmas.C13c
import PhyVerif.Lemmas.C04c
import PhyVerif.Model.C14
import PhyVerif.Lemmas.C14d
/-! The loader of C04 (`Model/C04.lean`) on a directory all of whose file names are names the conversion can leave on
disk (`NamesS`): each of the loader's searches can return one file only, so `load` is determined by nine lookups
(`load_alf`).  Two such directories: the file table `exportDir` of `Model/C13b` and the output of `convertFS` as projected by
`Model/C13d`.  Last, what `convertFS` exports for the view `viewOfFile` of a source given in samples or in seconds. -/
namespace PhyVerif.C13.Lemmas
open PhyVerif PhyVerif.C13 PhyVerif.C04 PhyVerif.C04.Lemmas

/-! ### a glob pattern against a name known up to a prefix -/

/-- two character lists differ at a position both have -/
def mismatch : List Char → List Char → Bool
  | a :: as, b :: bs => a != b || mismatch as bs
  | _, _ => false

theorem not_prefix_of_mismatch : ∀ (p st rest : List Char), mismatch p st = true →
    p.isPrefixOf (st ++ rest) = false
  | [], _, _, h => by simp [mismatch] at h
  | _ :: _, [], _, h => by simp [mismatch] at h
  | a :: as, b :: bs, rest, h => by
    simp only [mismatch, Bool.or_eq_true, bne_iff_ne, ne_eq] at h
    simp only [List.cons_append, List.isPrefixOf, Bool.and_eq_false_iff, beq_eq_false_iff_ne, ne_eq]
    rcases h with h | h
    · exact Or.inl h
    · exact Or.inr (not_prefix_of_mismatch as bs rest h)

theorem prefix_self_append (l r : List Char) : l.isPrefixOf (l ++ r) = true :=
  List.isPrefixOf_iff_prefix.mpr (List.prefix_append _ _)

theorem globMatch_false_of_not_prefix (pat name : String)
    (h : (splitStar pat.toList).1.isPrefixOf name.toList = false) : globMatch pat name = false := by
  unfold globMatch
  rcases hs : splitStar pat.toList with ⟨pre, _ | suf⟩
  · rw [hs] at h
    simp only [beq_eq_false_iff_ne, ne_eq]
    intro heq
    rw [heq, List.isPrefixOf_iff_prefix.mpr (List.prefix_refl _)] at h
    cases h
  · rw [hs] at h
    simp only [h, Bool.false_and]

theorem globMatch_true_of_parts (pat name : String) (pre m suf : List Char)
    (hs : splitStar pat.toList = (pre, some suf)) (hn : name.toList = pre ++ (m ++ suf)) :
    globMatch pat name = true := by
  unfold globMatch
  simp only [hs, hn]
  have h2 : suf.isSuffixOf (pre ++ (m ++ suf)) = true := by
    rw [← List.append_assoc]
    exact List.isSuffixOf_iff_suffix.mpr (List.suffix_append _ _)
  rw [prefix_self_append, h2]
  simp only [List.length_append, Bool.and_self, Bool.true_and, decide_eq_true_eq]
  omega

/-! ### the names on disk: `S label n` begins with `stemChars n` whatever the label, and stems tell names apart -/

/-- the characters a label puts between a stem and `.npy` -/
def labelChars (label : String) : List Char := if label = "" then [] else '.' :: label.toList

theorem labelled_toList (label stem : String) :
    (labelled label stem).toList = stem.toList ++ (labelChars label ++ ['.', 'n', 'p', 'y']) := by
  unfold labelled labelChars
  split <;> simp [String.toList_append]

/-- the name on disk of the file the conversion leaves for the (unlabelled) name `n` -/
def S (label : String) (n : Name) : String := strOfName (labelled' label n)

/-- the characters every labelled version of `n` starts with: `obj.attr.` for an object file (the label or the
extension follows), the whole name otherwise -/
def stemChars (n : Name) : List Char :=
  if isObj n then
    match n with
    | [a, b, _] => a.toList ++ '.' :: (b.toList ++ ['.'])
    | _ => (strOfName n).toList
  else (strOfName n).toList

theorem S_npy (label a b : String) (ho : isObj [a, b, "npy"] = true) :
    S label [a, b, "npy"] = labelled label (a ++ "." ++ b) := by
  rw [S, labelled3 _ _ _ _ ho, labelled]
  split <;> simp [strOfName, String.append_assoc]

/-- Bool table: the literal prefix of the pattern `p` departs from the stem of every possible output file other
than `n0` -/
def noOther (p : String) (n0 : Name) : Bool :=
  allNames.all fun n => n == n0 || mismatch (splitStar p.toList).1 (stemChars n)

/-- Bool test: `p` is the pattern `obj.attr*.npy` of the object file `n = [obj, attr, "npy"]` -/
def starOf (p : String) (n : Name) : Bool :=
  isObj n && n.drop 2 == ["npy"] && (splitStar p.toList).1 ++ ['.'] == stemChars n &&
    (splitStar p.toList).2 == some ['.', 'n', 'p', 'y']

/-- Bool test: `p` is the pattern `obj.attr.*.npy` of the object file `n = [obj, attr, "npy"]` -/
def dottedOf (p : String) (n : Name) : Bool :=
  isObj n && n.drop 2 == ["npy"] && splitStar p.toList == (stemChars n, some ['.', 'n', 'p', 'y'])

/-- The searches of the loader that an ALF directory answers: the patterns, tried in this order, and the one output
file (unlabelled name) that can match any of them. -/
def searches : List (List String × Name) :=
  [ (["spikes.times*.npy"], ["spikes", "times", "npy"]),
    (["spikes.samples*.npy"], ["spikes", "samples", "npy"]),
    (["amplitudes.npy", "spikes.amps*.npy"], ["spikes", "amps", "npy"]),
    (["spike_clusters.npy", "spikes.clusters*.npy"], ["spikes", "clusters", "npy"]),
    (["spike_templates.npy", "spikes.templates*.npy"], ["spikes", "templates", "npy"]),
    (["channel_map.npy", "channels.rawInd*.npy"], ["channels", "rawInd", "npy"]),
    (["channel_positions.npy", "channels.localCoordinates*.npy"], ["channels", "localCoordinates", "npy"]),
    (["templates.npy", "templates.waveforms.npy", "templates.waveforms.*.npy"], ["templates", "waveforms", "npy"]),
    (["template_ind.npy", "templates.waveformsChannels*.npy"], ["templates", "waveformsChannels", "npy"]) ]

/-- Bool test for a row of `searches`.  `templates.waveforms` has no starred pattern (it would also match
`templates.waveformsChannels`): it is found by its exact name without a label and by `obj.attr.*.npy` with one. -/
def hits (r : List String × Name) : Bool :=
  allNames.contains r.2 && r.1.all (noOther · r.2) &&
    (r.1.any (starOf · r.2) || r.1.any (globMatch · (S "" r.2)) && r.1.any (dottedOf · r.2))

/-- Everything that is evaluated on the names in `allNames`, in one statement: what is dear is reading the string
literals, and the kernel reads each literal once per declaration. -/
theorem stem_tables :
    (allNames.all fun n => !isObj n || n.length == 3) = true ∧
    (allNames.all fun a => allNames.all fun b => a == b || mismatch (stemChars a) (stemChars b)) = true ∧
    (["spike_times.npy", "spike_clusters.npy"].all (noOther · [])) = true ∧
    searches.all hits = true := by
  decide +kernel

theorem allNames_shape : ∀ n ∈ allNames, isObj n = false ∨ ∃ a b c, n = [a, b, c] := by
  intro n hn
  have := List.all_eq_true.mp stem_tables.1 n hn
  simp only [Bool.or_eq_true, Bool.not_eq_true', beq_iff_eq] at this
  rcases this with h | h
  · exact .inl h
  · right
    match n, h with
    | [a, b, c], _ => exact ⟨a, b, c, rfl⟩

theorem S_of_not_obj (label : String) (n : Name) (h : isObj n = false) : S label n = strOfName n := by
  unfold S labelled'
  split
  · rfl
  · rw [relabel_of_not_obj _ _ h]

theorem S_decomp (label : String) (n : Name) (hn : n ∈ allNames) :
    ∃ rest, (S label n).toList = stemChars n ++ rest := by
  by_cases ho : isObj n = true
  · rcases allNames_shape n hn with h | ⟨a, b, c, rfl⟩
    · rw [h] at ho
      cases ho
    · rw [S, labelled3 _ _ _ _ ho]
      split
      · exact ⟨c.toList, by simp [stemChars, ho, strOfName]⟩
      · exact ⟨label.toList ++ '.' :: c.toList, by simp [stemChars, ho, strOfName]⟩
  · simp only [Bool.not_eq_true] at ho
    exact ⟨[], by simp [S_of_not_obj label n ho, stemChars, ho]⟩

theorem S_inj (label : String) (a b : Name) (ha : a ∈ allNames) (hb : b ∈ allNames)
    (h : S label a = S label b) : a = b := by
  have := List.all_eq_true.mp (List.all_eq_true.mp stem_tables.2.1 a ha) b hb
  simp only [Bool.or_eq_true, beq_iff_eq] at this
  rcases this with h1 | h1
  · exact h1
  · exfalso
    obtain ⟨ra, hra⟩ := S_decomp label a ha
    obtain ⟨rb, hrb⟩ := S_decomp label b hb
    have h2 := not_prefix_of_mismatch _ _ rb h1
    rw [← hrb, ← h, hra, prefix_self_append] at h2
    cases h2

theorem noOther_spec (p : String) (n0 : Name) (h : noOther p n0 = true) (label : String) :
    ∀ n ∈ allNames, n ≠ n0 → globMatch p (S label n) = false := by
  intro n hn hne
  have := List.all_eq_true.mp h n hn
  simp only [Bool.or_eq_true, beq_iff_eq] at this
  rcases this with h1 | h1
  · exact absurd h1 hne
  · apply globMatch_false_of_not_prefix
    obtain ⟨r, hr⟩ := S_decomp label n hn
    rw [hr]
    exact not_prefix_of_mismatch _ _ _ h1

theorem noAny_spec (p : String) (h : noOther p [] = true) (label : String) :
    ∀ n ∈ allNames, globMatch p (S label n) = false := by
  intro n hn
  refine noOther_spec p [] h label n hn ?_
  intro h0
  subst h0
  revert hn
  decide

theorem starOf_spec (p : String) (n : Name) (h : starOf p n = true) (label : String) :
    globMatch p (S label n) = true := by
  simp only [starOf, Bool.and_eq_true, beq_iff_eq] at h
  obtain ⟨⟨⟨ho, hd⟩, h1⟩, h2⟩ := h
  rcases n with _ | ⟨a, _ | ⟨b, rest⟩⟩
  · cases ho
  · cases ho
  · obtain rfl : rest = ["npy"] := hd
    rw [S_npy label a b ho]
    refine globMatch_true_of_parts _ _ _ (labelChars label) _ ?_ (labelled_toList label _)
    rw [stemChars, if_pos ho, ← List.cons_append, ← List.append_assoc] at h1
    refine Prod.ext ?_ h2
    rw [List.append_cancel_right h1]
    simp [String.toList_append]

theorem dottedOf_spec (p : String) (n : Name) (h : dottedOf p n = true) (label : String) (hl : label ≠ "") :
    globMatch p (S label n) = true := by
  simp only [dottedOf, Bool.and_eq_true, beq_iff_eq] at h
  obtain ⟨⟨ho, hd⟩, h1⟩ := h
  rcases n with _ | ⟨a, _ | ⟨b, rest⟩⟩
  · cases ho
  · cases ho
  · obtain rfl : rest = ["npy"] := hd
    apply globMatch_true_of_parts _ _ _ label.toList _ h1
    rw [S_npy label a b ho, labelled_toList]
    simp [stemChars, ho, labelChars, hl, String.toList_append]

/-! ### the loader's searches on a directory of such names -/

def NamesS (label : String) (d : Dir) : Prop := ∀ g ∈ names d, ∃ n ∈ allNames, g = S label n

/-- among the names `S label ·`, patterns that pass `noOther · n0` match `S label n0` only -/
theorem match_only (label : String) (d : Dir) (hK : NamesS label d) (P : List String) (n0 : Name)
    (hother : ∀ p ∈ P, noOther p n0 = true) :
    ∀ m ∈ d.map (·.1), ∀ p ∈ P, globMatch p m = true → m = S label n0 := by
  intro m hm p hp hpm
  obtain ⟨k, hk, rfl⟩ := hK m hm
  obtain rfl : k = n0 := Decidable.byContradiction fun hne => by
    rw [noOther_spec _ _ (hother p hp) label k hk hne] at hpm
    cases hpm
  rfl

theorem findPath_only (label : String) (d : Dir) (hK : NamesS label d) (P : List String) (n0 : Name)
    (hother : ∀ p ∈ P, noOther p n0 = true) (hmatch : ∃ p ∈ P, globMatch p (S label n0) = true) :
    findPath d P = if (d.lookup (S label n0)).isSome then some (S label n0) else none := by
  rw [findPath_eq_of_unique d P _ (match_only label d hK P n0 hother) hmatch]
  cases d.lookup (S label n0) <;> rfl

theorem readFile_only (label : String) (d : Dir) (hK : NamesS label d) (P : List String) (n0 : Name)
    (hother : ∀ p ∈ P, noOther p n0 = true) (hmatch : ∃ p ∈ P, globMatch p (S label n0) = true) :
    readFile d P = d.lookup (S label n0) :=
  readFile_eq_of_unique d P _ (match_only label d hK P n0 hother) hmatch

theorem findPath_none_of (label : String) (d : Dir) (hK : NamesS label d) (P : List String)
    (hno : ∀ p ∈ P, noOther p [] = true) : findPath d P = none := by
  cases hf : findPath d P with
  | none => rfl
  | some f =>
    obtain ⟨i, hi, hm, hmem, -⟩ := findPath_wins _ _ _ hf
    obtain ⟨k, hk, rfl⟩ := hK f hmem
    rw [noAny_spec _ (hno _ (List.getElem_mem hi)) label k hk] at hm
    cases hm

theorem hits_spec (r : List String × Name) (h : hits r = true) (label : String) :
    r.2 ∈ allNames ∧ (∀ p ∈ r.1, noOther p r.2 = true) ∧ ∃ p ∈ r.1, globMatch p (S label r.2) = true := by
  simp only [hits, Bool.and_eq_true, Bool.or_eq_true, List.all_eq_true, List.any_eq_true, List.contains_eq_mem,
    decide_eq_true_eq] at h
  refine ⟨h.1.1, h.1.2, ?_⟩
  rcases h.2 with ⟨p, hp, hs⟩ | ⟨⟨p, hp, hm⟩, q, hq, hd⟩
  · exact ⟨p, hp, starOf_spec p _ hs label⟩
  · by_cases hl : label = ""
    · exact ⟨p, hp, hl ▸ hm⟩
    · exact ⟨q, hq, dottedOf_spec q _ hd label hl⟩

theorem search_spec (label : String) (d : Dir) (hK : NamesS label d) : ∀ r ∈ searches, r.2 ∈ allNames ∧
    findPath d r.1 = (if (d.lookup (S label r.2)).isSome then some (S label r.2) else none) ∧
    readFile d r.1 = d.lookup (S label r.2) := by
  intro r hr
  obtain ⟨h0, h1, h2⟩ := hits_spec r (List.all_eq_true.mp stem_tables.2.2.2 r hr) label
  exact ⟨h0, findPath_only label d hK r.1 r.2 h1 h2, readFile_only label d hK r.1 r.2 h1 h2⟩

/-! ### `load` on a directory in the ALF layout -/

/-- `f`: the arrays of the directory by unlabelled name -/
theorem load_alf (inv : Arr → Arr) (label : String) (d : Dir) (hK : NamesS label d) (f : Name → Option Arr)
    (hf : ∀ n ∈ allNames, d.lookup (S label n) = f n) (t s a st sc cm pos w wc : Arr)
    (ht : f ["spikes", "times", "npy"] = some t)
    (hs : f ["spikes", "samples", "npy"] = some s)
    (hm : monotone (scrub t).data = true)
    (ha : f ["spikes", "amps", "npy"] = some a)
    (hst : f ["spikes", "templates", "npy"] = some st)
    (hsc : f ["spikes", "clusters", "npy"] = some sc)
    (hcm : f ["channels", "rawInd", "npy"] = some cm)
    (hpos : f ["channels", "localCoordinates", "npy"] = some pos)
    (hw : f ["templates", "waveforms", "npy"] = some w)
    (hwc : f ["templates", "waveformsChannels", "npy"] = some wc) :
    ∃ v d', load inv d = .ok (v, d') ∧
      v.times = .stored (squeeze (scrub t)) ∧ v.samples = .file (squeeze (scrub s)) ∧
      v.spikeClusters = squeeze (scrub sc) ∧ v.spikeTemplates = squeeze (scrub st) ∧
      v.amplitudes = some (squeeze (scrub a)) ∧ v.channelMap = atleast 1 (squeeze (scrub cm)) ∧
      v.channelPositions = atleast 2 (squeeze (scrub pos)) ∧
      v.templates = some (zeroNanTemplates (atleast 3 (squeeze w))) ∧
      v.templateCols = some (squeeze (scrub wc)) := by
  have hS := search_spec label d hK
  have hL : ∀ r ∈ searches, d.lookup (S label r.2) = f r.2 := fun r hr => hf _ (hS r hr).1
  have hN : ∀ p ∈ ["spike_times.npy", "spike_clusters.npy"], findPath d [p] = none := fun p hp =>
    findPath_none_of label d hK [p] fun q hq => List.all_eq_true.mp stem_tables.2.2.1 q (List.mem_singleton.mp hq ▸ hp)
  simp only [searches, List.forall_mem_cons, List.not_mem_nil, false_imp_iff, implies_true, and_true] at hS hL hN
  have h0 : d.lookup "spike_times.npy" = none := by
    rw [← readFile_exact _ _ (by decide), readFile, hN.1]
  unfold load
  simp only [h0, hN.2, hS, hL, ht, hs, hm, ha, hst, hsc, hcm, hpos, hw, hwc, Option.isSome_none,
    Option.isSome_some, Bool.false_and, pure_bind, Bool.not_true, Bool.false_eq_true, if_false, if_true,
    Option.map_some]
  exact ⟨_, _, rfl, rfl, rfl, rfl, rfl, rfl, rfl, rfl, rfl, rfl⟩

/-! ### the file table of `Model/C13b` -/

/-- `exportDir` before labelling: the arrays by (unlabelled) name -/
def exportTable (s : Source) : List (Name × Arr) :=
  [ (["spikes", "times", "npy"], vec s.times),
    (["spikes", "samples", "npy"], vec s.samples),
    (["spikes", "amps", "npy"], vec s.amps),
    (["spikes", "clusters", "npy"], vec s.clusters),
    (["spikes", "templates", "npy"], vec s.templates),
    (["channels", "rawInd", "npy"], vec s.channelMap),
    (["channels", "localCoordinates", "npy"], ⟨[s.channelMap.length, 2], s.positions.map Cell.num⟩),
    (["templates", "waveforms", "npy"], s.waveforms),
    (["templates", "waveformsChannels", "npy"], s.waveformChannels) ]

theorem exportDir_eq (label : String) (s : Source) :
    exportDir label s = (exportTable s).map fun x => (S label x.1, x.2) := by
  simp (disch := decide) only [exportTable, List.map, S_npy, String.reduceAppend]
  rfl

/-- the table holds the files the loader searches for, row by row -/
theorem exportTable_names (s : Source) : ∀ x ∈ exportTable s, x.1 ∈ allNames := by
  intro x hx
  have hx' : x.1 ∈ searches.map (·.2) := (rfl : (exportTable s).map (·.1) = searches.map (·.2)) ▸ List.mem_map_of_mem hx
  obtain ⟨r, hr, hrx⟩ := List.mem_map.mp hx'
  exact hrx ▸ (hits_spec r (List.all_eq_true.mp stem_tables.2.2.2 r hr) "").1

theorem namesS_map (label : String) (t : List (Name × Arr)) (ht : ∀ x ∈ t, x.1 ∈ allNames) :
    NamesS label (t.map fun x => (S label x.1, x.2)) := by
  intro g hg
  simp only [names, List.map_map, List.mem_map, Function.comp] at hg
  obtain ⟨x, hx, rfl⟩ := hg
  exact ⟨x.1, ht x hx, rfl⟩

theorem lookup_map_S (label : String) (t : List (Name × Arr)) (ht : ∀ x ∈ t, x.1 ∈ allNames) (n0 : Name)
    (hn0 : n0 ∈ allNames) : (t.map fun x => (S label x.1, x.2)).lookup (S label n0) = t.lookup n0 := by
  rw [← Option.map_id' (x := t.lookup n0)]
  exact Np.Lemmas.lookup_map_of_inj (S label) id t n0 fun x hx h => S_inj label _ _ (ht x hx) hn0 h

theorem scrub_num (sh : List Nat) (l : List Int) :
    scrub ⟨sh, l.map Cell.num⟩ = ⟨sh, l.map Cell.num⟩ := by
  simp [scrub]

theorem read_vec (l : List Int) (h : 2 ≤ l.length) : squeeze (scrub (vec l)) = vec l := by
  have : l.length ≠ 1 := by omega
  simp [vec, scrub_num, squeeze, this]

theorem reload_view (inv : Arr → Arr) (label : String) (s : Source) (h : SourceOK s) :
    ∃ v d', load inv (exportDir label s) = .ok (v, d') ∧
      v.times = .stored (vec s.times) ∧ v.samples = .file (vec s.samples) ∧
      v.spikeClusters = vec s.clusters ∧ v.spikeTemplates = vec s.templates ∧
      v.amplitudes = some (vec s.amps) ∧ v.channelMap = vec s.channelMap ∧
      v.channelPositions = ⟨[s.channelMap.length, 2], s.positions.map Cell.num⟩ ∧
      v.templates = some (zeroNanTemplates (atleast 3 (squeeze s.waveforms))) ∧
      v.templateCols = some (squeeze (scrub s.waveformChannels)) := by
  obtain ⟨h1, h2, h3, h4, h5, h6, h8⟩ := h
  have hn := exportTable_names s
  obtain ⟨v, d', hl, e1, e2, e3, e4, e5, e6, e7, e8, e9⟩ :=
    load_alf inv label (exportDir label s) (by rw [exportDir_eq]; exact namesS_map label _ hn)
      (fun n => (exportTable s).lookup n) (fun n hn' => by rw [exportDir_eq, lookup_map_S label _ hn n hn'])
      (vec s.times) (vec s.samples) (vec s.amps) (vec s.templates) (vec s.clusters) (vec s.channelMap)
      ⟨[s.channelMap.length, 2], s.positions.map Cell.num⟩ s.waveforms s.waveformChannels
      rfl rfl (by unfold vec; rw [scrub_num]; exact h8) rfl rfl rfl rfl rfl rfl rfl
  refine ⟨v, d', hl, ?_, ?_, ?_, ?_, ?_, ?_, ?_, e8, e9⟩
  · rw [e1, read_vec _ h1]
  · rw [e2, read_vec _ (h2 ▸ h1)]
  · rw [e3, read_vec _ (h3 ▸ h1)]
  · rw [e4, read_vec _ (h4 ▸ h1)]
  · rw [e5, read_vec _ (h5 ▸ h1)]
  · rw [e6, read_vec _ h6]
    rfl
  · have : s.channelMap.length ≠ 1 := by omega
    rw [e7, scrub_num]
    simp [squeeze, this, atleast]

theorem reload_eq_source (inv : Arr → Arr) (label : String) (s : Source) (h : SourceOK s) :
    ∃ v d', load inv (exportDir label s) = .ok (v, d') ∧
      v.times = .stored (vec s.times) ∧ v.samples = .file (vec s.samples) ∧
      v.spikeClusters = vec s.clusters ∧ v.spikeTemplates = vec s.templates ∧
      v.amplitudes = some (vec s.amps) ∧ v.channelMap = vec s.channelMap ∧
      v.channelPositions = ⟨[s.channelMap.length, 2], s.positions.map Cell.num⟩ := by
  obtain ⟨v, d', hl, e1, e2, e3, e4, e5, e6, e7, -⟩ := reload_view inv label s h
  exact ⟨v, d', hl, e1, e2, e3, e4, e5, e6, e7⟩

theorem reload_templates (inv : Arr → Arr) (label : String) (s : Source) (h : SourceOK s) :
    ∃ v d', load inv (exportDir label s) = .ok (v, d') ∧
      v.templates = some (zeroNanTemplates (atleast 3 (squeeze s.waveforms))) ∧
      v.templateCols = some (squeeze (scrub s.waveformChannels)) := by
  obtain ⟨v, d', hl, -, -, -, -, -, -, -, e8, e9⟩ := reload_view inv label s h
  exact ⟨v, d', hl, e8, e9⟩

/-! ### the projected output of `convertFS` -/

theorem namesS_project (I : Interp) (label : String) (out : FDir) (hK : KeysLab label out) :
    NamesS label (project I out) := by
  intro g hg
  simp only [names, project, List.map_map, List.mem_map, Function.comp] at hg
  obtain ⟨x, hx, rfl⟩ := hg
  obtain ⟨k, hk, hxk⟩ := hK x.1 (List.mem_map_of_mem hx)
  exact ⟨k, hk, by rw [S, hxk]⟩

theorem lookup_project (I : Interp) (label : String) (out : FDir) (hK : KeysLab label out) (n0 : Name)
    (hn0 : n0 ∈ allNames) :
    (project I out).lookup (S label n0) = (out.lookup (labelled' label n0)).map (arrOf I) := by
  rw [FDir_lookup_eq]
  refine Np.Lemmas.lookup_map_of_inj strOfName (arrOf I) out (labelled' label n0) fun x hx h => ?_
  obtain ⟨k, hk, hxk⟩ := hK x.1 (List.mem_map_of_mem hx)
  rw [hxk] at h ⊢
  rw [S_inj label k n0 hk hn0 h]

theorem rowsTrail_z (I : Interp) (l : List Int) : rowsTrail I (l.map Row.z) = [] := by
  cases l <;> rfl

theorem rowsTrail_q (I : Interp) (l : List Rat) : rowsTrail I (l.map Row.q) = [] := by
  cases l <;> rfl

theorem flatMap_z (I : Interp) (l : List Int) : (l.map Row.z).flatMap (rowCells I) = l.map Cell.num := by
  induction l with
  | nil => rfl
  | cons x xs ih => simp [rowCells, ih]

theorem flatMap_q (I : Interp) (l : List Rat) :
    (l.map Row.q).flatMap (rowCells I) = (l.map I.encQ).map Cell.num := by
  induction l with
  | nil => rfl
  | cons x xs ih => simp [rowCells, ih]

theorem read_z (I : Interp) (e : Entry) (l : List Int) (hr : e.rows = l.map Row.z) (h2 : 2 ≤ l.length) :
    squeeze (scrub (arrOf I e)) = vec l := by
  have hne : (l.length != 1) = true := by simp; omega
  cases hv : e.vec2d <;>
    simp [arrOf, hr, hv, rowsTrail_z, flatMap_z, scrub, squeeze, vec, List.filter, hne]

theorem read_q (I : Interp) (l : List Rat) (h2 : 2 ≤ l.length) :
    squeeze (scrub (arrOf I (fresh (l.map Row.q)))) = vec (l.map I.encQ) ∧
    (scrub (arrOf I (fresh (l.map Row.q)))).data = (l.map I.encQ).map Cell.num := by
  have hne : (l.length != 1) = true := by simp; omega
  constructor <;> simp [arrOf, fresh, rowsTrail_q, flatMap_q, scrub, squeeze, vec, List.filter, hne]

theorem final_keys (cfg : Cfg) (v : View) (gen : Nat → String) (src : FDir) (h : Convertible cfg ⟨src, []⟩) :
    KeysLab cfg.label (convertFS cfg v gen ⟨src, []⟩).fs.out := by
  obtain ⟨out4, o, h4, _, hkeys, hres⟩ := convertFS_ok cfg v gen ⟨src, []⟩ h
  rw [hres]
  -- the globs change no name
  intro n hn
  exact keysLab_copied cfg v gen src out4 h4 n (hkeys ▸ hn)

theorem final_positions (cfg : Cfg) (v : View) (gen : Nat → String) (src : FDir) (h : Convertible cfg ⟨src, []⟩)
    (e : Entry) (he : src.lookup ["channel_positions", "npy"] = some e) :
    (convertFS cfg v gen ⟨src, []⟩).fs.out.lookup (labelled' cfg.label ["channels", "localCoordinates", "npy"]) =
      some e := by
  obtain ⟨out4, o, h4, hcomp, _, hres⟩ := convertFS_ok cfg v gen ⟨src, []⟩ h
  obtain ⟨d1, hd1, hd2⟩ := Option.bind_eq_some_iff.mp hcomp
  have hsrc : (src' cfg ⟨src, []⟩).lookup ["channel_positions", "npy"] = some e := by
    rw [lookup_src' cfg ⟨src, []⟩ _ (by decide) (by decide)]; exact he
  obtain ⟨e', he', -, hsame⟩ :=
    (copyFiles_line cfg.force _ out4 _ copied_lines.1 e hsrc).2 (has_out4_empty v gen src out4 h4 _ (by decide))
  rw [hres]
  simp only []
  rw [lookup_mapFirst_ne _ _ _ (not_matches_of_first _ _ _ _ _ (by decide)) _ _ hd2,
    lookup_mapFirst_ne _ _ _ (not_matches_of_first _ _ _ _ _ (by decide)) _ _ hd1, lookup_rename, he', hsame rfl]

theorem final_computed (cfg : Cfg) (v : View) (gen : Nat → String) (fs : FS) (h : Convertible cfg fs) :
    (convertFS cfg v gen fs).fs.out.lookup (labelled' cfg.label ["spikes", "amps", "npy"]) =
      some (fresh (spikeAmps v)) ∧
    (convertFS cfg v gen fs).fs.out.lookup (labelled' cfg.label ["channels", "rawInd", "npy"]) =
      some (fresh (tokRows "rawInd" v.channelProbes.length)) ∧
    (convertFS cfg v gen fs).fs.out.lookup (labelled' cfg.label ["templates", "waveforms", "npy"]) =
      some (fresh (tokRows "templates.waveforms" v.nTemplates)) ∧
    (convertFS cfg v gen fs).fs.out.lookup (labelled' cfg.label ["templates", "waveformsChannels", "npy"]) =
      some (fresh (tokRows "templates.waveformsChannels" v.nTemplates)) :=
  ⟨lookup_final_computed cfg v gen fs h _ _ rfl, lookup_final_computed cfg v gen fs h _ _ rfl,
    lookup_final_computed cfg v gen fs h _ _ rfl, lookup_final_computed cfg v gen fs h _ _ rfl⟩

theorem flatMap_singleton_of {α β : Type} (f : α → List β) (g : α → β) (is : List α) (h : ∀ i ∈ is, f i = [g i]) :
    is.flatMap f = is.map g :=
  (Np.Lemmas.flatMap_congr is f _ h).trans List.map_eq_flatMap.symm

theorem filter_ne_one_of_prod (t : List Nat) (h : t.prod = 1) : t.filter (· != 1) = [] := by
  induction t with
  | nil => rfl
  | cons a t ih =>
    rw [List.prod_cons] at h
    have h1 : a = 1 := Nat.eq_one_of_mul_eq_one_right h
    have h2 : t.prod = 1 := Nat.eq_one_of_mul_eq_one_left h
    subst h1
    simpa using ih h2

theorem read_tok_scalar (I : Interp) (w : String) (n : Nat) (l : List Int) (hl : l.length = n)
    (hI : (I.cells w 0).length = (I.trail w).prod)
    (hc : ∀ i, i < n → I.cells w i = [.num (l.getD i 0)]) :
    atleast 1 (squeeze (scrub (arrOf I (fresh (tokRows w n))))) = vec l := by
  have hd : (tokRows w n).flatMap (rowCells I) = l.map Cell.num := by
    rw [tokRows, List.flatMap_map, flatMap_singleton_of (fun i => rowCells I (Row.tok w i))
      (fun i => Cell.num (l.getD i 0)) _ (fun i hi => hc i (List.mem_range.1 hi)), ← hl]
    exact List.map_map.symm.trans (congrArg (List.map Cell.num) (Np.Lemmas.map_getD_range l 0))
  cases n with
  | zero =>
    have : l = [] := List.eq_nil_of_length_eq_zero hl
    subst this
    rfl
  | succ k =>
    have htr : (I.trail w).filter (· != 1) = [] := by
      apply filter_ne_one_of_prod
      rw [← hI, hc 0 (by omega)]; rfl
    have hrt : rowsTrail I (tokRows w (k + 1)) = I.trail w := by
      simp [tokRows, List.range_succ_eq_map, rowsTrail]
    have hlen : (tokRows w (k + 1)).length = k + 1 := by simp [tokRows]
    simp only [arrOf, fresh, hd, hrt, hlen, scrub_num, squeeze, Bool.false_eq_true, if_false, List.filter_cons, htr]
    by_cases hk : k = 0
    · subst hk; simp [atleast, vec, hl]
    · have : (k + 1 != 1) = true := by simp; omega
      simp [this, atleast, vec, hl]

theorem convert_output_loads (inv : Arr → Arr) (I : Interp) (cfg : Cfg) (v : View) (gen : Nat → String) (src : FDir)
    (h : Convertible cfg ⟨src, []⟩) (hv : ViewOK v) (h2 : 2 ≤ v.samples.length)
    (hmono : monotone ((v.times.map I.encQ).map Cell.num) = true)
    (hI : ∀ w i, (I.cells w i).length = (I.trail w).prod)
    (hraw : ∀ i, i < v.channelProbes.length →
      I.cells "rawInd" i = [.num ((C14.exportRawInd v.channelMap v.channelProbes).getD i 0)])
    (esc est epos : Entry)
    (hsc : src.lookup ["spike_clusters", "npy"] = some esc)
    (hscr : esc.rows = (v.spikeClusters.map Int.ofNat).map Row.z)
    (hst : src.lookup ["spike_templates", "npy"] = some est)
    (hstr : est.rows = (v.spikeTemplates.map Int.ofNat).map Row.z)
    (hpos : src.lookup ["channel_positions", "npy"] = some epos)
    (hidc : ∀ c ∈ v.spikeClusters, c < 65536) (hidt : ∀ c ∈ v.spikeTemplates, c < 65536) :
    ∃ lv d', load inv (project I (convertFS cfg v gen ⟨src, []⟩).fs.out) = .ok (lv, d') ∧
      lv.times = .stored (vec (v.times.map I.encQ)) ∧
      lv.samples = .file (vec v.samples) ∧
      lv.spikeClusters = vec (v.spikeClusters.map Int.ofNat) ∧
      lv.spikeTemplates = vec (v.spikeTemplates.map Int.ofNat) ∧
      lv.amplitudes = some (squeeze (scrub (arrOf I (fresh (spikeAmps v))))) ∧
      lv.channelMap = vec (C14.exportRawInd v.channelMap v.channelProbes) ∧
      lv.channelPositions = atleast 2 (squeeze (scrub (arrOf I epos))) ∧
      lv.templates = some (zeroNanTemplates (atleast 3 (squeeze
        (arrOf I (fresh (tokRows "templates.waveforms" v.nTemplates)))))) ∧
      lv.templateCols = some (squeeze (scrub (arrOf I (fresh (tokRows "templates.waveformsChannels" v.nTemplates))))) := by
  obtain ⟨hv1, hv2, hv3, -, hv5⟩ := hv
  have hK := final_keys cfg v gen src h
  obtain ⟨hT, hS⟩ := export_times_samples cfg v gen ⟨src, []⟩ h
  obtain ⟨hA, hR, hW, hWC⟩ := final_computed cfg v gen ⟨src, []⟩ h
  have hP := final_positions cfg v gen src h epos hpos
  have hrows : ∀ (l : List Nat), (∀ c ∈ l, c < 65536) →
      ∀ r ∈ (l.map Int.ofNat).map Row.z, ∃ z, r = Row.z z ∧ 0 ≤ z ∧ z < 65536 := by
    intro l hl r hr
    simp only [List.map_map, List.mem_map, Function.comp] at hr
    obtain ⟨c, hc, rfl⟩ := hr
    exact ⟨_, rfl, by simp, by have := hl c hc; simp; omega⟩
  obtain ⟨ec, hC, hCr⟩ := export_ids cfg v gen src h "clusters" _ (.inl ⟨rfl, rfl⟩) esc hsc
    (by rw [hscr]; exact hrows _ hidc)
  obtain ⟨et, hTm, hTr⟩ := export_ids cfg v gen src h "templates" _ (.inr ⟨rfl, rfl⟩) est hst
    (by rw [hstr]; exact hrows _ hidt)
  generalize (convertFS cfg v gen ⟨src, []⟩).fs.out = out at *
  have L {n : Name} {e : Entry} (he : out.lookup (labelled' cfg.label n) = some e) :
      (out.lookup (labelled' cfg.label n)).map (arrOf I) = some (arrOf I e) := by rw [he]; rfl
  obtain ⟨qT, qD⟩ := read_q I v.times (by omega)
  obtain ⟨lv, d', hl, e1, e2, e3, e4, e5, e6, e7, e8, e9⟩ :=
    load_alf inv cfg.label (project I out) (namesS_project I _ out hK)
      (fun n => (out.lookup (labelled' cfg.label n)).map (arrOf I)) (lookup_project I cfg.label out hK)
      _ _ _ _ _ _ _ _ _ (L hT) (L hS) (by rw [qD]; exact hmono) (L hA) (L hTm) (L hC) (L hR) (L hP) (L hW) (L hWC)
  refine ⟨lv, d', hl, ?_, ?_, ?_, ?_, e5, ?_, e7, e8, e9⟩
  · rw [e1, qT]
  · rw [e2, read_z I _ v.samples rfl h2]
  · rw [e3, read_z I ec _ (by rw [hCr, hscr]) (by simp; omega)]
  · rw [e4, read_z I et _ (by rw [hTr, hstr]) (by simp; omega)]
  · rw [e6]
    exact read_tok_scalar I "rawInd" _ _ (by rw [C14.Lemmas.exportRawInd_length]; exact hv5.symm) (hI _ _) hraw

theorem source_in_samples_exports_seconds (cfg : Cfg) (rate : Rat) (s : List Int) (rest : View) (gen : Nat → String)
    (fs : FS) (h : Convertible cfg fs) (hr : 0 < rate) :
    (viewOfFile rate (.inSamples s) rest).samples = s ∧
    (viewOfFile rate (.inSamples s) rest).times = timesOf rate s ∧
    (convertFS cfg (viewOfFile rate (.inSamples s) rest) gen fs).fs.out.lookup
        (labelled' cfg.label ["spikes", "times", "npy"]) = some (fresh ((timesOf rate s).map Row.q)) ∧
    (convertFS cfg (viewOfFile rate (.inSamples s) rest) gen fs).fs.out.lookup
        (labelled' cfg.label ["spikes", "samples", "npy"]) = some (fresh (s.map Row.z)) ∧
    ∀ (i : Nat) (_ : i < s.length), (timesOf rate s).getD i 0 * rate = (s.getD i 0 : Int) := by
  obtain ⟨h1, h2⟩ := export_times_samples cfg (viewOfFile rate (.inSamples s) rest) gen fs h
  exact ⟨rfl, rfl, h1, h2, (times_in_seconds rate s (fun h0 => by rw [h0] at hr; exact absurd hr (by decide))).2⟩

theorem source_in_seconds_exports_verbatim (cfg : Cfg) (rate : Rat) (t : List Rat) (s : Option (List Int)) (rest : View)
    (gen : Nat → String) (fs : FS) (h : Convertible cfg fs) :
    (convertFS cfg (viewOfFile rate (.inSeconds t s) rest) gen fs).fs.out.lookup
        (labelled' cfg.label ["spikes", "times", "npy"]) = some (fresh (t.map Row.q)) := by
  have h1 := (export_times_samples cfg (viewOfFile rate (.inSeconds t s) rest) gen fs h).1
  rw [h1]
  cases s <;> rfl

end PhyVerif.C13.Lemmas
