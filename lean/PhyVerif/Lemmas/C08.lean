import PhyVerif.Model.C08
import PhyVerif.Spec.C08
import PhyVerif.Spec.C07
import PhyVerif.Lemmas.C07
/-! Curated clusters (`Model/C08.lean`) against `Spec/C08.lean`: the entry of `mergeMap` for an id is the distinct
templates filtered by "some spike carries both" (`mergeMap_getD`), which for equally long assignments is `templatesOf`;
`argmaxNat` is the first maximum; `clusterMean` in closed form (`clusterMean_eq`); the three branches of
`clusterWaveforms`. -/
namespace PhyVerif.C08.Lemmas
open PhyVerif PhyVerif.C09 PhyVerif.C08

theorem mem_zip_imp (st sc : List Nat) (t c : Nat) (h : (t, c) ∈ st.zip sc) :
    ∃ i, i < st.length ∧ st.getD i 0 = t ∧ sc.getD i 0 = c := by
  obtain ⟨i, hi⟩ := List.mem_iff_getElem?.1 h
  obtain ⟨h1, h2⟩ := List.getElem?_zip_eq_some.1 hi
  exact ⟨i, (List.getElem?_eq_some_iff.1 h1).1, by rw [List.getD_eq_getElem?_getD, h1]; rfl,
    by rw [List.getD_eq_getElem?_getD, h2]; rfl⟩

theorem zip_eq_map_range (st sc : List Nat) (hlen : st.length = sc.length) :
    st.zip sc = (List.range sc.length).map fun i => (st.getD i 0, sc.getD i 0) := by
  conv => lhs; rw [← Np.Lemmas.map_getD_range st 0, ← Np.Lemmas.map_getD_range sc 0, hlen, List.zip_map']

theorem mem_zip_iff (st sc : List Nat) (hlen : st.length = sc.length) (t c : Nat) :
    (t, c) ∈ st.zip sc ↔ ∃ i, i < st.length ∧ st.getD i 0 = t ∧ sc.getD i 0 = c := by
  rw [zip_eq_map_range st sc hlen, hlen]
  simp only [List.mem_map, List.mem_range, Prod.mk.injEq]

theorem getD_le_foldl_max (l : List Nat) (i : Nat) : l.getD i 0 ≤ l.foldl max 0 := by
  rw [List.getD_eq_getElem?_getD]
  cases h : l[i]? with
  | none => exact Nat.zero_le _
  | some v => exact (Np.Lemmas.le_foldl_max l 0).2 v (List.mem_of_getElem? h)

theorem getD_table {α : Type} (f : Nat → Nat → α) (ns nc s ch : Nat) (d : α) :
    (((List.range ns).map fun s => (List.range nc).map (f s)).getD s []).getD ch d =
      if s < ns ∧ ch < nc then f s ch else d := by
  rw [Np.Lemmas.getD_map_range_ite]
  by_cases hs : s < ns
  · rw [if_pos hs, Np.Lemmas.getD_map_range_ite]
    simp only [hs, true_and]
  · rw [if_neg hs, if_neg fun h => hs h.1]
    rfl

theorem length_foldl {α β : Type} (f : List α → β → List α) (hf : ∀ a b, (f a b).length = a.length)
    (L : List β) (acc : List α) : (L.foldl f acc).length = acc.length := by
  induction L generalizing acc with
  | nil => rfl
  | cons b L ih => rw [List.foldl_cons, ih, hf]

/-- the distinct cluster ids of the spikes of template `t` -/
def mapping (st sc : List Nat) (t : Nat) : List Nat :=
  Np.unique (((List.range st.length).filter fun i => st.getD i 0 == t).map
    fun i => Int.ofNat (sc.getD i 0))

theorem mergeMap_eq (st sc : List Nat) :
    mergeMap st sc = (Np.unique (st.map Int.ofNat)).foldl (fun acc t =>
      (mapping st sc t).foldl (fun a n => a.set n (a.getD n [] ++ [t])) acc)
      (List.replicate (sc.foldl max 0 + 1) []) := rfl

theorem mem_mapping (st sc : List Nat) (t c : Nat) :
    c ∈ mapping st sc t ↔ ∃ i, i < st.length ∧ st.getD i 0 = t ∧ sc.getD i 0 = c := by
  unfold mapping
  rw [(C07.Lemmas.unique_spec _).2 c]
  simp only [List.mem_map, List.mem_filter, List.mem_range, beq_iff_eq, Int.ofNat_eq_natCast,
    Int.natCast_inj, and_assoc]

theorem mapping_nodup (st sc : List Nat) (t : Nat) : (mapping st sc t).Nodup :=
  (C07.Lemmas.unique_spec _).1.imp Nat.ne_of_lt

theorem mergeMap_length (st sc : List Nat) : (mergeMap st sc).length = sc.foldl max 0 + 1 := by
  rw [mergeMap_eq, length_foldl _ fun a t => length_foldl _ (fun _ _ => List.length_set) _ a,
    List.length_replicate]

/-- `t` is appended once to each entry listed in `m` -/
theorem inner_fold (t : Nat) (m : List Nat) (hm : m.Nodup) (a : List (List Nat))
    (hb : ∀ n ∈ m, n < a.length) (c : Nat) :
    (m.foldl (fun a n => a.set n (a.getD n [] ++ [t])) a).getD c [] =
      if c ∈ m then a.getD c [] ++ [t] else a.getD c [] := by
  induction m generalizing a with
  | nil => rfl
  | cons n ns ih =>
    rw [List.nodup_cons] at hm
    rw [List.foldl_cons, ih hm.2 _ fun k hk => by
        rw [List.length_set]
        exact hb k (List.mem_cons_of_mem _ hk),
      List.getD_eq_getElem?_getD (l := a.set _ _)]
    by_cases hcn : c = n
    · subst hcn
      rw [if_neg hm.1, if_pos List.mem_cons_self, List.getElem?_set_self (hb c List.mem_cons_self)]
      rfl
    · rw [List.getElem?_set_ne (Ne.symm hcn), ← List.getD_eq_getElem?_getD]
      simp only [List.mem_cons, hcn, false_or]

/-- entry `c` collects, in the order of `L`, the `t` whose list `mp t` contains `c` -/
theorem outer_fold (mp : Nat → List Nat) (L : List Nat) (hnd : ∀ t ∈ L, (mp t).Nodup)
    (acc : List (List Nat)) (hb : ∀ t ∈ L, ∀ n ∈ mp t, n < acc.length) (c : Nat) :
    (L.foldl (fun acc t => (mp t).foldl (fun a n => a.set n (a.getD n [] ++ [t])) acc) acc).getD c [] =
      acc.getD c [] ++ L.filter (fun t => decide (c ∈ mp t)) := by
  induction L generalizing acc with
  | nil => exact (List.append_nil _).symm
  | cons t ts ih =>
    rw [List.foldl_cons, ih (fun u hu => hnd u (List.mem_cons_of_mem _ hu)) _ fun u hu n hn => by
        rw [length_foldl _ fun _ _ => List.length_set]
        exact hb u (List.mem_cons_of_mem _ hu) n hn,
      inner_fold t (mp t) (hnd t List.mem_cons_self) acc (hb t List.mem_cons_self), List.filter_cons]
    by_cases hc : c ∈ mp t
    · rw [if_pos hc, if_pos (decide_eq_true hc), List.append_assoc]
      rfl
    · rw [if_neg hc, if_neg (by rw [decide_eq_true_eq]; exact hc)]

/-- `get_merge_map` entry by entry: the distinct templates, filtered; the lengths of `st` and `sc` are arbitrary -/
theorem mergeMap_getD (st sc : List Nat) (c : Nat) :
    (mergeMap st sc).getD c [] =
      (Np.unique (st.map Int.ofNat)).filter (fun t => decide (c ∈ mapping st sc t)) := by
  rw [mergeMap_eq, outer_fold (mapping st sc) _ (fun t _ => mapping_nodup st sc t) _
    (fun t _ n hn => by
      obtain ⟨i, _, _, rfl⟩ := (mem_mapping st sc t n).1 hn
      rw [List.length_replicate]
      exact Nat.lt_succ_of_le (getD_le_foldl_max sc i)),
    Np.Lemmas.getD_replicate, ite_self, List.nil_append]

/-- template `t` is listed under id `c` exactly when some spike carries both (beyond the end of the
cluster vector the id reads `0`) -/
theorem mem_mergeMap_getD (st sc : List Nat) (c t : Nat) :
    t ∈ (mergeMap st sc).getD c [] ↔ ∃ i, i < st.length ∧ st.getD i 0 = t ∧ sc.getD i 0 = c := by
  rw [mergeMap_getD, List.mem_filter, decide_eq_true_eq, mem_mapping]
  refine and_iff_right_of_imp ?_
  rintro ⟨i, hi, rfl, _⟩
  exact ((C07.Lemmas.distinctSorted_spec st).2 _).2 (Np.Lemmas.getD_mem st i 0 hi)

theorem mem_templatesOf (st sc : List Nat) (c t : Nat) :
    t ∈ templatesOf st sc c ↔ (t, c) ∈ st.zip sc := by
  unfold templatesOf
  rw [(C07.Lemmas.unique_spec _).2 t]
  simp only [List.mem_map, List.mem_filter, beq_iff_eq, Int.ofNat_eq_natCast, Int.natCast_inj]
  constructor
  · rintro ⟨⟨a, b⟩, ⟨h1, rfl⟩, rfl⟩
    exact h1
  · intro h; exact ⟨(t, c), ⟨h, rfl⟩, rfl⟩

theorem templatesOf_pairwise (st sc : List Nat) (c : Nat) :
    (templatesOf st sc c).Pairwise (· < ·) :=
  (C07.Lemmas.unique_spec _).1

theorem templatesOf_subset_mergeMap (st sc : List Nat) (c : Nat) :
    templatesOf st sc c ⊆ (mergeMap st sc).getD c [] := fun t h =>
  (mem_mergeMap_getD st sc c t).2 (mem_zip_imp st sc t c ((mem_templatesOf st sc c t).1 h))

theorem mergeMap_spec (st sc : List Nat) (hlen : st.length = sc.length) (c : Nat) :
    (mergeMap st sc).getD c [] = templatesOf st sc c ∧ (mergeMap st sc).length = sc.foldl max 0 + 1 := by
  refine ⟨?_, mergeMap_length st sc⟩
  apply Np.Lemmas.eq_of_pairwise_lt_of_mem_iff
  · rw [mergeMap_getD]
    exact List.Pairwise.filter _ (C07.Lemmas.unique_spec _).1
  · exact templatesOf_pairwise st sc c
  · intro t
    rw [mem_mergeMap_getD, mem_templatesOf, mem_zip_iff st sc hlen]

theorem templatesOf_eq_nil_iff (st sc : List Nat) (hlen : st.length = sc.length) (c : Nat) :
    templatesOf st sc c = [] ↔ c ∉ sc := by
  rw [List.eq_nil_iff_forall_not_mem]
  constructor
  · intro h hc
    obtain ⟨i, hi, rfl⟩ := List.mem_iff_getElem.1 hc
    apply h (st.getD i 0)
    rw [mem_templatesOf, mem_zip_iff st sc hlen]
    exact ⟨i, hlen ▸ hi, rfl, (List.getElem_eq_getD 0).symm⟩
  · intro h t ht
    exact h (List.of_mem_zip ((mem_templatesOf st sc c t).1 ht)).2

theorem nanIdx_spec (st sc : List Nat) (hlen : st.length = sc.length) (c : Nat) :
    c ∈ nanIdx (mergeMap st sc) ↔ (c ≤ sc.foldl max 0 ∧ c ∉ sc) := by
  unfold nanIdx
  obtain ⟨h1, h2⟩ := mergeMap_spec st sc hlen c
  rw [List.mem_filter, List.mem_range, h1, h2, List.isEmpty_iff, templatesOf_eq_nil_iff st sc hlen,
    Nat.lt_succ_iff]

theorem lt_mergeMap_length (st sc : List Nat) (c t : Nat) (h : t ∈ templatesOf st sc c) :
    c < (mergeMap st sc).length := by
  rw [mergeMap_length]
  exact Nat.lt_succ_of_le ((Np.Lemmas.le_foldl_max sc 0).2 c (List.of_mem_zip ((mem_templatesOf st sc c t).1 h)).2)

theorem lt_of_mem_templatesOf (st sc : List Nat) (n c t : Nat) (hst : ∀ t ∈ st, t < n)
    (h : t ∈ templatesOf st sc c) : t < n :=
  hst t (List.of_mem_zip ((mem_templatesOf st sc c t).1 h)).1

theorem single_template_unchanged (W : List Mat) (chans : List (List Nat)) (st sc : List Nat)
    (hlen : st.length = sc.length) (ns nc c t : Nat)
    (h1 : templatesOf st sc c = [t]) :
    (clusterWaveforms W chans st sc ns nc).getD c [] = W.getD t [] := by
  unfold clusterWaveforms
  dsimp only
  rw [Np.Lemmas.getD_map_range _ _ _ _ (lt_mergeMap_length st sc c t (h1 ▸ List.mem_cons_self)),
    (mergeMap_spec st sc hlen c).1, h1]

theorem templateCounts_length (st sc : List Nat) (nt c : Nat) :
    (templateCounts st sc nt c).length = nt := by
  unfold templateCounts
  rw [List.length_map, List.length_range]

theorem templateCounts_getD (st sc : List Nat) (nt c t : Nat) (h : t < nt) :
    (templateCounts st sc nt c).getD t 0 = countOf st sc t c :=
  Np.Lemmas.getD_map_range _ _ _ _ h

theorem countOf_ne_zero_iff (st sc : List Nat) (t c : Nat) :
    countOf st sc t c ≠ 0 ↔ t ∈ templatesOf st sc c := by
  unfold countOf
  rw [mem_templatesOf, ← Nat.pos_iff_ne_zero, List.length_pos_iff_exists_mem]
  simp only [List.mem_filter, Bool.and_eq_true, beq_iff_eq]
  constructor
  · rintro ⟨⟨a, b⟩, h, rfl, rfl⟩
    exact h
  · intro h
    exact ⟨(t, c), h, rfl, rfl⟩

theorem ids_eq (st sc : List Nat) (n c : Nat) (hst : ∀ t ∈ st, t < n) :
    ((List.range n).filter fun t => (templateCounts st sc n c).getD t 0 != 0) =
      templatesOf st sc c := by
  apply Np.Lemmas.eq_of_pairwise_lt_of_mem_iff
  · exact List.Pairwise.filter _ List.pairwise_lt_range
  · exact templatesOf_pairwise st sc c
  · intro t
    rw [List.mem_filter, List.mem_range, bne_iff_ne]
    exact (and_congr_right fun h1 => by rw [templateCounts_getD _ _ _ _ _ h1, countOf_ne_zero_iff]).trans
      (and_iff_right_of_imp (lt_of_mem_templatesOf st sc n c t hst))

theorem onChannels_getD (M : Mat) (chs : List Nat) (s ch : Nat) :
    ((onChannels M chs).getD s []).getD ch 0 =
      if chs.contains ch then (M.getD s []).getD ch 0 else 0 := by
  have e : ∀ row : List Rat, ((List.range row.length).map fun c =>
      if chs.contains c then row.getD c 0 else 0).getD ch 0 =
      if chs.contains ch then row.getD ch 0 else 0 := by
    intro row
    rw [Np.Lemmas.getD_map_range_ite]
    refine ite_eq_left_iff.2 fun h => ?_
    rw [Np.Lemmas.getD_of_le _ _ _ (Nat.le_of_not_lt h), ite_self]
  unfold onChannels
  exact (congrArg (fun r : List Rat => r.getD ch 0) (Np.Lemmas.getD_map _ M s [] _ rfl)).trans (e _)

theorem foldl_max0_mem (l : List Nat) (hne : l ≠ []) : l.foldl max 0 ∈ l := by
  have h := List.max?_eq_some_max hne
  rw [List.foldl_max, Nat.zero_max, h]
  exact List.max?_mem h

theorem argmaxNat_spec (l : List Nat) (hne : l ≠ []) :
    argmaxNat l < l.length ∧ (∀ t, l.getD t 0 ≤ l.getD (argmaxNat l) 0) ∧
      ∀ t, t < argmaxNat l → l.getD t 0 < l.getD (argmaxNat l) 0 := by
  have hlt : argmaxNat l < l.length := List.idxOf_lt_length_of_mem (foldl_max0_mem l hne)
  have hval : l.getD (argmaxNat l) 0 = l.foldl max 0 := by
    rw [← List.getElem_eq_getD (h := hlt) 0]
    exact List.getElem_idxOf hlt
  rw [hval]
  refine ⟨hlt, getD_le_foldl_max l, fun t ht => Nat.lt_of_le_of_ne (getD_le_foldl_max l t) ?_⟩
  have h := List.not_of_lt_findIdx (show t < l.findIdx (· == l.foldl max 0) from ht)
  rw [← List.getElem_eq_getD (h := Nat.lt_trans ht hlt) 0]
  exact fun e => by rw [e, beq_self_eq_true] at h; cases h

theorem argmaxNat_unique (l : List Nat) (k : Nat) (hk : k < l.length)
    (hmax : ∀ t, l.getD t 0 ≤ l.getD k 0) (hfirst : ∀ t, t < k → l.getD t 0 < l.getD k 0) :
    argmaxNat l = k := by
  obtain ⟨_, h2, h3⟩ := argmaxNat_spec l (List.ne_nil_of_length_pos (Nat.zero_lt_of_lt hk))
  rcases Nat.lt_trichotomy (argmaxNat l) k with h | h | h
  · exact absurd (hfirst _ h) (Nat.not_lt.2 (h2 k))
  · exact h
  · exact absurd (h3 _ h) (Nat.not_lt.2 (hmax _))

theorem dominant_is_first_max (st sc : List Nat) (nt c : Nat) (hnt : 0 < nt) :
    let cnt := templateCounts st sc nt c
    argmaxNat cnt < nt ∧ (∀ t, t < nt → cnt.getD t 0 ≤ cnt.getD (argmaxNat cnt) 0) ∧
      ∀ t, t < argmaxNat cnt → cnt.getD t 0 < cnt.getD (argmaxNat cnt) 0 := by
  intro cnt
  have hl : cnt.length = nt := templateCounts_length st sc nt c
  obtain ⟨h1, h2, h3⟩ := argmaxNat_spec cnt (List.ne_nil_of_length_pos (hl ▸ hnt))
  exact ⟨hl ▸ h1, fun t _ => h2 t, h3⟩

theorem dominant_has_max_count (st sc : List Nat) (nt c : Nat) (hnt : 0 < nt) :
    let cnt := templateCounts st sc nt c
    argmaxNat cnt < nt ∧ ∀ t, t < nt → cnt.getD t 0 ≤ cnt.getD (argmaxNat cnt) 0 :=
  have h := dominant_is_first_max st sc nt c hnt
  ⟨h.1, h.2.1⟩

/-- `get_cluster_mean_waveforms` in closed form: the channels of the dominant template and, on them,
the weighted mean of the statement -/
theorem clusterMean_eq (W : List Mat) (chans : List (List Nat)) (st sc : List Nat)
    (hst : ∀ t ∈ st, t < W.length) (c : Nat) :
    clusterMean W chans st sc c =
      (chans.getD (argmaxNat (templateCounts st sc W.length c)) [],
        (List.range (W.getD (argmaxNat (templateCounts st sc W.length c)) []).length).map fun s =>
          (chans.getD (argmaxNat (templateCounts st sc W.length c)) []).map fun ch =>
            weightedMean W chans st sc c s ch) := by
  have hcnt : ∀ t ∈ templatesOf st sc c,
      (templateCounts st sc W.length c).getD t 0 = countOf st sc t c := fun t ht =>
    templateCounts_getD _ _ _ _ _ (lt_of_mem_templatesOf st sc _ c t hst ht)
  unfold clusterMean weightedMean
  dsimp only
  rw [ids_eq st sc W.length c hst, List.map_congr_left hcnt]
  refine congrArg (Prod.mk _) (List.map_congr_left fun s _ => List.map_congr_left fun ch _ => ?_)
  refine congrArg (· / _) (congrArg List.sum (List.map_congr_left fun t ht => ?_))
  rw [hcnt t ht, onChannels_getD]

theorem clusterMean_spec (W : List Mat) (chans : List (List Nat)) (st sc : List Nat)
    (hst : ∀ t ∈ st, t < W.length) (ns nc c : Nat)
    (hc : templatesOf st sc c ≠ [])
    (hW : ∀ M ∈ W, M.length = ns ∧ ∀ row ∈ M, row.length = nc) :
    (clusterMean W chans st sc c).1 = chans.getD (argmaxNat (templateCounts st sc W.length c)) [] ∧
    (clusterMean W chans st sc c).2.length = ns ∧
    (∀ row ∈ (clusterMean W chans st sc c).2,
      row.length = (chans.getD (argmaxNat (templateCounts st sc W.length c)) []).length) ∧
    0 < ((templatesOf st sc c).map fun t => countOf st sc t c).sum ∧
    ∀ s k, s < ns → (hk : k < (chans.getD (argmaxNat (templateCounts st sc W.length c)) []).length) →
      (((clusterMean W chans st sc c).2).getD s []).getD k 0 =
        weightedMean W chans st sc c s
          ((chans.getD (argmaxNat (templateCounts st sc W.length c)) [])[k]) := by
  obtain ⟨a, ha⟩ := List.exists_mem_of_ne_nil _ hc
  have hbest : argmaxNat (templateCounts st sc W.length c) < W.length :=
    (dominant_has_max_count st sc W.length c
      (Nat.zero_lt_of_lt (lt_of_mem_templatesOf st sc _ c a hst ha))).1
  have hns : (W.getD (argmaxNat (templateCounts st sc W.length c)) []).length = ns :=
    (hW _ (Np.Lemmas.getD_mem W _ [] hbest)).1
  rw [clusterMean_eq W chans st sc hst c, hns]
  refine ⟨rfl, by rw [List.length_map, List.length_range], ?_, ?_, ?_⟩
  · intro row hrow
    obtain ⟨s, _, rfl⟩ := List.mem_map.1 hrow
    rw [List.length_map]
  · exact List.sum_pos_iff_exists_pos_nat.2 ⟨_, List.mem_map_of_mem ha,
      Nat.pos_of_ne_zero ((countOf_ne_zero_iff st sc a c).2 ha)⟩
  · intro s k hs hk
    dsimp only
    rw [Np.Lemmas.getD_map_range _ _ _ _ hs, Np.Lemmas.getD_map_of_lt _ _ k 0 0 hk,
      ← List.getElem_eq_getD (h := hk) 0]

theorem W_entry_zero (W : List Mat) (ns nc : Nat)
    (hW : ∀ M ∈ W, M.length = ns ∧ ∀ row ∈ M, row.length = nc) (t s ch : Nat) (ht : t < W.length)
    (h : ¬ (s < ns ∧ ch < nc)) : ((W.getD t []).getD s []).getD ch 0 = 0 := by
  obtain ⟨hl, hrow⟩ := hW _ (Np.Lemmas.getD_mem W t [] ht)
  generalize W.getD t [] = M at hl hrow
  by_cases hs : s < M.length
  · refine Np.Lemmas.getD_of_le _ _ _ ?_
    rw [hrow _ (Np.Lemmas.getD_mem M s [] hs)]
    exact Nat.le_of_not_lt fun hc => h ⟨hl ▸ hs, hc⟩
  · rw [Np.Lemmas.getD_of_le M s [] (Nat.le_of_not_lt hs)]
    rfl

theorem sum_eq_zero (l : List Rat) (h : ∀ v ∈ l, v = 0) : l.sum = 0 := by
  induction l with
  | nil => rfl
  | cons a l ih =>
    rw [List.sum_cons, h a List.mem_cons_self, ih fun v hv => h v (List.mem_cons_of_mem _ hv), Rat.zero_add]

theorem weightedMean_zero (W : List Mat) (chans : List (List Nat)) (st sc : List Nat) (c s ch : Nat)
    (hz : ∀ t ∈ templatesOf st sc c, ((W.getD t []).getD s []).getD ch 0 = 0) :
    weightedMean W chans st sc c s ch = 0 := by
  unfold weightedMean
  dsimp only
  rw [sum_eq_zero _ fun v hv => by
      obtain ⟨t, ht, rfl⟩ := List.mem_map.1 hv
      rw [hz t ht, ite_self, Rat.mul_zero],
    Rat.div_def, Rat.zero_mul]

theorem multi_template_weighted_mean (W : List Mat) (chans : List (List Nat)) (st sc : List Nat)
    (hst : ∀ t ∈ st, t < W.length) (ns nc c : Nat)
    (hmulti : 2 ≤ (templatesOf st sc c).length)
    (hW : ∀ M ∈ W, M.length = ns ∧ ∀ row ∈ M, row.length = nc)
    (s ch : Nat) :
    (((clusterWaveforms W chans st sc ns nc).getD c []).getD s []).getD ch 0 =
      if (chans.getD (argmaxNat (templateCounts st sc W.length c)) []).contains ch
      then weightedMean W chans st sc c s ch else 0 := by
  obtain ⟨a, ha⟩ := List.exists_mem_of_length_pos (Nat.lt_of_lt_of_le Nat.zero_lt_two hmulti)
  -- the table lists at least the templates of the cluster, so the weighted-mean branch is taken
  have hT : 2 ≤ ((mergeMap st sc).getD c []).length := Nat.le_trans hmulti
    (List.Nodup.length_le_of_subset ((templatesOf_pairwise st sc c).imp Nat.ne_of_lt)
      (templatesOf_subset_mergeMap st sc c))
  obtain ⟨hfst, _, _, _, hent⟩ :=
    clusterMean_spec W chans st sc hst ns nc c (List.ne_nil_of_mem ha) hW
  unfold clusterWaveforms
  dsimp only
  rw [Np.Lemmas.getD_map_range _ _ _ _ (lt_mergeMap_length st sc c a ha)]
  generalize (mergeMap st sc).getD c [] = T at hT
  match T, hT with
  | _ :: _ :: _, _ =>
    dsimp only
    rw [hfst, getD_table]
    by_cases hin : s < ns ∧ ch < nc
    · rw [if_pos hin]
      refine ite_congr rfl (fun hcont => ?_) fun _ => rfl
      have hk := List.idxOf_lt_length_of_mem (List.contains_iff_mem.1 hcont)
      rw [hent s _ hin.1 hk, List.getElem_idxOf hk]
    · -- outside the `(ns, nc)` block every template reads zero
      rw [if_neg hin, weightedMean_zero W chans st sc c s ch fun t ht =>
        W_entry_zero W ns nc hW t s ch (lt_of_mem_templatesOf st sc _ c t hst ht) hin, ite_self]

theorem uncurated_identity (W : List Mat) (chans : List (List Nat)) (st : List Nat) (ns nc : Nat) :
    loadClusters W chans st st ns nc = (W, W.length) := by
  unfold loadClusters
  rw [bne_self_eq_false, if_neg Bool.false_ne_true]

theorem cluster_count_rule (W : List Mat) (chans : List (List Nat)) (st sc : List Nat) (ns nc : Nat) :
    (loadClusters W chans st sc ns nc).1.length = (loadClusters W chans st sc ns nc).2 ∧
    (loadClusters W chans st sc ns nc).2 = if sc = st then W.length else sc.foldl max 0 + 1 := by
  by_cases h : sc = st
  · subst h
    rw [uncurated_identity, if_pos rfl]
    exact ⟨rfl, rfl⟩
  · unfold loadClusters
    rw [if_pos (bne_iff_ne.2 h), if_neg h]
    refine ⟨?_, rfl⟩
    unfold clusterWaveforms
    rw [List.length_map, List.length_range, mergeMap_length]

end PhyVerif.C08.Lemmas
