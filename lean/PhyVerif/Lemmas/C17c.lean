import PhyVerif.Lemmas.C17b
/-! C17: only the ORDER of spike times and chunk bounds enters the selection (`Inp.mapTimes`). -/
namespace PhyVerif.C17.Lemmas
open PhyVerif PhyVerif.C17

theorem le_iff_of_strict (f : Int → Int) (hf : ∀ a b, a < b → f a < f b) (a b : Int) : f a ≤ f b ↔ a ≤ b := by
  constructor
  · exact fun h => Int.not_lt.1 fun hc => Int.not_lt.2 h (hf b a hc)
  · intro h
    rcases Int.lt_or_eq_of_le h with h | rfl
    · exact Int.le_of_lt (hf a b h)
    · exact Int.le_refl _

theorem ssRight_map (f : Int → Int) (hf : ∀ a b, a < b → f a < f b) (b : List Int) (t : Int) :
    Np.ssRight (b.map f) (f t) = Np.ssRight b t := by
  unfold Np.ssRight
  rw [List.countP_map]
  apply List.countP_congr
  intro a _
  rw [Function.comp_apply, decide_eq_true_eq, decide_eq_true_eq]
  exact le_iff_of_strict f hf a t

theorem chunksKept_map (f : Int → Int) (bounds : List Int) (nKept : Nat) :
    chunksKept (bounds.map f) nKept = (chunksKept bounds nKept).map f := by
  unfold chunksKept
  rw [List.length_map, List.map_flatMap]
  congr 1
  funext i
  rw [← List.map_drop, ← List.map_take]

theorem mem_spikesOf_lt (clusters : List Nat) (c i : Nat) (h : i ∈ spikesOf clusters c) : i < clusters.length := by
  unfold spikesOf at h
  rw [List.mem_filter, List.mem_range] at h
  exact h.1

theorem eligible_mapTimes (f : Int → Int) (hf : ∀ a b, a < b → f a < f b) (x : Inp)
    (hd : x.times.length = x.clusters.length) (c : Nat) : eligible (x.mapTimes f) c = eligible x c := by
  have key : (spikesOf x.clusters c).filter
        (fun i => timeInChunks (chunksKept (x.bounds.map f) x.nKept) ((x.times.map f).getD i 0)) =
      (spikesOf x.clusters c).filter (fun i => timeInChunks (chunksKept x.bounds x.nKept) (x.times.getD i 0)) := by
    apply List.filter_congr
    intro i hi
    have hlt : i < x.times.length := by rw [hd]; exact mem_spikesOf_lt _ _ _ hi
    unfold timeInChunks
    rw [Np.Lemmas.getD_map_of_lt f x.times i 0 0 hlt, chunksKept_map, ssRight_map f hf]
  unfold eligible Inp.mapTimes
  dsimp only
  rw [key]

theorem selectWith_mapTimes (choose : List Nat → Nat → List Nat) (f : Int → Int) (hf : ∀ a b, a < b → f a < f b)
    (x : Inp) (hd : x.times.length = x.clusters.length) : selectWith choose (x.mapTimes f) = selectWith choose x := by
  have hc : selectCluster choose (x.mapTimes f) = selectCluster choose x := funext fun c => by
    unfold selectCluster
    rw [eligible_mapTimes f hf x hd c]
    rfl
  unfold selectWith
  rw [show (x.mapTimes f).req = x.req from rfl, hc]

end PhyVerif.C17.Lemmas
