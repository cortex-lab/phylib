import PhyVerif.Model.C18j
import PhyVerif.Spec.C18j
/-! The text of a string inside the JSON file (`Model/C18j.lean`): the escaped text is printable ASCII; scanning
the literal gives the string back.  Everything about one code point goes through `escChar_cases`. -/
namespace PhyVerif.C18.Lemmas
open PhyVerif.C18

theorem hexDigit_range : ∀ k, k < 16 → 32 ≤ hexDigit k ∧ hexDigit k ≤ 126 := by decide

theorem hexVal_hexDigit : ∀ k, k < 16 → hexVal (hexDigit k) = some k := by decide

theorem hex4Val_hex4 (n : Nat) (h : n < 65536) :
    hex4Val (hexDigit (n / 4096 % 16)) (hexDigit (n / 256 % 16)) (hexDigit (n / 16 % 16)) (hexDigit (n % 16)) = some n := by
  have hd (k : Nat) : hexVal (hexDigit (k % 16)) = some (k % 16) := hexVal_hexDigit _ (Nat.mod_lt _ (by decide))
  have h3 : n / 4096 = n / 256 / 16 := (Nat.div_div_eq_div_mul n 256 16).symm
  have h2 : n / 256 = n / 16 / 16 := (Nat.div_div_eq_div_mul n 16 16).symm
  unfold hex4Val
  rw [hd, hd, hd, hd]
  show some _ = _
  -- Horner's rule, from the top digit down (`omega` on the four quotients is slow to check)
  rw [Nat.mod_eq_of_lt (Nat.div_lt_of_lt_mul h), h3, Nat.div_add_mod', h2, Nat.div_add_mod', Nat.div_add_mod']

theorem isHigh_add (k : Nat) (h : k < 1024) : isHigh (55296 + k) = true := by
  simp only [isHigh, Bool.and_eq_true, decide_eq_true_eq]
  omega

theorem isLow_add (k : Nat) (h : k < 1024) : isLow (56320 + k) = true := by
  simp only [isLow, Bool.and_eq_true, decide_eq_true_eq]
  omega

theorem isLow_of_lt (u : Nat) (h : u < 56320) : isLow u = false := by
  simp only [isLow, Bool.and_eq_false_imp, decide_eq_true_eq, decide_eq_false_iff_not]
  omega

theorem joinPair_halves (c : Nat) (h1 : 65536 ≤ c) (h2 : c < 1114112) :
    joinPair (55296 + (c - 65536) / 1024 % 1024) (56320 + (c - 65536) % 1024) = c := by
  -- `c = 65536 + m` with `m < 1024²`: the halves carry `m / 1024` and `m % 1024`
  obtain ⟨m, rfl⟩ := Nat.exists_eq_add_of_le h1
  have hm : m < 1024 * 1024 := by omega
  unfold joinPair
  rw [Nat.add_sub_cancel_left, Nat.add_sub_cancel_left, Nat.add_sub_cancel_left,
    Nat.mod_eq_of_lt (Nat.div_lt_of_lt_mul hm), Nat.div_add_mod']

/-- The four shapes of the text written for one code point: a short escape, the character itself, one
`\uXXXX`, a surrogate pair of two (which `joinPair` puts together again). -/
theorem escChar_cases (c : Nat) :
    (∃ e, escChar c = [92, e] ∧ simpleEsc e = some c ∧ e ≠ 117 ∧ 32 ≤ e ∧ e ≤ 126) ∨
    (escChar c = [c] ∧ c ≠ 34 ∧ c ≠ 92 ∧ 32 ≤ c ∧ c ≤ 126) ∨
    (escChar c = escU c ∧ c < 65536) ∨
    (∃ hi lo, escChar c = escU (55296 + hi) ++ escU (56320 + lo) ∧ hi < 1024 ∧ lo < 1024 ∧
      (c < 1114112 → joinPair (55296 + hi) (56320 + lo) = c)) := by
  by_cases hs : c = 34 ∨ c = 92 ∨ c = 8 ∨ c = 12 ∨ c = 10 ∨ c = 13 ∨ c = 9
  · rcases hs with rfl | rfl | rfl | rfl | rfl | rfl | rfl <;> exact .inl ⟨_, rfl, by decide⟩
  · simp only [not_or] at hs
    obtain ⟨h1, h2, h3, h4, h5, h6, h7⟩ := hs
    -- `split` on the nine-fold `if` is slow to check: the chain is rewritten branch by branch
    unfold escChar
    rw [if_neg h1, if_neg h2, if_neg h3, if_neg h4, if_neg h5, if_neg h6, if_neg h7]
    by_cases hp : 32 ≤ c ∧ c ≤ 126
    · rw [if_pos hp]
      exact .inr (.inl ⟨rfl, h1, h2, hp⟩)
    · rw [if_neg hp]
      by_cases hb : c < 65536
      · rw [if_pos hb]
        exact .inr (.inr (.inl ⟨rfl, hb⟩))
      · rw [if_neg hb]
        exact .inr (.inr (.inr ⟨_, _, rfl, Nat.mod_lt _ (by decide), Nat.mod_lt _ (by decide),
          joinPair_halves c (Nat.le_of_not_lt hb)⟩))

theorem escU_ascii (n b : Nat) (hb : b ∈ escU n) : 32 ≤ b ∧ b ≤ 126 := by
  simp only [escU, hex4, List.mem_cons, List.not_mem_nil, or_false] at hb
  rcases hb with h | h | h | h | h | h
  · omega
  · omega
  all_goals (subst h; exact hexDigit_range _ (Nat.mod_lt _ (by decide)))

theorem escChar_ascii (c b : Nat) (hb : b ∈ escChar c) : 32 ≤ b ∧ b ≤ 126 := by
  rcases escChar_cases c with ⟨e, h, _, _, he⟩ | ⟨h, _, _, hc⟩ | ⟨h, _⟩ | ⟨_, _, h, _⟩ <;> rw [h] at hb
  · simp only [List.mem_cons, List.not_mem_nil, or_false] at hb
    omega
  · simp only [List.mem_cons, List.not_mem_nil, or_false] at hb
    omega
  · exact escU_ascii _ _ hb
  · exact (List.mem_append.mp hb).elim (escU_ascii _ _) (escU_ascii _ _)

theorem escapeStr_cons (c : Nat) (s : PyStr) : escapeStr (c :: s) = escChar c ++ escapeStr s :=
  List.flatMap_cons

theorem escapeStr_ascii (s : PyStr) (b : Nat) (hb : b ∈ escapeStr s) : 32 ≤ b ∧ b ≤ 126 := by
  obtain ⟨c, _, hc⟩ := List.mem_flatMap.mp hb
  exact escChar_ascii c b hc

theorem strLiteral_ascii (s : PyStr) (b : Nat) (hb : b ∈ strLiteral s) : 32 ≤ b ∧ b ≤ 126 := by
  unfold strLiteral at hb
  simp only [List.mem_cons, List.mem_append, List.not_mem_nil, or_false] at hb
  rcases hb with h | h | h
  · omega
  · exact escapeStr_ascii s b h
  · omega

theorem strictAscii_literal (s : PyStr) : strictAscii (strLiteral s) = some (strLiteral s) := by
  unfold strictAscii
  rw [if_pos]
  simp only [List.all_eq_true, decide_eq_true_eq]
  intro b hb
  have := strLiteral_ascii s b hb
  omega

theorem strictUtf8_literal (s : PyStr) : strictUtf8Ok (strLiteral s) = true := by
  unfold strictUtf8Ok
  simp only [List.all_eq_true, Bool.not_eq_true', Bool.and_eq_false_imp, decide_eq_true_eq, decide_eq_false_iff_not]
  intro b hb
  have := strLiteral_ascii s b hb
  omega

theorem lookU_none (l : List Nat) (h : ∀ t, l ≠ 92 :: 117 :: t) : lookU l = none := by
  unfold lookU
  split
  · exact absurd rfl (h _)
  · exact absurd rfl (h _)
  · rfl

theorem lookU_escU (u : Nat) (t : List Nat) (hu : u < 65536) : lookU (escU u ++ t) = some (some u) :=
  congrArg some (hex4Val_hex4 u hu)

/-- the look-ahead neither raises nor finds a low surrogate: a `\uD8xx..\uDBxx` escape in front of this
text stands for itself -/
def NoLowAhead (l : List Nat) : Prop := lookU l = none ∨ ∃ u2, lookU l = some (some u2) ∧ isLow u2 = false

theorem scan_quote (rest : List Nat) : scan (34 :: rest) = some ([], rest) := by
  unfold scan
  rfl

theorem scan_simple (e c : Nat) (rest : List Nat) (he : e ≠ 117) (hs : simpleEsc e = some c) :
    scan (92 :: e :: rest) = consRes c (scan rest) := by
  rw [scan]
  · rw [hs]
  · exact fun _ _ _ _ _ h => absurd h he

theorem scan_plain (c : Nat) (rest : List Nat) (h1 : c ≠ 34) (h2 : c ≠ 92) (h3 : 32 ≤ c) :
    scan (c :: rest) = consRes c (scan rest) := by
  rw [scan]
  · exact if_neg (Nat.not_lt.mpr h3)
  · exact h1
  · exact fun _ _ _ _ _ h => absurd h h2
  · exact fun _ _ h => absurd h h2
  · exact fun h => absurd h h2

theorem scan_escU (u : Nat) (rest : List Nat) (hu : u < 65536) :
    scan (escU u ++ rest) =
      if isHigh u then
        match lookU rest with
        | none => consRes u (scan rest)
        | some none => none
        | some (some u2) =>
          if isLow u2 then consRes (joinPair u u2) (scan (rest.drop 6)) else consRes u (scan rest)
      else consRes u (scan rest) := by
  -- the branch is fixed by the first two characters: no need for the conditional equations `rw [scan]` builds
  rw [scan.eq_def]
  show (match hex4Val _ _ _ _ with | none => none | some u => _) = _
  rw [hex4Val_hex4 u hu]
  rfl

theorem scan_escU_single (u : Nat) (rest : List Nat) (hu : u < 65536) (h : isHigh u = true → NoLowAhead rest) :
    scan (escU u ++ rest) = consRes u (scan rest) := by
  rw [scan_escU u rest hu]
  split
  · rename_i hh
    rcases h hh with hl | ⟨u2, hl, h2⟩
    · rw [hl]
    · rw [hl]
      simp only [h2, Bool.false_eq_true, if_false]
  · rfl

theorem scan_escU_pair (u u2 : Nat) (rest : List Nat) (hu : u < 65536) (hu2 : u2 < 65536) (hh : isHigh u = true)
    (hl : isLow u2 = true) : scan (escU u ++ (escU u2 ++ rest)) = consRes (joinPair u u2) (scan rest) := by
  rw [scan_escU u _ hu, if_pos hh, lookU_escU u2 rest hu2]
  simp only [hl, if_true]
  rfl

theorem noLowAhead_escChar (c : Nat) (t : List Nat) (hc : isLow c = false) : NoLowAhead (escChar c ++ t) := by
  rcases escChar_cases c with ⟨e, h, _, he, _⟩ | ⟨h, _, h92, _⟩ | ⟨h, hlt⟩ | ⟨hi, _, h, hhi, _⟩ <;> rw [h]
  · exact .inl (lookU_none _ fun _ heq => he (List.cons.inj (List.cons.inj heq).2).1)
  · exact .inl (lookU_none _ fun _ heq => h92 (List.cons.inj heq).1)
  · exact .inr ⟨c, lookU_escU c t hlt, hc⟩
  · rw [List.append_assoc]
    exact .inr ⟨_, lookU_escU _ _ (by omega), isLow_of_lt _ (by omega)⟩

theorem scan_escChar (c : Nat) (t : List Nat) (hc : c < 1114112) (h : isHigh c = true → NoLowAhead t) :
    scan (escChar c ++ t) = consRes c (scan t) := by
  rcases escChar_cases c with ⟨e, he, hs, h117, _⟩ | ⟨he, h34, h92, h32, _⟩ | ⟨he, hlt⟩ | ⟨hi, lo, he, hhi, hlo, hj⟩ <;>
    rw [he]
  · exact scan_simple e c t h117 hs
  · exact scan_plain c t h34 h92 h32
  · exact scan_escU_single c t hlt h
  · rw [List.append_assoc, scan_escU_pair _ _ t (by omega) (by omega) (isHigh_add _ hhi) (isLow_add _ hlo), hj hc]

theorem noLowAhead_escapeStr (s : PyStr) (rest : List Nat) (h : headLow s = false) :
    NoLowAhead (escapeStr s ++ 34 :: rest) := by
  cases s with
  | nil => exact .inl (lookU_none (34 :: rest) fun _ heq => absurd (List.cons.inj heq).1 (by decide))
  | cons c s =>
    rw [escapeStr_cons, List.append_assoc]
    exact noLowAhead_escChar c _ h

theorem scan_escapeStr (s : PyStr) (rest : List Nat) (hv : ValidStr s) (hj : NoJoin s) :
    scan (escapeStr s ++ 34 :: rest) = some (s, rest) := by
  induction s with
  | nil => exact scan_quote rest
  | cons c s ih =>
    have hv' : ValidStr s := fun x hx => hv x (List.mem_cons_of_mem _ hx)
    rw [escapeStr_cons, List.append_assoc,
      scan_escChar c _ (hv c List.mem_cons_self) fun hh => noLowAhead_escapeStr s rest (hj.1 hh)]
    exact congrArg (consRes c) (ih hv' hj.2)

theorem strViaAsciiFile_eq (s : PyStr) (hv : ValidStr s) (hj : NoJoin s) : strViaAsciiFile s = some (s, []) := by
  unfold strViaAsciiFile
  rw [strictAscii_literal]
  exact scan_escapeStr s [] hv hj

end PhyVerif.C18.Lemmas
