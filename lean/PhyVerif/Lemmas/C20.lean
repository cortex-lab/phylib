import PhyVerif.Model.C20
/-! `download` of `Model/C20.lean` is a pre-check followed by `tries 2`: download, verify, on a mismatch once more.
`Run` lists the four ways a `tries n` can go; what holds of every call is proved by induction on it, for any number
of downloads, and `download_start` puts the pre-check in front.  After that: the first field of a checksum text
(`firstField`, `parseSum`) and the HTTP statuses that count as errors. -/
namespace PhyVerif.C20.Lemmas
open PhyVerif PhyVerif.C20

section
variable {hash : Nat → Nat} {n b : Nat} {f : Option Nat} {ds : List DataResp} {a : SumResp} {ss : List SumResp}
  {l : List (Req × Option SumResp)}

/-! An exhausted script answers like an error / a missing checksum: the answers are `ds.headD .httpError`,
`ss.headD .missing`. -/

theorem fetch_error (h : ds.headD .httpError = .httpError) : fetch ⟨f, ds, ss, l⟩ = none := by
  rcases ds with _ | ⟨_ | _, _⟩
  · rfl
  · cases h
  · rfl

theorem fetch_body : fetch ⟨f, .body b :: ds, ss, l⟩ = some ⟨some b, ds, ss, l ++ [(.data, none)]⟩ := rfl

/-- The tri-state of `_check_md5_of_url` for a file with body `b`, as a function of the answer. -/
def verdict (hash : Nat → Nat) (b : Nat) : SumResp → Option Bool
  | .avail h => some (hash b == h)
  | .missing => none

theorem verdict_eq_true : verdict hash b a = some true ↔ a = .avail (hash b) := by
  cases a <;> simp [verdict, @eq_comm _ (hash b)]

theorem verdict_eq_false : verdict hash b a = some false ↔ ∃ h, a = .avail h ∧ hash b ≠ h := by
  cases a <;> simp [verdict]

theorem checkSum_some :
    checkSum hash ⟨some b, ds, ss, l⟩ =
      (⟨some b, ds, ss.tail, l ++ [(.sum, some (ss.headD .missing))]⟩, verdict hash b (ss.headD .missing)) := by
  rcases ss with _ | ⟨_ | _, _⟩ <;> rfl

/-- The state after a download answered with body `b` and the checksum request that verifies it. -/
def verified (b : Nat) (ds : List DataResp) (ss : List SumResp) (l : List (Req × Option SumResp)) : St :=
  ⟨some b, ds, ss.tail, l ++ [(.data, none), (.sum, some (ss.headD .missing))]⟩

theorem nData_append (l m : List (Req × Option SumResp)) : nData (l ++ m) = nData l + nData m := by
  simp [nData]

theorem nData_data (l : List (Req × Option SumResp)) : nData (l ++ [(.data, none)]) = nData l + 1 :=
  nData_append l _

theorem nData_verified : nData (verified b ds ss l).log = nData l + 1 := nData_append l _

theorem lastSum_verified : lastSum (verified b ds ss l).log = some (ss.headD .missing) := by
  simp [verified, lastSum, List.filter_append]

/-- `download_file` after its pre-check, with the number of downloads it may still make as a parameter
(`download_file` has two): download and verify; on a mismatch start again; with no download left, the
checksum error. -/
def tries (hash : Nat → Nat) : Nat → St → St × Result
  | 0, st => (st, .mismatch)
  | n + 1, st =>
    match fetch st with
    | none => (logData st, .httpError)
    | some st1 =>
      let (st2, c) := checkSum hash st1
      if c == some false then tries hash n st2 else (st2, .done)

theorem download_eq_tries (hash : Nat → Nat) (st0 : St) :
    download hash st0 =
      let pre : St × Option Bool := match st0.file with
        | some _ => checkSum hash st0
        | none => (st0, none)
      if pre.2 == some true then (pre.1, .skipped) else tries hash 2 pre.1 := rfl

theorem tries_error (h : ds.headD .httpError = .httpError) :
    tries hash (n + 1) ⟨f, ds, ss, l⟩ = (⟨f, ds.tail, ss, l ++ [(.data, none)]⟩, .httpError) := by
  rw [tries, fetch_error h]
  rfl

theorem tries_body :
    tries hash (n + 1) ⟨f, .body b :: ds, ss, l⟩ =
      if verdict hash b (ss.headD .missing) = some false then tries hash n (verified b ds ss l)
      else (verified b ds ss l, .done) := by
  simp only [tries, fetch_body, checkSum_some, beq_iff_eq, List.append_assoc, List.singleton_append, verified]

end

/-- The ways `tries hash n st` can go, each with its result. -/
inductive Run (hash : Nat → Nat) : Nat → St → St × Result → Prop
  | zero {st} : Run hash 0 st (st, .mismatch)
  | error {n f ds ss l} : ds.headD .httpError = .httpError →
      Run hash (n + 1) ⟨f, ds, ss, l⟩ (⟨f, ds.tail, ss, l ++ [(.data, none)]⟩, .httpError)
  | done {n f b ds ss l} : verdict hash b (ss.headD .missing) ≠ some false →
      Run hash (n + 1) ⟨f, .body b :: ds, ss, l⟩ (verified b ds ss l, .done)
  | retry {n f b ds ss l r} : verdict hash b (ss.headD .missing) = some false →
      Run hash n (verified b ds ss l) r → Run hash (n + 1) ⟨f, .body b :: ds, ss, l⟩ r

section
variable {hash : Nat → Nat} {n k c p : Nat} {ds : List DataResp} {a : SumResp} {ss : List SumResp} {st : St}
  {r : St × Result}

theorem run_tries (n : Nat) (st : St) : Run hash n st (tries hash n st) := by
  induction n generalizing st with
  | zero => exact .zero
  | succ n ih =>
    obtain ⟨f, ds, ss, l⟩ := st
    rcases ds with _ | ⟨b | _, ds⟩
    · rw [tries_error rfl]; exact .error rfl
    · rw [tries_body]; split
      · exact .retry ‹_› (ih _)
      · exact .done ‹_›
    · rw [tries_error rfl]; exact .error rfl

theorem Run.ne_skipped (h : Run hash n st r) : r.2 ≠ .skipped := by
  induction h with
  | retry _ _ ih => exact ih
  | _ => exact nofun

theorem Run.nData_bounds (h : Run hash n st r) :
    nData st.log + min 1 n ≤ nData r.1.log ∧ nData r.1.log ≤ nData st.log + n := by
  -- the two bounds one by one: `omega` on the conjunction would go through `Classical.choice`
  induction h with
  | zero => exact ⟨Nat.le_refl _, Nat.le_refl _⟩
  | error => simp only [nData_data]; exact ⟨by omega, by omega⟩
  | done => simp only [nData_verified]; exact ⟨by omega, by omega⟩
  | retry _ _ ih => simp only [nData_verified] at ih ⊢; exact ⟨by omega, by omega⟩

theorem Run.done_matches (h : Run hash n st r) (hd : r.2 = .done) (hl : lastSum r.1.log = some (.avail c)) :
    ∃ b, r.1.file = some b ∧ hash b = c := by
  induction h with
  | zero => cases hd
  | error => cases hd
  | @done _ _ b _ _ _ hv =>
    refine ⟨b, rfl, Decidable.by_contra fun hne => hv (verdict_eq_false.2 ⟨c, ?_, hne⟩)⟩
    exact Option.some.inj (lastSum_verified.symm.trans hl)
  | retry _ _ ih => exact ih hd hl

/-- `Run.done_matches` for a checksum URL that answers `c` every time: once per download allowed, and `k` times more. -/
theorem Run.fixed_done (h : Run hash n st r) (hss : st.sscript = List.replicate (k + n) (.avail c))
    (hd : r.2 = .done) : ∃ b, r.1.file = some b ∧ hash b = c := by
  induction h with
  | zero => cases hd
  | error => cases hd
  | @done _ _ b _ _ _ hv =>
    cases hss
    exact ⟨b, rfl, Decidable.by_contra fun hne => hv (verdict_eq_false.2 ⟨c, rfl, hne⟩)⟩
  | retry _ _ ih =>
    cases hss
    exact ih rfl hd

theorem Run.done_bodies (h : Run hash n st r) (hd : r.2 = .done) :
    ∃ k, nData r.1.log = nData st.log + k ∧ ∀ x ∈ st.dscript.take k, x ≠ .httpError := by
  induction h with
  | zero => cases hd
  | error => cases hd
  | done => exact ⟨1, nData_verified, List.forall_mem_cons.2 ⟨nofun, nofun⟩⟩
  | retry _ _ ih =>
    obtain ⟨k, hk, hb⟩ := ih hd
    exact ⟨k + 1, by simp only [hk, nData_verified]; omega, List.forall_mem_cons.2 ⟨nofun, hb⟩⟩

theorem tries_mismatch_iff {f : Option Nat} {l : List (Req × Option SumResp)} :
    (tries hash (n + 1) ⟨f, ds, ss, l⟩).2 = .mismatch ↔
      ∃ b rest, ds = .body b :: rest ∧ verdict hash b (ss.headD .missing) = some false ∧
        (tries hash n (verified b rest ss l)).2 = .mismatch := by
  rcases ds with _ | ⟨b | _, ds⟩
  · exact iff_of_false nofun nofun
  · rw [tries_body]; split
    · next hv => exact ⟨fun h => ⟨b, ds, rfl, hv, h⟩, fun ⟨_, _, e, _, h⟩ => by cases e; exact h⟩
    · next hv => exact iff_of_false nofun fun ⟨_, _, e, hv', _⟩ => by cases e; exact hv hv'
  · exact iff_of_false nofun nofun

theorem tries_two_mismatch_iff {f : Option Nat} {l : List (Req × Option SumResp)} {a1 a2 : SumResp} :
    (tries hash 2 ⟨f, ds, a1 :: a2 :: ss, l⟩).2 = .mismatch ↔
      ∃ b1 b2 rest, ds = .body b1 :: .body b2 :: rest ∧
        verdict hash b1 a1 = some false ∧ verdict hash b2 a2 = some false := by
  simp only [tries_mismatch_iff, verified]
  exact ⟨fun ⟨b1, _, e1, h1, b2, rest, e2, h2, _⟩ => ⟨b1, b2, rest, e2 ▸ e1, h1, h2⟩,
    fun ⟨b1, b2, rest, e, h1, h2⟩ => ⟨b1, _, e, h1, b2, rest, rfl, h2, rfl⟩⟩

theorem retry_iff_verdict {f : Option Nat} {b : Nat} {l : List (Req × Option SumResp)} (hl : nData l = 0) :
    nData (tries hash 2 ⟨f, .body b :: ds, ss, l⟩).1.log = 2 ↔ verdict hash b (ss.headD .missing) = some false := by
  rw [tries_body]; split
  · next hv =>
    have := (run_tries (hash := hash) 1 (verified b ds ss l)).nData_bounds
    simp only [nData_verified, hl] at this
    exact iff_of_true (by omega) hv
  · next hv => exact iff_of_false (by simp only [nData_verified, hl]; omega) hv

theorem download_none : download hash (start none ds ss) = tries hash 2 (start none ds ss) := rfl

theorem download_some :
    download hash (start (some p) ds ss) =
      if verdict hash p (ss.headD .missing) = some true
      then (⟨some p, ds, ss.tail, [(.sum, some (ss.headD .missing))]⟩, .skipped)
      else tries hash 2 ⟨some p, ds, ss.tail, [(.sum, some (ss.headD .missing))]⟩ := by
  simp only [download_eq_tries, start, checkSum_some, beq_iff_eq, List.nil_append]

theorem download_valid :
    download hash (start (some p) ds (.avail (hash p) :: ss)) =
      (⟨some p, ds, ss, [(.sum, some (.avail (hash p)))]⟩, .skipped) :=
  download_some.trans (if_pos (verdict_eq_true.2 rfl))

theorem download_invalid (h : a ≠ .avail (hash p)) :
    download hash (start (some p) ds (a :: ss)) = tries hash 2 ⟨some p, ds, ss, [(.sum, some a)]⟩ :=
  download_some.trans (if_neg (mt verdict_eq_true.1 h))

/-- The pre-check: the call either ends there, a valid file existing, or is the two downloads from a state
in which no data request has been made. -/
theorem download_start (hash : Nat → Nat) (prior : Option Nat) (ds : List DataResp) (ss : List SumResp) :
    (∃ p, prior = some p ∧ download hash (start prior ds ss) =
        (⟨some p, ds, ss.tail, [(.sum, some (.avail (hash p)))]⟩, .skipped)) ∨
      ∃ ss' l, nData l = 0 ∧ Run hash 2 ⟨prior, ds, ss', l⟩ (download hash (start prior ds ss)) := by
  rcases prior with _ | p
  · exact .inr ⟨ss, [], rfl, run_tries 2 _⟩
  · rw [download_some]; split
    · next hv => rw [verdict_eq_true.1 hv]; exact .inl ⟨p, rfl, rfl⟩
    · exact .inr ⟨_, _, rfl, run_tries 2 _⟩

/-- The pre-check against a checksum URL that answers `c` three times or more: a prior file hashing to `c` ends the
call; otherwise the two downloads follow, with two answers or more still to come. -/
theorem download_fixed (prior : Option Nat) (hn : 3 ≤ n) :
    (∃ p st', prior = some p ∧ hash p = c ∧ st'.file = some p ∧
        download hash (start prior ds (List.replicate n (.avail c))) = (st', .skipped)) ∨
      (∀ p, prior = some p → hash p ≠ c) ∧ ∃ k l,
        download hash (start prior ds (List.replicate n (.avail c))) =
          tries hash 2 ⟨prior, ds, List.replicate (k + 2) (.avail c), l⟩ := by
  obtain ⟨m, rfl⟩ := Nat.exists_eq_add_of_le' hn
  rcases prior with _ | p
  · exact .inr ⟨nofun, m + 1, [], rfl⟩
  · rw [List.replicate_succ]
    by_cases hp : hash p = c
    · subst hp
      exact .inl ⟨p, _, rfl, rfl, rfl, download_valid⟩
    · exact .inr ⟨fun _ e => Option.some.inj e ▸ hp, m, _, download_invalid fun e => hp (SumResp.avail.inj e).symm⟩

end

theorem ok_implies_checksum_matches (hash : Nat → Nat) (prior : Option Nat)
    (ds : List DataResp) (ss : List SumResp) (h : Nat)
    (hret : (download hash (start prior ds ss)).2 = .skipped ∨ (download hash (start prior ds ss)).2 = .done)
    (hlast : lastSum (download hash (start prior ds ss)).1.log = some (.avail h)) :
    ∃ b, (download hash (start prior ds ss)).1.file = some b ∧ hash b = h := by
  rcases download_start hash prior ds ss with ⟨p, rfl, e⟩ | ⟨ss', l, -, hr⟩
  · rw [e] at hlast ⊢
    cases hlast
    exact ⟨p, rfl, rfl⟩
  · exact hr.done_matches (hret.resolve_left hr.ne_skipped) hlast

theorem at_most_one_retry (hash : Nat → Nat) (prior : Option Nat) (ds : List DataResp)
    (ss : List SumResp) : nData (download hash (start prior ds ss)).1.log ≤ 2 := by
  rcases download_start hash prior ds ss with ⟨p, -, e⟩ | ⟨ss', l, hl, hr⟩
  · rw [e]; exact Nat.zero_le 2
  · exact Nat.le_trans hr.nData_bounds.2 (Nat.le_of_eq (congrArg (· + 2) hl))

theorem http_error_raises (hash : Nat → Nat) (prior : Option Nat) (ds : List DataResp)
    (ss : List SumResp)
    (hret : (download hash (start prior ds ss)).2 = .skipped ∨ (download hash (start prior ds ss)).2 = .done) :
    ∀ r ∈ ds.take (nData (download hash (start prior ds ss)).1.log), r ≠ .httpError := by
  rcases download_start hash prior ds ss with ⟨p, -, e⟩ | ⟨ss', l, hl, hr⟩
  · rw [e]; exact nofun
  · obtain ⟨k, hk, hb⟩ := hr.done_bodies (hret.resolve_left hr.ne_skipped)
    rw [hk, show nData _ = 0 from hl, Nat.zero_add]; exact hb

theorem one_or_two_requests (hash : Nat → Nat) (prior : Option Nat) (ds : List DataResp) (ss : List SumResp)
    (hskip : (download hash (start prior ds ss)).2 ≠ .skipped) :
    nData (download hash (start prior ds ss)).1.log = 1 ∨ nData (download hash (start prior ds ss)).1.log = 2 := by
  rcases download_start hash prior ds ss with ⟨p, -, e⟩ | ⟨ss', l, hl, hr⟩
  · exact absurd (congrArg Prod.snd e) hskip
  · have := hr.nData_bounds
    rw [show nData _ = 0 from hl] at this
    omega

theorem valid_existing_not_refetched (hash : Nat → Nat) (b : Nat) (ds : List DataResp)
    (ss : List SumResp) :
    let r := download hash (start (some b) ds (.avail (hash b) :: ss))
    r.2 = .skipped ∧ nData r.1.log = 0 ∧ r.1.file = some b := by
  rw [download_valid]
  exact ⟨rfl, rfl, rfl⟩

theorem retry_iff (hash : Nat → Nat) (b : Nat) (ds : List DataResp) (a : SumResp) (ss : List SumResp) :
    nData (download hash (start none (.body b :: ds) (a :: ss))).1.log = 2 ↔ ∃ h, a = .avail h ∧ hash b ≠ h := by
  rw [download_none]
  exact (retry_iff_verdict rfl).trans verdict_eq_false

theorem mismatch_triggers_retry (hash : Nat → Nat) (b : Nat) (ds : List DataResp) (h : Nat)
    (ss : List SumResp) (hm : hash b ≠ h) :
    nData (download hash (start none (.body b :: ds) (.avail h :: ss))).1.log = 2 :=
  (retry_iff hash b ds _ ss).2 ⟨h, rfl, hm⟩

theorem retry_iff_existing (hash : Nat → Nat) (p b : Nat) (ds : List DataResp) (a0 : SumResp) (ss : List SumResp)
    (hinv : a0 ≠ .avail (hash p)) :
    nData (download hash (start (some p) (.body b :: ds) (a0 :: ss))).1.log = 2 ↔
      ∃ h, ss.head? = some (.avail h) ∧ hash b ≠ h := by
  rw [download_invalid hinv]
  refine (retry_iff_verdict rfl).trans (verdict_eq_false.trans ?_)
  cases ss <;> simp

theorem persistent_mismatch_raises (hash : Nat → Nat) (b1 b2 h1 h2 : Nat) (ds : List DataResp)
    (ss : List SumResp) (hm1 : hash b1 ≠ h1) (hm2 : hash b2 ≠ h2) :
    (download hash (start none (.body b1 :: .body b2 :: ds) (.avail h1 :: .avail h2 :: ss))).2 = .mismatch :=
  tries_two_mismatch_iff.2 ⟨b1, b2, ds, rfl, verdict_eq_false.2 ⟨h1, rfl, hm1⟩, verdict_eq_false.2 ⟨h2, rfl, hm2⟩⟩

theorem ok_with_fixed_checksum (hash : Nat → Nat) (prior : Option Nat) (ds : List DataResp) (h n : Nat)
    (hn : 3 ≤ n)
    (hret : (download hash (start prior ds (List.replicate n (.avail h)))).2 = .skipped ∨
            (download hash (start prior ds (List.replicate n (.avail h)))).2 = .done) :
    ∃ b, (download hash (start prior ds (List.replicate n (.avail h)))).1.file = some b ∧ hash b = h := by
  rcases download_fixed prior hn with ⟨p, _, -, hp, hf, e⟩ | ⟨-, _, _, e⟩
  · rw [e]; exact ⟨p, hf, hp⟩
  · rw [e] at hret ⊢
    exact (run_tries 2 _).fixed_done rfl (hret.resolve_left (run_tries 2 _).ne_skipped)

theorem raises_iff (hash : Nat → Nat) (prior : Option Nat) (ds : List DataResp) (h n : Nat) (hn : 3 ≤ n) :
    (download hash (start prior ds (List.replicate n (.avail h)))).2 = .mismatch ↔
      (∀ b, prior = some b → hash b ≠ h) ∧
      ∃ b1 b2 rest, ds = .body b1 :: .body b2 :: rest ∧ hash b1 ≠ h ∧ hash b2 ≠ h := by
  rcases download_fixed prior hn with ⟨p, _, hprior, hp, -, e⟩ | ⟨hne, _, _, e⟩
  · rw [e]; exact iff_of_false nofun fun ⟨hne, _⟩ => hne p hprior hp
  · rw [e, List.replicate_succ, List.replicate_succ, tries_two_mismatch_iff, and_iff_right hne]
    simp only [verdict_eq_false, SumResp.avail.injEq, exists_eq_left']

theorem first_field_of_layout (lead tok rest : List Nat) (hl : ∀ c ∈ lead, isWhite c = true)
    (hne : tok ≠ []) (ht : ∀ c ∈ tok, isWhite c = false)
    (hr : rest = [] ∨ ∃ w r, rest = w :: r ∧ isWhite w = true) :
    firstField (lead ++ (tok ++ rest)) = some tok := by
  have hrest : rest.takeWhile (fun c => !isWhite c) = [] := by
    rcases hr with rfl | ⟨w, r, rfl, hw⟩
    · rfl
    · exact List.takeWhile_cons_of_neg (by simp [hw])
  obtain ⟨a, l, rfl⟩ := List.exists_cons_of_ne_nil hne
  have ha : ¬isWhite a = true := by simp [ht a (by simp)]
  rw [firstField, List.dropWhile_append_of_pos hl, List.cons_append, List.dropWhile_cons_of_neg ha,
    ← List.cons_append, List.takeWhile_append_of_pos fun c hc => by simp [ht c hc], hrest, List.append_nil]

theorem first_field_blank (ws : List Nat) (h : ∀ c ∈ ws, isWhite c = true) : firstField ws = none := by
  have := List.dropWhile_append_of_pos (l₂ := []) h
  rw [List.append_nil] at this
  rw [firstField, this]
  rfl

theorem checksum_text_publishes (render : List (Nat × List Nat)) (other h : Nat) (lead tok rest : List Nat)
    (hl : ∀ c ∈ lead, isWhite c = true) (hne : tok ≠ []) (ht : ∀ c ∈ tok, isWhite c = false)
    (hr : rest = [] ∨ ∃ w r, rest = w :: r ∧ isWhite w = true)
    (hd : render.find? (fun r => r.2 == tok.map lowerAscii) = some (h, tok.map lowerAscii)) :
    parseSum render other (.text (lead ++ (tok ++ rest))) = .avail h := by
  simp only [parseSum, first_field_of_layout lead tok rest hl hne ht hr, hd]

theorem valid_existing_not_refetched_text (hash : Nat → Nat) (b : Nat) (ds : List DataResp) (ss : List SumResp)
    (render : List (Nat × List Nat)) (other : Nat) (lead tok rest : List Nat)
    (hl : ∀ c ∈ lead, isWhite c = true) (hne : tok ≠ []) (ht : ∀ c ∈ tok, isWhite c = false)
    (hr : rest = [] ∨ ∃ w r, rest = w :: r ∧ isWhite w = true)
    (hd : render.find? (fun r => r.2 == tok.map lowerAscii) = some (hash b, tok.map lowerAscii)) :
    let r := download hash (start (some b) ds (parseSum render other (.text (lead ++ (tok ++ rest))) :: ss))
    r.2 = .skipped ∧ nData r.1.log = 0 ∧ r.1.file = some b := by
  rw [checksum_text_publishes render other (hash b) lead tok rest hl hne ht hr hd]
  exact valid_existing_not_refetched hash b ds ss

theorem getRaises_of_error {status : Nat} (h : isHttpError status = true) : getRaises status = true := by
  have h2 : status ≠ 200 := by
    rintro rfl; cases h
  simp [getRaises, h, h2]

theorem data_of_error_status (status b : Nat) (h : isHttpError status = true) :
    dataOfStatus status b = .httpError := by
  simp [dataOfStatus, getRaises_of_error h]

theorem data_of_200 (b : Nat) : dataOfStatus 200 b = .body b := by
  simp [dataOfStatus, getRaises]

theorem http_error_status_raises (hash : Nat → Nat) (prior : Option Nat) (ds : List (Nat × Nat))
    (ss : List SumResp)
    (hret : (download hash (start prior (ds.map fun a => dataOfStatus a.1 a.2) ss)).2 = .skipped ∨
            (download hash (start prior (ds.map fun a => dataOfStatus a.1 a.2) ss)).2 = .done) :
    ∀ a ∈ ds.take (nData (download hash (start prior (ds.map fun a => dataOfStatus a.1 a.2) ss)).1.log),
      isHttpError a.1 = false := by
  intro a ha
  refine Bool.eq_false_iff.2 fun he => ?_
  refine http_error_raises hash prior _ ss hret _ ?_ (data_of_error_status a.1 a.2 he)
  rw [← List.map_take]
  exact List.mem_map_of_mem (f := fun a : Nat × Nat => dataOfStatus a.1 a.2) ha

end PhyVerif.C20.Lemmas
