import PhyVerif.Model.C06
import PhyVerif.Spec.C06
import PhyVerif.Lemmas.Np
import PhyVerif.Lemmas.C07
/-! Proofs for C06, the route through a feature file (`Model/C06`). Every fancy assignment of the model
(`out[x, cols_loc] = data`, the rows written at the positions of their spikes, the `_index_of` table of
the PCA route) is the same fold, `scatter`; what is read back from it is settled once, below.
Statements: `Props/C06.lean`. -/
namespace PhyVerif.C06.Lemmas
open PhyVerif PhyVerif.C06
open PhyVerif.Np.Lemmas (scatter scatter_length scatter_get_of_not_written scatter_get_of_written)

variable {β : Type}

section scatter
variable {α γ κ ι : Type}

/-- the value at a position depends only on WHICH writes hit it: two scatters of the same values
whose position maps hit `i` resp. `i'` for the same items agree there -/
theorem scatter_get_congr (pos pos' : α → Nat) (val : α → γ) (i i' : Nat) (s : List α)
    (h : ∀ a ∈ s, pos a = i ↔ pos' a = i') (acc acc' : List γ) (hl : i < acc.length)
    (hl' : i' < acc'.length) (he : acc[i]? = acc'[i']?) :
    (scatter pos val s acc)[i]? = (scatter pos' val s acc')[i']? := by
  refine (List.foldl_rel (r := fun c c' : List γ => i < c.length ∧ i' < c'.length ∧ c[i]? = c'[i']?)
    ⟨hl, hl', he⟩ fun a ha c c' ⟨h1, h2, h3⟩ => ?_).2.2
  rw [List.length_set, List.length_set, List.getElem?_set, List.getElem?_set]
  refine ⟨h1, h2, ?_⟩
  by_cases hp : pos a = i
  · have hp' := (h a ha).1 hp
    rw [if_pos hp, if_pos hp', if_pos (hp ▸ h1), if_pos (hp' ▸ h2)]
  · rw [if_neg hp, if_neg (mt (h a ha).2 hp), h3]

/-- keyed pairs in which the keys that pass `p` are distinct: such a key names one pair -/
theorem eq_of_fst_eq (p : κ → Bool) (s : List (κ × ι)) (hnd : ((s.map Prod.fst).filter p).Nodup) :
    ∀ ⦃a⦄, a ∈ s → ∀ ⦃b⦄, b ∈ s → p a.1 = true → a.1 = b.1 → a = b := by
  rw [List.nodup_iff_pairwise_ne, List.pairwise_filter, List.pairwise_map] at hnd
  exact List.Pairwise.forall_of_forall_of_flip
    (R := fun a b : κ × ι => p a.1 = true → a.1 = b.1 → a = b) (fun _ _ _ _ => rfl)
    (hnd.imp fun {a b} h (hp : p a.1 = true) (e : a.1 = b.1) => absurd e (h hp (e ▸ hp)))
    (hnd.imp fun {a b} h (hp : p b.1 = true) (e : b.1 = a.1) => absurd e.symm (h (e ▸ hp) hp))

/-- a cell that the key of `a₀` alone names receives the value of `a₀`, provided that key passes `p`
and the keys that pass `p` are distinct (the others, the padding, may repeat) -/
theorem scatter_get_of_key (p : κ → Bool) (s : List (κ × ι)) (hnd : ((s.map Prod.fst).filter p).Nodup)
    (pos : κ × ι → Nat) (val : κ × ι → γ) (i : Nat) (a₀ : κ × ι) (ha : a₀ ∈ s) (hp : p a₀.1 = true)
    (hpos : ∀ a ∈ s, pos a = i ↔ a.1 = a₀.1) (acc : List γ) (hi : i < acc.length) :
    (scatter pos val s acc)[i]? = some (val a₀) :=
  scatter_get_of_written pos val i (val a₀) s ⟨a₀, ha, (hpos a₀ ha).2 rfl⟩
    (fun a has e => by rw [eq_of_fst_eq p s hnd ha has hp ((hpos a has).1 e).symm]) acc hi

/-- `keys` duplicate-free, `common` its members that satisfy `P`: writing `f v` at the position of
every `v ∈ common` in `keys`, into a constant list, gives `f` on the members that satisfy `P` and the
constant elsewhere -/
theorem scatter_idxOf_eq [DecidableEq α] (keys : List α) (hk : keys.Nodup) (P : α → Prop)
    [DecidablePred P] (common : List α) (hcm : ∀ v, v ∈ common ↔ v ∈ keys ∧ P v) (f : α → γ) (d : γ) :
    scatter (fun v => keys.idxOf v) f common (List.replicate keys.length d) =
      keys.map fun k => if P k then f k else d := by
  apply List.ext_getElem?
  intro j
  rw [List.getElem?_map]
  by_cases hj : j < keys.length
  · rw [List.getElem?_eq_getElem hj, Option.map_some]
    have hidx : ∀ v ∈ common, keys.idxOf v = j → keys[j] = v := fun v hv e => by
      subst e
      exact List.getElem_idxOf hj
    by_cases hP : P keys[j]
    · rw [if_pos hP]
      exact scatter_get_of_written _ f j _ common
        ⟨keys[j], (hcm _).2 ⟨List.getElem_mem hj, hP⟩, hk.idxOf_getElem j hj⟩
        (fun v hv e => by rw [hidx v hv e]) _ (by rw [List.length_replicate]; exact hj)
    · rw [if_neg hP, scatter_get_of_not_written _ f j common
        fun v hv e => hP (hidx v hv e ▸ ((hcm v).1 hv).2), List.getElem?_replicate, if_pos hj]
  · have hj := Nat.le_of_not_lt hj
    rw [List.getElem?_eq_none (by rw [scatter_length, List.length_replicate]; exact hj),
      List.getElem?_eq_none hj]
    rfl

end scatter

theorem indexOf_sub (keys : List Nat) (hk : keys.Nodup) (common : List Nat)
    (h : ∀ v ∈ common, v ∈ keys) :
    Np.indexOf (common.map Int.ofNat) keys =
      some (common.map fun v => ((keys.idxOf v : Nat) : Int)) := by
  rw [Np.Lemmas.indexOf_eq _ keys hk, List.map_map]
  · rfl
  · intro c hc
    obtain ⟨v, hv, rfl⟩ := List.mem_map.mp hc
    exact ⟨Int.natCast_nonneg v, h v hv⟩

/-- both `intersect1d`s of the model: the members of `a` that pass the test -/
theorem mem_unique_filter (a : List Nat) (p : Nat → Bool) (v : Nat) :
    v ∈ Np.unique ((a.filter p).map Int.ofNat) ↔ v ∈ a ∧ p v = true := by
  refine ((PhyVerif.C07.Lemmas.unique_spec _).2 v).trans ?_
  show Int.ofNat v ∈ _ ↔ _
  rw [List.mem_map, ← List.mem_filter]
  exact ⟨fun ⟨w, h, e⟩ => Int.ofNat.inj e ▸ h, fun h => ⟨v, h, rfl⟩⟩

theorem mem_intersect1d (a b : List Nat) (v : Nat) : v ∈ intersect1d a b ↔ v ∈ a ∧ v ∈ b :=
  (mem_unique_filter a _ v).trans (and_congr_right' List.contains_iff_mem)

theorem locOf_eq_iff (chans : List Nat) (hc : chans.Nodup) (c : Int) (j : Nat) (hj : j < chans.length) :
    locOf chans c = j ↔ c = Int.ofNat (chans[j]'hj) := by
  unfold locOf
  split
  · rename_i h
    have hlt : chans.idxOf c.toNat < chans.length :=
      List.idxOf_lt_length_iff.mpr (List.contains_iff_mem.1 h.2)
    have hcn : c = Int.ofNat c.toNat := (Int.toNat_of_nonneg h.1).symm
    constructor
    · intro e
      subst e
      rw [List.getElem_idxOf hlt]
      exact hcn
    · intro e
      rw [hcn] at e
      rw [Int.ofNat.inj e]
      exact hc.idxOf_getElem j hj
  · rename_i h
    refine ⟨fun e => absurd e (Nat.ne_of_gt hj), fun e => absurd ?_ h⟩
    subst e
    exact ⟨Int.natCast_nonneg _, List.contains_iff_mem.2 (List.getElem_mem hj)⟩

theorem scatterRow_def (zero : β) (chans : List Nat) (data : List β) (cols : List Int) :
    scatterRow zero chans data cols =
      (scatter (fun p : Int × β => locOf chans p.1) (fun p => p.2) (cols.zip data)
        (List.replicate (chans.length + 1) zero)).take chans.length := rfl

theorem scatterRow_length (zero : β) (chans : List Nat) (d : List β) (c : List Int) :
    (scatterRow zero chans d c).length = chans.length := by
  rw [scatterRow_def, List.length_take, scatter_length, List.length_replicate]
  exact Nat.min_eq_left (Nat.le_succ _)

theorem scatterRow_getElem? (zero : β) (chans : List Nat) (hc : chans.Nodup) (data : List β)
    (cols : List Int) (hlen : data.length = cols.length) (hnd : (cols.filter (0 ≤ ·)).Nodup)
    (j : Nat) (hj : j < chans.length) :
    (scatterRow zero chans data cols)[j]? = some (denseEntry zero data cols (chans[j]'hj)) := by
  have hpos : ∀ a ∈ cols.zip data, locOf chans a.1 = j ↔ a.1 = Int.ofNat chans[j] :=
    fun a _ => locOf_eq_iff chans hc a.1 j hj
  rw [scatterRow_def, List.getElem?_take, if_pos hj]
  unfold denseEntry
  cases h : cols.idxOf? (Int.ofNat chans[j]) with
  | none =>
    rw [scatter_get_of_not_written, List.getElem?_replicate, if_pos (Nat.lt_succ_of_lt hj)]
    intro a ha e
    exact List.idxOf?_eq_none_iff.mp h ((hpos a ha).1 e ▸ (List.of_mem_zip ha).1)
  | some k =>
    obtain ⟨hk, hck, _⟩ := List.idxOf?_eq_some_iff.mp h
    have hkd : k < data.length := hlen ▸ hk
    have hkz : k < (cols.zip data).length := by
      rw [List.length_zip, ← hlen, Nat.min_self]
      exact hkd
    show _ = some (data.getD k zero)
    rw [Np.Lemmas.getD_of_lt _ _ _ hkd]
    refine scatter_get_of_key (fun c : Int => decide (0 ≤ c)) (cols.zip data)
      (by rw [List.map_fst_zip (Nat.le_of_eq hlen.symm)]; exact hnd) _ (fun p => p.2) j (cols[k], data[k])
      (List.getElem_zip (h := hkz) ▸ List.getElem_mem hkz) ?_ (fun a ha => by rw [hpos a ha, hck]) _
      (by rw [List.length_replicate]; exact Nat.lt_succ_of_lt hj)
    rw [hck]
    rfl

theorem scatterRow_eq (zero : β) (chans : List Nat) (hc : chans.Nodup) (data : List β) (cols : List Int)
    (hlen : data.length = cols.length) (hnd : (cols.filter (0 ≤ ·)).Nodup) :
    scatterRow zero chans data cols = chans.map fun c => denseEntry zero data cols c := by
  apply List.ext_getElem
  · rw [scatterRow_length, List.length_map]
  · intro j h1 h2
    have hj : j < chans.length := scatterRow_length zero chans data cols ▸ h1
    apply Option.some.inj
    rw [← List.getElem?_eq_getElem h1, scatterRow_getElem? zero chans hc data cols hlen hnd j hj,
      List.getElem_map]

theorem fromSparse_eq_some_iff (zero : β) (data : List (List β)) (cols : List (List Int))
    (chans : List Nat) (out : List (List β)) :
    fromSparse zero data cols chans = some out ↔
      chans.Nodup ∧ data.length = cols.length ∧ (∀ p ∈ data.zip cols, p.1.length = p.2.length) ∧
        out = (data.zip cols).map fun p => scatterRow zero chans p.1 p.2 := by
  simp only [fromSparse, Option.ite_none_left_eq_some, Bool.not_eq_true, Bool.not_eq_false',
    decide_eq_true_eq, List.any_eq_false, bne_iff_ne, ne_eq, Decidable.not_not,
    Option.some.injEq, eq_comm (b := out)]

theorem fromSparse_spec (zero : β) (data : List (List β)) (cols : List (List Int)) (chans : List Nat)
    (hc : chans.Nodup) (hlen : data.length = cols.length)
    (hrow : ∀ p ∈ data.zip cols, p.1.length = p.2.length) (hcols : ColsOK cols) :
    fromSparse zero data cols chans =
      some ((data.zip cols).map fun p => chans.map fun c => denseEntry zero p.1 p.2 c) :=
  (fromSparse_eq_some_iff zero data cols chans _).2 ⟨hc, hlen, hrow, (List.map_congr_left fun p hp =>
    scatterRow_eq zero chans hc p.1 p.2 (hrow p hp) (hcols p.2 (List.of_mem_zip hp).2)).symm⟩

theorem fromSparse_shape (zero : β) (data : List (List β)) (cols : List (List Int)) (chans : List Nat)
    (out : List (List β)) (ho : fromSparse zero data cols chans = some out) :
    out.length = data.length ∧ ∀ r ∈ out, r.length = chans.length := by
  obtain ⟨_, hl, _, rfl⟩ := (fromSparse_eq_some_iff zero data cols chans out).1 ho
  refine ⟨by rw [List.length_map, List.length_zip, hl, Nat.min_self], fun r hr => ?_⟩
  obtain ⟨p, _, rfl⟩ := List.mem_map.1 hr
  exact scatterRow_length zero chans p.1 p.2

theorem scatterRow_get_congr (zero : β) (chans chans' : List Nat) (hc : chans.Nodup) (hc' : chans'.Nodup)
    (d : List β) (c : List Int) (j j' : Nat) (hj : j < chans.length) (hj' : j' < chans'.length)
    (heq : chans[j]'hj = chans'[j']'hj') :
    (scatterRow zero chans d c)[j]? = (scatterRow zero chans' d c)[j']? := by
  rw [scatterRow_def, scatterRow_def, List.getElem?_take, List.getElem?_take, if_pos hj, if_pos hj']
  apply scatter_get_congr
  · intro a _
    rw [locOf_eq_iff chans hc a.1 j hj, locOf_eq_iff chans' hc' a.1 j' hj', heq]
  · rw [List.length_replicate]; exact Nat.lt_succ_of_lt hj
  · rw [List.length_replicate]; exact Nat.lt_succ_of_lt hj'
  · rw [List.getElem?_replicate, List.getElem?_replicate, if_pos (Nat.lt_succ_of_lt hj),
      if_pos (Nat.lt_succ_of_lt hj')]

theorem fromSparse_order_independent (zero : β) (data : List (List β)) (cols : List (List Int))
    (chans chans' : List Nat)
    (out out' : List (List β)) (ho : fromSparse zero data cols chans = some out)
    (ho' : fromSparse zero data cols chans' = some out') (i j j' : Nat) (hj : j < chans.length)
    (hj' : j' < chans'.length) (heq : chans[j]'hj = chans'[j']'hj') :
    (out.getD i []).getD j zero = (out'.getD i []).getD j' zero := by
  obtain ⟨hc, _, _, rfl⟩ := (fromSparse_eq_some_iff zero data cols chans out).1 ho
  obtain ⟨hc', _, _, rfl⟩ := (fromSparse_eq_some_iff zero data cols chans' out').1 ho'
  simp only [List.getD_eq_getElem?_getD, List.getElem?_map]
  cases (data.zip cols)[i]? with
  | none => rfl
  | some p =>
    simp only [Option.map_some, Option.getD_some]
    rw [scatterRow_get_congr zero chans chans' hc hc' p.1 p.2 j j' hj hj' heq]

theorem storedRow_mem (sf : Sparse β) (q : Nat) (row : List β) (h : storedRow sf q = some row) :
    row ∈ sf.data := by
  obtain ⟨data, cols, rows⟩ := sf
  cases rows with
  | none => exact List.mem_of_getElem? h
  | some rows =>
    have h' : (if rows.contains q then data[rows.idxOf q]? else none) = some row := h
    split at h'
    · exact List.mem_of_getElem? h'
    · cases h'

/-- the block `get_features` densifies: the stored row of every requested spike, NaN where there is none -/
theorem gatherRows_eq (nan : β) (sf : Sparse β) (nloc : Nat) (spikeIds : List Nat)
    (hrows : ∀ rows, sf.rows = some rows → rows.Nodup ∧ rows.length = sf.data.length)
    (hnone : sf.rows = none → ∀ q ∈ spikeIds, q < sf.data.length)
    (hs : sf.rows ≠ none → spikeIds.Nodup) :
    gatherRows nan sf nloc spikeIds =
      some (spikeIds.map fun q => (storedRow sf q).getD (List.replicate nloc nan)) := by
  obtain ⟨data, cols, rows⟩ := sf
  cases rows with
  | none =>
    refine Np.Lemmas.mapM_option_eq_some _ _ spikeIds fun q hq => ?_
    show data[q]? = some (data[q]?.getD _)
    rw [List.getElem?_eq_getElem (hnone rfl q hq)]
    rfl
  | some rows =>
    have hs := hs (Option.some_ne_none rows)
    obtain ⟨hr, hrl⟩ := hrows rows rfl
    have hcm := mem_intersect1d spikeIds rows
    simp only [gatherRows, indexOf_sub rows hr _ fun v hv => ((hcm v).1 hv).2,
      indexOf_sub spikeIds hs _ fun v hv => ((hcm v).1 hv).1, Option.bind_eq_bind, Option.bind_some,
      Option.pure_def, List.zip_map', List.foldl_map]
    refine congrArg some ((scatter_idxOf_eq spikeIds hs (· ∈ rows) _ hcm
      (fun v => data.getD (rows.idxOf v) []) _).trans (List.map_congr_left fun q _ => ?_))
    show _ = (if rows.contains q then data[rows.idxOf q]? else none).getD _
    by_cases hq : q ∈ rows
    · have hlt : rows.idxOf q < data.length := hrl ▸ List.idxOf_lt_length_iff.mpr hq
      rw [if_pos hq, if_pos (List.contains_iff_mem.2 hq), List.getD_eq_getElem?_getD,
        List.getElem?_eq_getElem hlt]
      rfl
    · rw [if_neg hq, if_neg (mt List.contains_iff_mem.1 hq)]
      rfl

theorem colsRow_lookup (sf : Sparse β) (nloc nSpikes nTemplates : Nat) (spikeTemplates : List Nat)
    (hst : StoreOK sf nloc nSpikes nTemplates spikeTemplates) (cols : List (List Int))
    (hcols : sf.cols = some cols) (q : Nat) (hq : q < nSpikes) :
    (spikeTemplates[q]?.bind fun t => cols[t]?) = some (colsRow sf nloc spikeTemplates q) := by
  obtain ⟨data, _, rows⟩ := sf
  cases hcols
  obtain ⟨_, hc, _, _, hstl, hstt⟩ := hst
  have hq' : q < spikeTemplates.length := hstl ▸ hq
  have ht : spikeTemplates[q] < cols.length := (hc cols rfl).1 ▸ hstt _ (List.getElem_mem hq')
  show _ = some (cols.getD (spikeTemplates.getD q 0) [])
  rw [List.getD_eq_getElem?_getD, List.getD_eq_getElem?_getD, List.getElem?_eq_getElem hq',
    Option.bind_some, Option.getD_some, List.getElem?_eq_getElem ht]
  rfl

theorem colsFor_eq (sf : Sparse β) (nloc nSpikes nTemplates : Nat) (spikeTemplates : List Nat)
    (hst : StoreOK sf nloc nSpikes nTemplates spikeTemplates) (spikeIds : List Nat)
    (hsr : ∀ q ∈ spikeIds, q < nSpikes) :
    colsFor sf nloc spikeTemplates spikeIds = some (spikeIds.map (colsRow sf nloc spikeTemplates)) := by
  cases hcols : sf.cols with
  | none =>
    unfold colsFor colsRow
    rw [hcols]
  | some cols =>
    unfold colsFor
    rw [hcols]
    exact Np.Lemmas.mapM_option_eq_some _ _ spikeIds fun q hq =>
      colsRow_lookup sf nloc nSpikes nTemplates spikeTemplates hst cols hcols q (hsr q hq)

theorem colsRow_ok (sf : Sparse β) (nloc nSpikes nTemplates : Nat) (spikeTemplates : List Nat)
    (hst : StoreOK sf nloc nSpikes nTemplates spikeTemplates) (q : Nat) (hq : q < nSpikes) :
    (colsRow sf nloc spikeTemplates q).length = nloc ∧
      ((colsRow sf nloc spikeTemplates q).filter (0 ≤ ·)).Nodup := by
  cases hcols : sf.cols with
  | none =>
    unfold colsRow
    rw [hcols]
    refine ⟨by rw [List.length_map, List.length_range], List.Pairwise.filter _ ?_⟩
    rw [List.pairwise_map]
    exact List.nodup_range.imp fun h h' => h (Int.ofNat.inj h')
  | some cols =>
    have h := colsRow_lookup sf nloc nSpikes nTemplates spikeTemplates hst cols hcols q hq
    obtain ⟨t, _, ht⟩ := Option.bind_eq_some_iff.1 h
    obtain ⟨_, hw, hok⟩ := hst.2.1 cols hcols
    exact ⟨hw _ (List.mem_of_getElem? ht), hok _ (List.mem_of_getElem? ht)⟩

/-- what `get_features` returns, row by row: the densified stored row of every requested spike, the
densified NaN row for a spike that has none -/
theorem getFeatures_eq (zero nan : β) (sf : Sparse β) (nloc nSpikes nTemplates : Nat)
    (spikeTemplates : List Nat) (hst : StoreOK sf nloc nSpikes nTemplates spikeTemplates)
    (spikeIds chans : List Nat) (hs : sf.rows ≠ none → spikeIds.Nodup) (hsr : ∀ q ∈ spikeIds, q < nSpikes)
    (hc : chans.Nodup) :
    getFeatures zero nan sf nloc spikeTemplates spikeIds chans =
      some (spikeIds.map fun q => chans.map fun c => denseEntry zero
        ((storedRow sf q).getD (List.replicate nloc nan)) (colsRow sf nloc spikeTemplates q) c) := by
  have hcr := colsRow_ok sf nloc nSpikes nTemplates spikeTemplates hst
  have hw : ∀ q, ((storedRow sf q).getD (List.replicate nloc nan)).length = nloc := fun q => by
    cases h : storedRow sf q with
    | none => exact List.length_replicate
    | some row => exact hst.1 row (storedRow_mem sf q row h)
  simp only [getFeatures, gatherRows_eq nan sf nloc spikeIds hst.2.2.1
    (fun h q hq => hst.2.2.2.1 h ▸ hsr q hq) hs,
    colsFor_eq sf nloc nSpikes nTemplates spikeTemplates hst spikeIds hsr, Option.bind_eq_bind,
    Option.bind_some]
  rw [fromSparse_spec zero _ _ chans hc (by rw [List.length_map, List.length_map]) ?_ ?_,
    List.zip_map', List.map_map]
  · rfl
  · intro p hp
    rw [List.zip_map'] at hp
    obtain ⟨q, hq, rfl⟩ := List.mem_map.1 hp
    exact (hw q).trans (hcr q (hsr q hq)).1.symm
  · intro r hr
    obtain ⟨q, hq, rfl⟩ := List.mem_map.1 hr
    exact (hcr q (hsr q hq)).2

theorem getFeatures_spec (zero nan : β) (sf : Sparse β) (nloc nSpikes nTemplates : Nat)
    (spikeTemplates : List Nat) (hst : StoreOK sf nloc nSpikes nTemplates spikeTemplates)
    (spikeIds chans : List Nat) (hs : sf.rows ≠ none → spikeIds.Nodup) (hsr : ∀ q ∈ spikeIds, q < nSpikes)
    (hc : chans.Nodup) :
    ∃ out, getFeatures zero nan sf nloc spikeTemplates spikeIds chans = some out ∧
      out.length = spikeIds.length ∧
      ∀ i (hi : i < spikeIds.length) row, storedRow sf (spikeIds[i]'hi) = some row →
        out.getD i [] = chans.map fun c =>
          denseEntry zero row (colsRow sf nloc spikeTemplates (spikeIds[i]'hi)) c := by
  refine ⟨_, getFeatures_eq zero nan sf nloc nSpikes nTemplates spikeTemplates hst spikeIds chans hs hsr hc,
    List.length_map _, fun i hi row hrow => ?_⟩
  rw [Np.Lemmas.getD_map_getElem _ _ _ _ hi, hrow]
  rfl

theorem getTemplateFeatures_spec (zero nan : β) (tf : Sparse β) (nloc nSpikes nTemplates : Nat)
    (spikeTemplates : List Nat) (hst : StoreOK tf nloc nSpikes nTemplates spikeTemplates)
    (spikeIds : List Nat) (hs : tf.rows ≠ none → spikeIds.Nodup) (hsr : ∀ q ∈ spikeIds, q < nSpikes) :
    ∃ out, getTemplateFeatures zero nan tf nloc spikeTemplates nTemplates spikeIds = some out ∧
      out.length = spikeIds.length ∧
      ∀ i (hi : i < spikeIds.length) row, storedRow tf (spikeIds[i]'hi) = some row →
        out.getD i [] = (List.range nTemplates).map fun c =>
          denseEntry zero row (colsRow tf nloc spikeTemplates (spikeIds[i]'hi)) c :=
  getFeatures_spec zero nan tf nloc nSpikes nTemplates spikeTemplates hst spikeIds (List.range nTemplates)
    hs hsr List.nodup_range

/-! Shape and order independence need no `StoreOK`: they hold whenever `get_features` returns at all. -/

theorem gatherRows_length (nan : β) (sf : Sparse β) (nloc : Nat) (spikeIds : List Nat)
    (feats : List (List β)) (h : gatherRows nan sf nloc spikeIds = some feats) :
    feats.length = spikeIds.length := by
  obtain ⟨data, cols, rows⟩ := sf
  cases rows with
  | none => exact Np.Lemmas.mapM_some_length _ _ _ h
  | some rows =>
    obtain ⟨rel, _, h⟩ := Option.bind_eq_some_iff.1 h
    obtain ⟨o, _, h⟩ := Option.bind_eq_some_iff.1 h
    cases h
    exact (scatter_length (fun p : Int × Int => p.1.toNat) (fun p => data.getD p.2.toNat [])
      (o.zip rel) _).trans List.length_replicate

theorem getFeatures_eq_some (zero nan : β) (sf : Sparse β) (nloc : Nat) (spikeTemplates : List Nat)
    (spikeIds chans : List Nat) (out : List (List β))
    (h : getFeatures zero nan sf nloc spikeTemplates spikeIds chans = some out) :
    ∃ feats cols, gatherRows nan sf nloc spikeIds = some feats ∧
      colsFor sf nloc spikeTemplates spikeIds = some cols ∧ fromSparse zero feats cols chans = some out := by
  obtain ⟨feats, h1, h⟩ := Option.bind_eq_some_iff.1 h
  obtain ⟨cols, h2, h3⟩ := Option.bind_eq_some_iff.1 h
  exact ⟨feats, cols, h1, h2, h3⟩

theorem getFeatures_shape (zero nan : β) (sf : Sparse β) (nloc : Nat) (spikeTemplates : List Nat)
    (spikeIds chans : List Nat) (out : List (List β))
    (h : getFeatures zero nan sf nloc spikeTemplates spikeIds chans = some out) :
    out.length = spikeIds.length ∧ ∀ r ∈ out, r.length = chans.length := by
  obtain ⟨feats, cols, h1, _, h3⟩ := getFeatures_eq_some zero nan sf nloc spikeTemplates spikeIds chans out h
  obtain ⟨hl, hw⟩ := fromSparse_shape zero feats cols chans out h3
  exact ⟨hl.trans (gatherRows_length nan sf nloc spikeIds feats h1), hw⟩

theorem getFeatures_order_independent (zero nan : β) (sf : Sparse β) (nloc : Nat)
    (spikeTemplates : List Nat) (spikeIds chans chans' : List Nat) (out out' : List (List β))
    (ho : getFeatures zero nan sf nloc spikeTemplates spikeIds chans = some out)
    (ho' : getFeatures zero nan sf nloc spikeTemplates spikeIds chans' = some out')
    (i j j' : Nat) (hj : j < chans.length) (hj' : j' < chans'.length)
    (heq : chans[j]'hj = chans'[j']'hj') :
    (out.getD i []).getD j zero = (out'.getD i []).getD j' zero := by
  obtain ⟨feats, cols, h1, h2, h3⟩ := getFeatures_eq_some zero nan sf nloc spikeTemplates spikeIds chans out ho
  obtain ⟨feats', cols', h1', h2', h3'⟩ :=
    getFeatures_eq_some zero nan sf nloc spikeTemplates spikeIds chans' out' ho'
  cases h1.symm.trans h1'
  cases h2.symm.trans h2'
  exact fromSparse_order_independent zero feats cols chans chans' out out' h3 h3' i j j' hj hj' heq

end PhyVerif.C06.Lemmas
