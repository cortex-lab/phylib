import PhyVerif.Model.C16
import PhyVerif.Spec.C16
/-! The readers' chunk bounds and chunk iterators of `phylib/io/traces.py` as modelled in `Model/C16.lean`.
`_get_chunk_bounds`: one pass of its loop appends a piece that continues the bounds so far (`gcbStep_spec`), and the fold
keeps `GInv`.  The iterators: `chainFrom` follows the base iterator along a strictly increasing bound list
(`chainFrom_zip_tail`); the compressed iterator is a chain of chunk INDICES (`iterMtsIdx_chain`) mapped through the
strictly increasing table (`chainFrom_map`). -/
namespace PhyVerif.C16.Lemmas
open PhyVerif.C16

theorem pyRange_eq (a b step : Nat) :
    pyRange a b step = List.range' a ((b - a + step - 1) / step) step := by
  apply List.ext_getElem (by simp [pyRange])
  intro i h1 h2
  simp [pyRange, Nat.mul_comm]

/-- the range `_get_chunk_bounds` takes for an array of `size` rows that starts at row `n` -/
theorem pyRange_succ (n size cs : Nat) (hcs : 0 < cs) :
    pyRange n (n + size + 1) cs = n :: List.range' (n + cs) (size / cs) cs := by
  rw [pyRange_eq, Nat.add_assoc n size 1, Nat.add_sub_cancel_left, Nat.add_right_comm size 1 cs, Nat.add_sub_cancel,
    Nat.add_div_right _ hcs, List.range'_succ]

theorem getLast?_range'_succ (a k step : Nat) :
    (a :: List.range' (a + step) k step).getLast? = some (a + step * k) := by
  rw [← List.range'_succ, List.range'_concat, List.getLast?_concat]

/-- the two clauses of `boundsOK` about neighbouring bounds -/
def Steps (cs : Nat) (l : List Nat) : Prop := strictInc l = true ∧ gapsLe cs l = true

theorem steps_cons_cons (cs a b : Nat) (t : List Nat) :
    Steps cs (a :: b :: t) ↔ (a < b ∧ b - a ≤ cs) ∧ Steps cs (b :: t) := by
  simp only [Steps, strictInc, gapsLe, Bool.and_eq_true, decide_eq_true_eq]
  exact ⟨fun ⟨⟨a, b⟩, c, d⟩ => ⟨⟨a, c⟩, b, d⟩, fun ⟨⟨a, c⟩, b, d⟩ => ⟨⟨a, b⟩, c, d⟩⟩

theorem strictInc_pairwise : ∀ l : List Nat, strictInc l = true → l.Pairwise (· < ·)
  | [], _ => .nil
  | [a], _ => List.pairwise_singleton _ a
  | a :: b :: t, h => by
    simp only [strictInc, Bool.and_eq_true, decide_eq_true_eq] at h
    have hp := strictInc_pairwise (b :: t) h.2
    refine List.pairwise_cons.2 ⟨fun x hx => ?_, hp⟩
    rcases List.mem_cons.1 hx with rfl | hx
    · exact h.1
    · exact Nat.lt_trans h.1 ((List.pairwise_cons.1 hp).1 x hx)

theorem steps_range' (cs : Nat) (hcs : 0 < cs) : ∀ k a, Steps cs (List.range' a k cs)
  | 0, _ => ⟨rfl, rfl⟩
  | 1, _ => ⟨rfl, rfl⟩
  | k + 2, a => (steps_cons_cons ..).2 ⟨by omega, steps_range' cs hcs (k + 1) (a + cs)⟩

theorem steps_append (cs : Nat) : ∀ (b ext : List Nat) (n : Nat), Steps cs b →
    b.getLast? = some n → Steps cs (n :: ext) → Steps cs (b ++ ext)
  | [], _, _, _, h, _ => by simp at h
  | [x], ext, n, _, hl, he => by
    rw [List.getLast?_singleton, Option.some.injEq] at hl
    subst hl; exact he
  | x :: y :: t, ext, n, hs, hl, he => by
    rw [List.getLast?_cons_cons] at hl
    rw [steps_cons_cons] at hs
    exact (steps_cons_cons ..).2 ⟨hs.1, steps_append cs (y :: t) ext n hs.2 hl he⟩

theorem getLast?_append_of (b ext : List Nat) (n : Nat) (hl : b.getLast? = some n) :
    (b ++ ext).getLast? = (n :: ext).getLast? := by
  cases ext with
  | nil => simp [hl]
  | cons e t => simp [List.getLast?_append, List.getLast?_cons]

/-- the first iteration of `_get_chunk_bounds` (empty `b`) does what any later one would do from `[n]` -/
theorem gcbStep_nil (cs : Nat) (hcs : 0 < cs) (n size : Nat) :
    gcbStep cs ([], n) size = gcbStep cs ([n], n) size := by
  simp [gcbStep, pyRange_succ n size cs hcs]

theorem gcbStep_spec (cs : Nat) (hcs : 0 < cs) (b : List Nat) (n size : Nat) (hb : b.getLast? = some n) :
    ∃ ext, gcbStep cs (b, n) size = (b ++ ext, n + size) ∧
      Steps cs (n :: ext) ∧ (n :: ext).getLast? = some (n + size) := by
  have hm : cs * (size / cs) ≤ size := Nat.mul_div_le size cs
  have hm2 : size < cs * (size / cs) + cs := Nat.lt_mul_div_succ size hcs
  generalize hmd : size / cs = m at hm hm2
  have hlastT := getLast?_range'_succ n m cs
  have hsT : Steps cs (n :: List.range' (n + cs) m cs) := steps_range' cs hcs (m + 1) n
  generalize ht : List.range' (n + cs) m cs = t at hlastT hsT
  -- the range part starts with the last bound `n`, which is dropped; then `n + size` unless the range ends there
  have hstep : gcbStep cs (b, n) size =
      (if (n :: t).getLast? != some (n + size) then b ++ t ++ [n + size] else b ++ t, n + size) := by
    have : b ≠ [] := by intro h; simp [h] at hb
    simp only [gcbStep]
    rw [pyRange_succ n size cs hcs, hmd, ht, ← getLast?_append_of b t n hb]
    simp [this, hb]
  rw [hlastT] at hstep
  by_cases hsz : cs * m = size
  · refine ⟨t, ?_, hsT, ?_⟩
    · rw [hstep]; simp [hsz]
    · rw [hlastT, hsz]
  · refine ⟨t ++ [n + size], ?_, ?_, ?_⟩
    · rw [hstep, if_pos (by simp only [bne_iff_ne, ne_eq, Option.some.injEq]; omega), List.append_assoc]
    · exact steps_append cs (n :: t) [n + size] (n + cs * m) hsT hlastT
        ((steps_cons_cons ..).2 ⟨by omega, rfl, rfl⟩)
    · rw [← List.cons_append, List.getLast?_concat]

/-- loop invariant of `_get_chunk_bounds`: the bounds so far run from 0 to the row count so far -/
def GInv (cs : Nat) (b : List Nat) (n : Nat) : Prop :=
  b.head? = some 0 ∧ b.getLast? = some n ∧ Steps cs b

theorem gcbStep_inv (cs : Nat) (hcs : 0 < cs) (b : List Nat) (n size : Nat) (h : GInv cs b n) :
    ∃ b', gcbStep cs (b, n) size = (b', n + size) ∧ GInv cs b' (n + size) ∧ ∀ x ∈ b, x ∈ b' := by
  obtain ⟨h0, hl, hs⟩ := h
  obtain ⟨ext, he, hse, hle⟩ := gcbStep_spec cs hcs b n size hl
  refine ⟨b ++ ext, he, ⟨?_, ?_, steps_append cs b ext n hs hl hse⟩, fun x hx => List.mem_append_left _ hx⟩
  · rw [List.head?_append, h0]
    rfl
  · rw [getLast?_append_of b ext n hl, hle]

theorem foldl_gcbStep_inv (cs : Nat) (hcs : 0 < cs) : ∀ (sizes : List Nat) (b : List Nat) (n : Nat),
    GInv cs b n →
    ∃ b', sizes.foldl (gcbStep cs) (b, n) = (b', n + sizes.sum) ∧ GInv cs b' (n + sizes.sum) ∧
      (∀ x ∈ b, x ∈ b') ∧ ∀ p ∈ partBoundsFrom n sizes, p ∈ b' := by
  intro sizes
  induction sizes with
  | nil =>
    intro b n h
    refine ⟨b, rfl, h, fun x hx => hx, ?_⟩
    intro p hp
    rw [partBoundsFrom, List.mem_singleton] at hp
    subst hp
    exact List.mem_of_getLast? h.2.1
  | cons s rest ih =>
    intro b n h
    obtain ⟨b1, e1, i1, m1⟩ := gcbStep_inv cs hcs b n s h
    obtain ⟨b2, e2, i2, m2, p2⟩ := ih b1 (n + s) i1
    rw [List.sum_cons, ← Nat.add_assoc]
    refine ⟨b2, by rw [List.foldl_cons, e1, e2], i2, fun x hx => m2 x (m1 x hx), ?_⟩
    intro p hp
    rw [partBoundsFrom, List.mem_cons] at hp
    rcases hp with rfl | hp
    · exact m2 _ (m1 _ (List.mem_of_getLast? h.2.1))
    · exact p2 p hp

theorem boundsOK_iff (sizes : List Nat) (cs : Nat) (b : List Nat) :
    boundsOK sizes cs b = true ↔ b.head? = some 0 ∧ b.getLast? = some sizes.sum ∧ strictInc b = true ∧
      (∀ p ∈ partBounds sizes, p ∈ b) ∧ gapsLe cs b = true := by
  simp only [boundsOK, Bool.and_eq_true, beq_iff_eq, List.all_eq_true, List.contains_iff_mem, and_assoc]

theorem getChunkBounds_ok (sizes : List Nat) (cs : Nat) (hcs : 0 < cs) (hne : sizes ≠ []) :
    boundsOK sizes cs (getChunkBounds sizes cs) = true := by
  obtain ⟨b, e, ⟨h0, hl, hs, hg⟩, _, p⟩ := foldl_gcbStep_inv cs hcs sizes [0] 0 ⟨rfl, rfl, rfl, rfl⟩
  have hb : getChunkBounds sizes cs = b := by
    cases sizes with
    | nil => exact absurd rfl hne
    | cons s rest => rw [getChunkBounds, List.foldl_cons, gcbStep_nil cs hcs, ← List.foldl_cons, e]
  rw [Nat.zero_add] at hl
  rw [hb, boundsOK_iff]
  exact ⟨h0, hl, hs, p, hg⟩

theorem chainFrom_cons_lt (a b : Nat) (t : List (Nat × Nat)) (h : a < b) :
    chainFrom a ((a, b) :: t) = chainFrom b t := by
  rw [chainFrom, if_neg (by rw [beq_iff_eq]; omega), if_pos (by simpa using h)]

theorem chainFrom_cons_eq (cur a : Nat) (t : List (Nat × Nat)) :
    chainFrom cur ((a, a) :: t) = chainFrom cur t := by
  rw [chainFrom, if_pos (beq_self_eq_true _)]

theorem chainFrom_zip_tail (n : Nat) : ∀ (b : List Nat) (a : Nat), b.head? = some a →
    b.getLast? = some n → strictInc b = true → chainFrom a (b.zip b.tail) = some n
  | [], _, h, _, _ => by simp at h
  | [x], a, h0, hl, _ => by
    rw [List.head?_cons, Option.some.injEq] at h0
    rw [List.getLast?_singleton, Option.some.injEq] at hl
    rw [← h0, hl]; rfl
  | x :: y :: t, a, h0, hl, hs => by
    rw [List.head?_cons, Option.some.injEq] at h0
    rw [List.getLast?_cons_cons] at hl
    simp only [strictInc, Bool.and_eq_true, decide_eq_true_eq] at hs
    rw [← h0, List.tail_cons, List.zip_cons_cons, chainFrom_cons_lt x y _ hs.1]
    exact chainFrom_zip_tail n (y :: t) y rfl hl hs.2

theorem iterChunksBase_tile (b : List Nat) (n : Nat) (h0 : b.head? = some 0)
    (hl : b.getLast? = some n) (hs : strictInc b = true) :
    intervalsTile n (iterChunksBase b) = true := by
  unfold intervalsTile iterChunksBase
  rw [chainFrom_zip_tail n b 0 h0 hl hs]; simp

theorem reader_iter_tile (sizes : List Nat) (cs : Nat) (hcs : 0 < cs) (hne : sizes ≠ []) :
    intervalsTile sizes.sum (iterChunksBase (getChunkBounds sizes cs)) = true := by
  obtain ⟨h0, hl, hs, _⟩ := (boundsOK_iff ..).1 (getChunkBounds_ok sizes cs hcs hne)
  exact iterChunksBase_tile _ _ h0 hl hs

theorem chainFrom_append : ∀ (l1 l2 : List (Nat × Nat)) (cur : Nat),
    chainFrom cur (l1 ++ l2) = (chainFrom cur l1).bind (fun c => chainFrom c l2) := by
  intro l1
  induction l1 with
  | nil => intro l2 cur; simp [chainFrom]
  | cons p t ih =>
    intro l2 cur
    obtain ⟨a, b⟩ := p
    simp only [List.cons_append, chainFrom]
    split
    · exact ih l2 cur
    · split
      · exact ih l2 b
      · rfl

/-- mapping an index-level chain through a function that is strictly increasing on `[0, nc]` -/
theorem chainFrom_map (f : Nat → Nat) (nc : Nat) (hf : ∀ i j, i < j → j ≤ nc → f i < f j) :
    ∀ (l : List (Nat × Nat)) (cur fin : Nat), chainFrom cur l = some fin →
      (∀ p ∈ l, p.1 ≤ nc ∧ p.2 ≤ nc) →
      chainFrom (f cur) (l.map (fun p => (f p.1, f p.2))) = some (f fin) := by
  intro l
  induction l with
  | nil => intro cur fin h _; simp [chainFrom] at h ⊢; exact congrArg f h
  | cons p t ih =>
    intro cur fin h hb
    obtain ⟨a, b⟩ := p
    have hab := (hb (a, b) List.mem_cons_self).2
    have ht : ∀ p ∈ t, p.1 ≤ nc ∧ p.2 ≤ nc := fun p hp => hb p (List.mem_cons_of_mem _ hp)
    rw [chainFrom] at h
    rw [List.map_cons]
    split at h
    · rename_i e
      rw [beq_iff_eq.1 e]
      exact (chainFrom_cons_eq ..).trans (ih cur fin h ht)
    · split at h
      · rename_i c
        simp only [Bool.and_eq_true, beq_iff_eq, decide_eq_true_eq] at c
        obtain ⟨rfl, c2⟩ := c
        exact (chainFrom_cons_lt _ _ _ (hf a b c2 hab)).trans (ih b fin h ht)
      · cases h

/-- `ceil(nc / bs)` batches: the last one, `k`, starts inside the table and reaches its end -/
theorem nBatches_spec (bs nc : Nat) (hbs : 0 < bs) (hnc : 1 ≤ nc) :
    ∃ k, nBatches bs nc = k + 1 ∧ bs * k < nc ∧ nc ≤ bs * k + bs := by
  have h1 := Nat.div_add_mod (nc + bs - 1) bs
  have h2 := Nat.mod_lt (nc + bs - 1) hbs
  rw [nBatches]
  generalize (nc + bs - 1) / bs = q at h1 ⊢
  cases q with
  | zero => omega
  | succ k => exact ⟨k, rfl, by rw [Nat.mul_succ] at h1; omega⟩

/-- a batch that starts inside the table: from its look-behind chunk to the last chunk it covers -/
theorem mtsBatch_eq (bs nc b : Nat) (hbs : 0 < bs) (hb : bs * b < nc) :
    mtsBatch bs nc b = (bs * b - 1, min (bs * b + bs) nc - 1) := by
  rw [mtsBatch, Nat.mul_succ, Nat.max_eq_right (by omega)]

theorem iterMtsIdx_eq (bs nc : Nat) (hbs : 0 < bs) (hnc : 1 ≤ nc) :
    iterMtsIdx bs nc = (List.range (nBatches bs nc)).map (mtsBatch bs nc) ++ [(nc - 1, nc)] := by
  obtain ⟨k, hq, f1, f2⟩ := nBatches_spec bs nc hbs hnc
  have hl : (mtsBatch bs nc k).2 = nc - 1 := by
    rw [mtsBatch_eq bs nc k hbs f1, Nat.min_eq_right f2]
  simp only [iterMtsIdx, hq, List.range_succ, List.map_append, List.map_cons, List.map_nil,
    List.getLast?_append, List.getLast?_singleton, Option.some_or, hl]
  rw [Nat.sub_add_cancel hnc]

theorem iterMtsIdx_spans (bs nc : Nat) (hbs : 0 < bs) (hnc : 1 ≤ nc) :
    ∀ p ∈ iterMtsIdx bs nc, p.1 ≤ p.2 ∧ p.2 ≤ nc ∧ p.2 - p.1 ≤ bs := by
  obtain ⟨k, hq, f1, _⟩ := nBatches_spec bs nc hbs hnc
  simp only [iterMtsIdx_eq bs nc hbs hnc, hq, List.mem_append, List.mem_map, List.mem_range, List.mem_singleton]
  rintro p (⟨b, hb, rfl⟩ | rfl)
  · have : bs * b ≤ bs * k := Nat.mul_le_mul_left bs (Nat.le_of_lt_succ hb)
    rw [mtsBatch_eq bs nc b hbs (Nat.lt_of_le_of_lt this f1)]
    simp only
    omega
  · simp only; omega

/-- batch `k` continues a chain that stands at its look-behind chunk -/
theorem chainFrom_mtsBatch (bs nc k : Nat) (hbs : 0 < bs) (hk : bs * k < nc) :
    chainFrom (bs * k - 1) [mtsBatch bs nc k] = some (min (bs * (k + 1)) nc - 1) := by
  rw [mtsBatch_eq bs nc k hbs hk, Nat.mul_succ]
  generalize bs * k = m at hk ⊢
  rcases Nat.eq_or_lt_of_le (show m - 1 ≤ min (m + bs) nc - 1 by omega) with h | h
  · rw [← h, chainFrom_cons_eq]; rfl
  · rw [chainFrom_cons_lt _ _ _ h]; rfl

/-- the chain through the first `k` batches ends at the last chunk they cover -/
theorem chainFrom_mtsBatches (bs nc : Nat) (hbs : 0 < bs) : ∀ k, bs * k < nc + bs →
    chainFrom 0 ((List.range k).map (mtsBatch bs nc)) = some (min (bs * k) nc - 1) := by
  intro k
  induction k with
  | zero => intro _; simp [chainFrom]
  | succ k ih =>
    intro hk
    rw [Nat.mul_succ] at hk
    have hk' : bs * k < nc := Nat.lt_of_add_lt_add_right hk
    rw [List.range_succ, List.map_append, chainFrom_append, ih (Nat.lt_add_right bs hk'), Option.bind_some,
      Nat.min_eq_left (Nat.le_of_lt hk')]
    exact chainFrom_mtsBatch bs nc k hbs hk'

theorem iterMtsIdx_chain (bs nc : Nat) (hbs : 0 < bs) (hnc : 1 ≤ nc) :
    chainFrom 0 (iterMtsIdx bs nc) = some nc := by
  obtain ⟨k, hq, f1, f2⟩ := nBatches_spec bs nc hbs hnc
  rw [iterMtsIdx_eq bs nc hbs hnc, chainFrom_append, hq,
    chainFrom_mtsBatches bs nc hbs (k + 1) (Nat.mul_succ bs k ▸ Nat.add_lt_add_right f1 bs), Nat.mul_succ,
    Nat.min_eq_right f2, Option.bind_some]
  exact chainFrom_cons_lt (nc - 1) nc [] (Nat.sub_lt hnc Nat.one_pos)

theorem iterChunksMts_tile (bs : Nat) (hbs : 0 < bs) (cb : List Nat) (n : Nat)
    (h0 : cb.head? = some 0) (hl : cb.getLast? = some n) (hs : strictInc cb = true)
    (hlen : 2 ≤ cb.length) :
    intervalsTile n (iterChunksMts bs cb) = true := by
  have hp := strictInc_pairwise cb hs
  rw [List.pairwise_iff_getElem] at hp
  have hf : ∀ i j, i < j → j ≤ cb.length - 1 → cb.getD i 0 < cb.getD j 0 := by
    intro i j hij hj
    have hj' : j < cb.length := by omega
    have hi' : i < cb.length := by omega
    have := hp i j hi' hj' hij
    simpa [List.getD_eq_getElem?_getD, hi', hj'] using this
  have := chainFrom_map (fun i => cb.getD i 0) (cb.length - 1) hf _ 0 (cb.length - 1)
    (iterMtsIdx_chain bs _ hbs (by omega))
    (fun p hp => have h := iterMtsIdx_spans bs _ hbs (by omega) p hp; ⟨Nat.le_trans h.1 h.2.1, h.2.1⟩)
  have e0 : cb.getD 0 0 = 0 := by
    cases cb with
    | nil => simp at h0
    | cons x t => simpa using h0
  have en : cb.getD (cb.length - 1) 0 = n := by
    rw [List.getLast?_eq_getElem?] at hl
    simp [List.getD_eq_getElem?_getD, hl]
  simp only [e0, en] at this
  unfold intervalsTile iterChunksMts
  rw [this]; simp

end PhyVerif.C16.Lemmas
