import PhyVerif.Model.C18c
import PhyVerif.Spec.C18c
import PhyVerif.Lemmas.C18
/-! The csv writer read back by the csv reader (`Model/C18c.lean`): one record, then whole files through
the text layer (`\r\n` written, universal newlines read). -/
namespace PhyVerif.C18.Lemmas
open PhyVerif PhyVerif.C18

/-- The reader's states are followed through one written field at a time, whatever `tail` comes after it:
nothing, or the delimiter and the rest of the line. -/
def FieldEnd (d : Char) (tail : Str) : Prop := tail = [] ∨ ∃ rest, tail = d :: rest

/-- what the reader makes of such a `tail` once the field before it is closed -/
def afterField (d : Char) : Str → List Str
  | [] => []
  | _ :: rest => pStartField d rest

theorem consHead_cons (c : Char) (f : Str) (fs : List Str) : consHead c (f :: fs) = (c :: f) :: fs := rfl

/-- where a field ends, every reader state that can see the end closes the field -/
theorem field_end (d : Char) (hd : d ≠ '"') {tail : Str} (ht : FieldEnd d tail) :
    pStartField d tail = [] :: afterField d tail ∧ pInField d tail = [] :: afterField d tail ∧
      pQuoteInQuoted d tail = [] :: afterField d tail := by
  rcases ht with rfl | ⟨rest, rfl⟩ <;> simp [pStartField, pInField, pQuoteInQuoted, afterField, hd]

theorem pInQuoted_doubleQuotes (d : Char) (hd : d ≠ '"') (tail : Str) (ht : FieldEnd d tail) (s : Str) :
    pInQuoted d (doubleQuotes s ++ '"' :: tail) = s :: afterField d tail := by
  induction s with
  | nil => simp [doubleQuotes, pInQuoted, (field_end d hd ht).2.2]
  | cons c s ih =>
    by_cases hc : c = '"'
    · subst hc
      simp [doubleQuotes, pInQuoted, pQuoteInQuoted, ih, consHead_cons]
    · simp [doubleQuotes, pInQuoted, hc, ih, consHead_cons]

theorem of_needsQuote_cons {d c : Char} {s : Str} (h : needsQuote d (c :: s) = false) :
    c ≠ d ∧ c ≠ '"' ∧ needsQuote d s = false := by
  simp only [needsQuote, List.any_cons, Bool.or_eq_false_iff, beq_eq_false_iff_ne] at h
  exact ⟨h.1.1.1.1, h.1.1.1.2, h.2⟩

theorem pInField_plain (d : Char) (hd : d ≠ '"') (tail : Str) (ht : FieldEnd d tail) (s : Str)
    (h : needsQuote d s = false) : pInField d (s ++ tail) = s :: afterField d tail := by
  induction s with
  | nil => exact (field_end d hd ht).2.1
  | cons c s ih =>
    obtain ⟨h1, _, h3⟩ := of_needsQuote_cons h
    simp [pInField, h1, ih h3, consHead_cons]

theorem pStartField_quoteField (d : Char) (hd : d ≠ '"') (tail : Str) (ht : FieldEnd d tail) (s : Str) :
    pStartField d (quoteField d s ++ tail) = s :: afterField d tail := by
  unfold quoteField
  split
  · simp [pStartField, pInQuoted_doubleQuotes d hd tail ht s]
  · next hq =>
    cases s with
    | nil => exact (field_end d hd ht).1
    | cons c s =>
      obtain ⟨h1, h2, h3⟩ := of_needsQuote_cons (Bool.eq_false_iff.mpr hq)
      simp [pStartField, h1, h2, pInField_plain d hd tail ht s h3, consHead_cons]

theorem pStartField_joinFields (d : Char) (hd : d ≠ '"') (f : Str) (fs : List Str) :
    pStartField d (joinFields d (f :: fs)) = f :: fs := by
  induction fs generalizing f with
  | nil =>
    rw [joinFields, ← List.append_nil (quoteField d f), pStartField_quoteField d hd [] (Or.inl rfl) f]
    rfl
  | cons g fs ih => rw [joinFields, pStartField_quoteField d hd _ (Or.inr ⟨_, rfl⟩) f, afterField, ih]

theorem quoteField_ne_nil (d : Char) (s : Str) (hs : s ≠ []) : quoteField d s ≠ [] := by
  unfold quoteField
  split
  · simp
  · exact hs

theorem joinFields_ne_nil (d : Char) (f : Str) (fs : List Str) (h : f :: fs ≠ [[]]) : joinFields d (f :: fs) ≠ [] := by
  cases fs with
  | nil => exact quoteField_ne_nil d f fun h0 => h (by rw [h0])
  | cons g fs => simp [joinFields]

theorem csvParseLine_of_ne_nil (d : Char) (l : Str) (h : l ≠ []) : csvParseLine d l = pStartField d l := by
  cases l with
  | nil => exact absurd rfl h
  | cons c cs => rfl

theorem csv_line_roundtrip (d : Char) (hd : d ≠ '"') (fs : List Str) :
    csvParseLine d (csvRow d fs) = fs := by
  unfold csvRow
  by_cases h1 : fs = [[]]
  · subst h1
    rfl
  · rw [if_neg h1]
    cases fs with
    | nil => rfl
    | cons f fs =>
      rw [csvParseLine_of_ne_nil d _ (joinFields_ne_nil d f fs h1)]
      exact pStartField_joinFields d hd f fs

theorem noBreak_nil : NoBreak ([] : Str) := fun _ h => nomatch h

theorem noBreak_cons {c : Char} {a : Str} : NoBreak (c :: a) ↔ (c ≠ '\r' ∧ c ≠ '\n') ∧ NoBreak a :=
  List.forall_mem_cons

theorem noBreak_append {a b : Str} : NoBreak (a ++ b) ↔ NoBreak a ∧ NoBreak b := List.forall_mem_append

theorem universalNewlines_noBreak (rest l : Str) (h : NoBreak l) :
    universalNewlines false (l ++ rest) = l ++ universalNewlines false rest := by
  induction l with
  | nil => rfl
  | cons c l ih =>
    obtain ⟨hc, hl⟩ := noBreak_cons.mp h
    simp [universalNewlines, hc.1, ih hl]

theorem splitLines_line (rest l : Str) (h : ∀ c ∈ l, c ≠ '\n') :
    splitLines (l ++ '\n' :: rest) = l :: splitLines rest := by
  induction l with
  | nil => simp [splitLines]
  | cons c l ih =>
    obtain ⟨hc, hl⟩ := List.forall_mem_cons.mp h
    simp [splitLines, hc, ih hl, consHead_cons]

/-- `t`: `\r\n` as the csv writer puts it, `\n` as `write_python` does -/
theorem fileLines_line {t : Str} (ht : t = ['\n'] ∨ t = ['\r', '\n']) (l : Str) (h : NoBreak l) (rest : Str) :
    fileLines (l ++ t ++ rest) = l :: fileLines rest := by
  have hterm : universalNewlines false (t ++ rest) = '\n' :: universalNewlines false rest := by
    rcases ht with rfl | rfl <;> rfl
  unfold fileLines
  rw [List.append_assoc, universalNewlines_noBreak _ l h, hterm, splitLines_line _ l fun c hc => (h c hc).2]

theorem fileLines_flatMap {α : Type} {t : Str} (ht : t = ['\n'] ∨ t = ['\r', '\n']) (f : α → Str) (xs : List α)
    (h : ∀ x ∈ xs, NoBreak (f x)) : fileLines (xs.flatMap fun x => f x ++ t) = xs.map f := by
  induction xs with
  | nil => rfl
  | cons x xs ih =>
    obtain ⟨hx, hxs⟩ := List.forall_mem_cons.mp h
    rw [List.flatMap_cons, fileLines_line ht (f x) hx, ih hxs, List.map_cons]

theorem mem_doubleQuotes {c : Char} {s : Str} : c ∈ doubleQuotes s ↔ c ∈ s := by
  induction s with
  | nil => exact Iff.rfl
  | cons x s ih => by_cases hx : x = '"' <;> simp [doubleQuotes, hx, ih]

theorem mem_quoteField {d c : Char} {s : Str} (h : c ∈ quoteField d s) : c ∈ s ∨ c = '"' := by
  unfold quoteField at h
  split at h
  · simpa [mem_doubleQuotes, or_comm] using h
  · exact Or.inl h

theorem mem_joinFields {d c : Char} {fs : List Str} (h : c ∈ joinFields d fs) :
    (∃ f ∈ fs, c ∈ f) ∨ c = '"' ∨ c = d := by
  induction fs with
  | nil => nomatch h
  | cons f fs ih =>
    cases fs with
    | nil => exact (mem_quoteField h).imp (fun h => ⟨f, List.mem_cons_self, h⟩) Or.inl
    | cons g fs =>
      simp only [joinFields, List.mem_append, List.mem_cons] at h
      rcases h with h | h | h
      · exact (mem_quoteField h).imp (fun h => ⟨f, List.mem_cons_self, h⟩) Or.inl
      · exact Or.inr (Or.inr h)
      · exact (ih h).imp_left fun ⟨x, hx, hc⟩ => ⟨x, List.mem_cons_of_mem _ hx, hc⟩

theorem mem_csvRow {d c : Char} {fs : List Str} (h : c ∈ csvRow d fs) : (∃ f ∈ fs, c ∈ f) ∨ c = '"' ∨ c = d := by
  unfold csvRow at h
  split at h
  · exact Or.inr (Or.inl (by simpa using h))
  · exact mem_joinFields h

theorem noBreak_csvRow (d : Char) (hd : d ≠ '\r' ∧ d ≠ '\n') (fs : List Str) (h : ∀ f ∈ fs, NoBreak f) :
    NoBreak (csvRow d fs) := by
  intro c hc
  rcases mem_csvRow hc with ⟨f, hf, hcf⟩ | rfl | rfl
  · exact h f hf c hcf
  · exact ⟨by decide, by decide⟩
  · exact hd

theorem delim_mem_csvRow (d : Char) (fs : List Str) (h : 2 ≤ fs.length) : d ∈ csvRow d fs := by
  rcases fs with _ | ⟨f, _ | ⟨g, fs⟩⟩
  · exact absurd h (by decide)
  · exact absurd h (by simp)
  · simp [csvRow, joinFields]

theorem fileLines_csvWrite (d : Char) (hd : d ≠ '\r' ∧ d ≠ '\n') (rows : List (List Str))
    (h : ∀ r ∈ rows, ∀ f ∈ r, NoBreak f) : fileLines (csvWrite d rows) = rows.map (csvRow d) :=
  fileLines_flatMap (Or.inr rfl) (csvRow d) rows fun r hr => noBreak_csvRow d hd r (h r hr)

theorem csv_file_roundtrip (d : Char) (hq : d ≠ '"') (hd : d ≠ '\r' ∧ d ≠ '\n') (rows : List (List Str))
    (h : ∀ r ∈ rows, ∀ f ∈ r, NoBreak f) : csvRead d (csvWrite d rows) = rows := by
  unfold csvRead
  rw [fileLines_csvWrite d hd rows h, List.map_map]
  exact List.map_id'' (csv_line_roundtrip d hq) rows

end PhyVerif.C18.Lemmas
