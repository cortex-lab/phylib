import PhyVerif.Model.C04
import PhyVerif.Model.C04b
import PhyVerif.Spec.C04
import PhyVerif.Lemmas.C04
/-!
The loader of `Model/C04.lean` against the table of `Spec/C04.lean`: every successful `load` satisfies it (`load_values`,
`load_times`), and the rejections that follow.  `name_table` serves the layout proof of `C04b` as well; it stands here
so that all comparisons of file names are evaluated together.
-/
namespace PhyVerif.C04.Lemmas
open PhyVerif PhyVerif.C04

theorem findPath_wins (d : Dir) (pats : List String) (f : String) (h : findPath d pats = some f) :
    Wins d pats f :=
  findPath_first_match d pats f h

theorem findPath_absent (d : Dir) (pats : List String) (h : findPath d pats = none) : Absent d pats :=
  findPath_none d pats h

theorem readFile_some (d : Dir) (pats : List String) (a : Arr) (h : readFile d pats = some a) :
    ∃ f, Wins d pats f ∧ d.lookup f = some a := by
  obtain ⟨f, hf, hl⟩ := (readFile_eq_some d pats a).1 h
  exact ⟨f, findPath_wins d pats f hf, hl⟩

theorem readFile_none (d : Dir) (pats : List String) (h : readFile d pats = none) : Absent d pats := by
  unfold readFile at h
  split at h
  · next f hf => exact absurd (findPath_mem d pats f hf) (not_mem_of_lookup_none d f h)
  · next hf => exact findPath_absent d pats hf

theorem row_of_readFile (d : Dir) (pats : List String) (tr : Arr → Arr) :
    Row d pats tr ((readFile d pats).map tr) := by
  cases h : readFile d pats with
  | some a =>
    obtain ⟨f, hw, hl⟩ := readFile_some d pats a h
    exact .inl ⟨f, a, hw, hl, rfl⟩
  | none => exact .inr ⟨readFile_none d pats h, rfl⟩

theorem wins_not_absent (d : Dir) (pats : List String) (f : String) (h : Wins d pats f) : ¬ Absent d pats := by
  obtain ⟨i, hi, h1, h2, -⟩ := h
  exact fun ha => Bool.false_ne_true ((ha _ (List.getElem_mem hi) f h2).symm.trans h1)

theorem wins_unique (d : Dir) (pats : List String) (f g : String) (hu : GlobUnique d pats)
    (hf : Wins d pats f) (hg : Wins d pats g) : f = g := by
  obtain ⟨i, hi, f1, f2, f3⟩ := hf
  obtain ⟨j, hj, g1, g2, g3⟩ := hg
  rcases Nat.lt_trichotomy i j with hlt | heq | hgt
  · exact absurd ((g3 i hi hlt f f2).symm.trans f1) Bool.false_ne_true
  · subst heq
    exact hu _ (List.getElem_mem hi) f f2 g g2 f1 g1
  · exact absurd ((f3 j hj hgt g g2).symm.trans g1) Bool.false_ne_true

theorem findPath_append (d x : Dir) (pats : List String)
    (h : ∀ p ∈ pats, ∀ g ∈ x.map (·.1), globMatch p g = false) :
    findPath (d ++ x) pats = findPath d pats := by
  induction pats with
  | nil => rfl
  | cons p rest ih =>
    have hx : x.filter (fun f => globMatch p f.1) = [] :=
      List.filter_eq_nil_iff.2 fun a ha => Bool.eq_false_iff.1 (h p List.mem_cons_self a.1 (List.mem_map_of_mem ha))
    simp only [findPath, List.filter_append, hx, List.append_nil]
    rw [ih (fun q hq => h q (List.mem_cons_of_mem _ hq))]

theorem lookup_append_of_mem (d x : Dir) (f : String) (h : f ∈ d.map (·.1)) :
    (d ++ x).lookup f = d.lookup f := by
  obtain ⟨a, ha⟩ := lookup_isSome_of_mem d f h
  rw [List.lookup_append, ha]
  rfl

theorem readFile_append (d x : Dir) (pats : List String)
    (h : ∀ p ∈ pats, ∀ g ∈ x.map (·.1), globMatch p g = false) :
    readFile (d ++ x) pats = readFile d pats := by
  unfold readFile
  rw [findPath_append d x pats h]
  split
  · next f hf => exact lookup_append_of_mem d x f (findPath_mem d pats f hf)
  · rfl

/-- the files `load` may add to the directory; `C04.features_frame` (`Props/C04.lean`) is stated with this list -/
def createdNames : List String := ["spike_clusters.npy", "whitening_mat_inv.npy"]

theorem readFile_created (d x : Dir) (pats : List String)
    (hx : ∀ g ∈ x.map (·.1), g ∈ createdNames)
    (hp : ∀ p ∈ pats, ∀ g ∈ createdNames, globMatch p g = false) :
    readFile (d ++ x) pats = readFile d pats :=
  readFile_append d x pats fun p hp' g hg => hp p hp' g (hx g hg)

/-- the file names that can occur in the ALF-renamed directory -/
def alfNames : List String := "spikes.times.npy" :: ksNames.map alfName

def allAttrs : List Attr :=
  [.amplitudes, .spikeTemplates, .spikeClusters, .channelMap, .channelPositions, .channelShanks, .channelProbes,
   .templates, .templateCols, .wm, .wmi, .similar]

theorem mem_allAttrs (a : Attr) : a ∈ allAttrs := by
  cases a <;> decide

/-- the KiloSort/phy name of the file an attribute is read from: the first pattern of its row -/
def ksFile (a : Attr) : String := a.files.headD ""

/-- Every comparison of file names and patterns that the statements about the table and about the two layouts
rest on.  They are evaluated here, once and by the kernel alone: turning a string literal into its characters is the
dear step, and the kernel keeps the characters of a name only for the very same term.  Hence each name is written as
the element of `ksNames` or `alfNames` it is (the attribute's file as `k ∈ ksNames` with `ksFile a = k`, not as
`ksFile a`), so that each name and pattern is turned once. -/
theorem name_table :
    (∀ a ∈ allAttrs, a ≠ .spikeClusters → ∀ p ∈ a.files, globMatch p "spike_clusters.npy" = false) ∧
    (∀ p ∈ Attr.similar.files, ∀ g ∈ createdNames, globMatch p g = false) ∧
    (∀ m ∈ ksNames, ∀ k ∈ ksNames, alfName m = alfName k → m = k) ∧
    (∀ k ∈ ksNames, (alfName k == "spikes.times.npy") = false) ∧
    (∀ a ∈ allAttrs, ∃ k ∈ ksNames, ksFile a = k ∧
      (∃ p ∈ a.files, globMatch p k = true) ∧ (∃ p ∈ a.files, globMatch p (alfName k) = true) ∧
      (∀ m ∈ ksNames, ∀ p ∈ a.files, globMatch p m = true → m = k) ∧
      (∀ m ∈ alfNames, ∀ p ∈ a.files, globMatch p m = true → m = alfName k)) ∧
    (∀ p ∈ ["spikes.times*.npy"], (∀ m ∈ ksNames, globMatch p m = false) ∧
      globMatch p "spikes.times.npy" = true ∧ ∀ m ∈ alfNames, globMatch p m = true → m = "spikes.times.npy") ∧
    (∀ p ∈ ["spikes.samples*.npy"], "spike_times.npy" ∈ ksNames ∧ globMatch p (alfName "spike_times.npy") = true ∧
      ∀ m ∈ alfNames, globMatch p m = true → m = alfName "spike_times.npy") ∧
    (∀ p ∈ ["spike_clusters.npy"], ∀ m ∈ alfNames, globMatch p m = false) ∧
    (∀ m ∈ alfNames, m ≠ "spike_times.npy") := by
  decide +kernel

theorem files_not_clusters (a : Attr) (h : a ≠ .spikeClusters) :
    ∀ p ∈ a.files, globMatch p "spike_clusters.npy" = false :=
  name_table.1 a (mem_allAttrs a) h

theorem readFile_d1Of (d : Dir) (pats : List String)
    (hp : ∀ p ∈ pats, globMatch p "spike_clusters.npy" = false) :
    readFile (d1Of d) pats = readFile d pats := by
  rcases d1Of_cases d with h | ⟨a, h⟩
  · rw [h]
  · rw [h]
    exact readFile_append d _ pats (by simpa using hp)

theorem readFile_d2 (inv : Arr → Arr) (d : Dir) (pats : List String) (e : Arr)
    (hp : ∀ p ∈ pats, ∀ g ∈ createdNames, globMatch p g = false) :
    readFile (wmiStep inv (d1Of d) e).2 pats = readFile d pats := by
  have h1 : readFile (d1Of d) pats = readFile d pats :=
    readFile_d1Of d pats fun p hp' => hp p hp' _ List.mem_cons_self
  obtain ⟨w, h⟩ := wmiStep_snd inv (d1Of d) e
  rw [h, readFile_created (d1Of d) _ pats (fun g hg => ?_) hp, h1]
  rw [(mem_names_ite hg).2]
  exact List.mem_cons_of_mem _ List.mem_cons_self

theorem load_times (inv : Arr → Arr) {one : Cell} (d : Dir) (v : View) (d' : Dir) (h : load inv d one = .ok (v, d')) :
    ExpectedTimes d v.times v.samples := by
  obtain ⟨times, samples, st, sc, cm, pos, hv, -, ht, -⟩ := load_nf inv d v d' h
  rw [show v.times = times from congrArg View.times hv, show v.samples = samples from congrArg View.samples hv]
  rcases ht with ⟨s, h1, h2, h3, -⟩ | ⟨h0, t, h1, h2, -, h3⟩
  · exact .inl ⟨s, h1, h2, h3⟩
  · obtain ⟨f, hw, hl⟩ := readFile_some d _ t h1
    refine .inr ⟨not_mem_of_lookup_none d _ h0, f, t, hw, hl, h2, ?_⟩
    rcases h3 with ⟨s, hs, h4⟩ | ⟨hn, h4⟩
    · obtain ⟨g, hw', hl'⟩ := readFile_some d _ s hs
      exact .inl ⟨g, s, hw', hl', h4⟩
    · exact .inr ⟨readFile_none d _ hn, h4⟩

/-- Every attribute is the transform of what `readFile` finds IN THE ORIGINAL DIRECTORY under its patterns (the files
the loader creates on the way match none of them), except the two rows of the table that are not ordinary:
the spike clusters (`load_nf`) and the template columns (`load_cols`). -/
theorem load_attr (inv : Arr → Arr) {one : Cell} (d : Dir) (v : View) (d' : Dir) (h : load inv d one = .ok (v, d'))
    (a : Attr) (h1 : a ≠ .spikeClusters) (h2 : a ≠ .templateCols) :
    v.attr a = (readFile d a.files).map a.transform := by
  obtain ⟨times, samples, st, sc, cm, pos, hv, -, -, hst, -, hcm, hpos⟩ := load_nf inv d v d' h
  have h1' : readFile (d1Of d) a.files = readFile d a.files := readFile_d1Of d _ (files_not_clusters a h1)
  rw [hv]
  cases a
  case spikeClusters => exact absurd rfl h1
  case templateCols => exact absurd rfl h2
  case amplitudes => rfl
  case spikeTemplates => exact (congrArg (Option.map Attr.spikeTemplates.transform) hst).symm
  case channelMap => exact (congrArg (Option.map Attr.channelMap.transform) (h1'.symm.trans hcm)).symm
  case channelPositions => exact (congrArg (Option.map Attr.channelPositions.transform) (h1'.symm.trans hpos)).symm
  case wmi => exact (wmiStep_fst inv (d1Of d) _).trans (congrArg (Option.map _) h1')
  case similar => exact congrArg (Option.map _) (readFile_d2 inv d _ _ name_table.2.1)
  all_goals exact congrArg (Option.map _) h1'

theorem load_cols (inv : Arr → Arr) {one : Cell} (d : Dir) (v : View) (d' : Dir) (h : load inv d one = .ok (v, d')) :
    v.templateCols = match v.templates with
      | some _ => (readFile d Attr.templateCols.files).map Attr.templateCols.transform
      | none => none := by
  obtain ⟨times, samples, st, sc, cm, pos, hv, -⟩ := load_nf inv d v d' h
  rw [← readFile_d1Of d _ (files_not_clusters .templateCols nofun), congrArg View.templateCols hv,
    congrArg View.templates hv]
  rfl

theorem expected_iff_row (d : Dir) (a : Attr) (val : Option Arr) (h1 : a ≠ .spikeClusters) (h2 : a ≠ .templateCols) :
    Expected d a val ↔ Row d a.files a.transform val := by
  cases a <;> first | exact Iff.rfl | contradiction

theorem load_values (inv : Arr → Arr) {one : Cell} (d : Dir) (v : View) (d' : Dir) (h : load inv d one = .ok (v, d')) :
    ∀ a : Attr, Expected d a (v.attr a) := by
  intro a
  by_cases h1 : a = .spikeClusters
  · subst h1
    obtain ⟨times, samples, st, sc, cm, pos, hv, -, -, hst, hsc, -⟩ := load_nf inv d v d' h
    have e : v.spikeClusters = squeeze (scrub sc) := congrArg View.spikeClusters hv
    rcases hsc with ⟨f, hf, hl⟩ | ⟨hn, rfl⟩
    · exact .inl ⟨f, sc, findPath_wins d _ f hf, hl, congrArg some e⟩
    · obtain ⟨f, hw, hl⟩ := readFile_some d _ sc hst
      exact .inr ⟨findPath_absent d _ hn, f, sc, hw, hl, congrArg some e⟩
  by_cases h2 : a = .templateCols
  · subst h2
    have ht : v.templates = _ := load_attr inv d v d' h .templates nofun nofun
    have hc := load_cols inv d v d' h
    cases hr : readFile d Attr.templates.files with
    | none =>
      rw [show v.templates = none by rw [ht, hr]; rfl] at hc
      exact .inl ⟨readFile_none d _ hr, hc⟩
    | some t =>
      obtain ⟨f, hw, -⟩ := readFile_some d _ t hr
      rw [show v.templates = some _ by rw [ht, hr]; rfl] at hc
      refine .inr ⟨wins_not_absent d _ f hw, ?_⟩
      rw [show v.attr .templateCols = _ from hc]
      exact row_of_readFile d _ _
  exact (expected_iff_row d a _ h1 h2).2 (load_attr inv d v d' h a h1 h2 ▸ row_of_readFile d _ _)

theorem mandatory_attr_some (v : View) (a : Attr) (hm : a.mandatory = true) : ∃ x, v.attr a = some x := by
  cases a <;> first | exact ⟨_, rfl⟩ | cases hm

theorem load_requires_mandatory (inv : Arr → Arr) {one : Cell} (d : Dir) (a : Attr) (hm : a.mandatory = true)
    (ha : Absent d a.files) (v : View) (d' : Dir) : load inv d one ≠ .ok (v, d') := by
  intro h
  obtain ⟨x, hx⟩ := mandatory_attr_some v a hm
  have h1 : a ≠ .spikeClusters := by rintro rfl; cases hm
  have h2 : a ≠ .templateCols := by rintro rfl; cases hm
  rw [load_attr inv d v d' h a h1 h2, readFile, findPath_of_absent d _ ha] at hx
  cases hx

theorem readFile_of_wins_unique (d : Dir) (pats : List String) (f : String) (a : Arr)
    (hu : GlobUnique d pats) (hw : Wins d pats f) (hl : d.lookup f = some a) : readFile d pats = some a := by
  cases hr : readFile d pats with
  | none => exact absurd (readFile_none d pats hr) (wins_not_absent d pats f hw)
  | some b =>
    obtain ⟨g, hg, hb⟩ := readFile_some d pats b hr
    have := wins_unique d pats g f hu hg hw
    subst this
    rw [hl] at hb
    exact hb.symm

theorem load_rejects_nonmonotone_alf (inv : Arr → Arr) {one : Cell} (d : Dir) (f : String) (t : Arr)
    (hks : "spike_times.npy" ∉ names d) (hu : GlobUnique d ["spikes.times*.npy"])
    (hw : Wins d ["spikes.times*.npy"] f) (hl : d.lookup f = some t)
    (hm : monotone (scrub t).data = false) : load inv d one = .error .nonMonotone := by
  have h0 : d.lookup "spike_times.npy" = none := lookup_none_of_not_mem d _ hks
  have h1 := readFile_of_wins_unique d _ f t hu hw hl
  simp only [load, bind, Except.bind, pure, Except.pure, throw, throwThe, MonadExceptOf.throw, h0, h1]
  cases readFile d ["spikes.samples*.npy"] <;> simp [hm]

end PhyVerif.C04.Lemmas
