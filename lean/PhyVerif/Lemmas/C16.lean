import PhyVerif.Model.C16
import PhyVerif.Spec.C16
/-! The chunks and excerpts of `phylib/io/array.py` as modelled in `Model/C16.lean`: `chunk_bounds` through a
predicate that every pass of its `while` loop keeps (`loopCB_inv`, `chunkBounds_inv`; the tiling and the clauses of
`tileOK` are two instances), then `excerpts` / `get_excerpts`.  The readers' bounds and iterators (`traces.py`) are in
`Lemmas/C16t.lean`. -/
namespace PhyVerif.C16.Lemmas
open PhyVerif.C16

theorem kept_append {α : Type} (data : List α) (a b : List Chunk) :
    kept data (a ++ b) = kept data a ++ kept data b := by
  simp [kept]

theorem take_append_pySlice {α : Type} (data : List α) (a b : Int) (hab : a ≤ b) :
    data.take a.toNat ++ pySlice data a b = data.take b.toNat := by
  unfold pySlice
  conv => rhs; rw [← Nat.add_sub_cancel' (Int.toNat_le_toNat hab), List.take_add]

theorem take_extend {α : Type} (data : List α) (a b : Int) (ha : 0 ≤ a) (hab : a ≤ b) :
    data.take a.toNat ++ pySlice data a b = data.take b.toNat :=
  take_append_pySlice data a b hab

theorem pySlice_append_drop {α : Type} (data : List α) (a b : Int) (hab : a ≤ b) :
    pySlice data a b ++ data.drop b.toNat = data.drop a.toNat := by
  rw [pySlice, show data.drop b.toNat = (data.drop a.toNat).drop (b.toNat - a.toNat) by
    rw [List.drop_drop, Nat.add_sub_cancel' (Int.toNat_le_toNat hab)], List.take_append_drop]

theorem pySlice_length_le {α : Type} (data : List α) (i j : Int) :
    (pySlice data i j).length ≤ j.toNat - i.toNat := by
  rw [pySlice, List.length_take]
  exact Nat.min_le_left _ _

/-- a slice of a slice, by natural-number positions: `l[s:e][a-s:b-s] = l[a:b]` for `s ≤ a` and `b ≤ e` -/
theorem slice_slice {α : Type} (l : List α) (s e a b : Nat) (h1 : s ≤ a) (h2 : b ≤ e) :
    (((l.drop s).take (e - s)).drop (a - s)).take (b - s - (a - s)) = (l.drop a).take (b - a) := by
  rw [List.drop_take, List.drop_drop, List.take_take, Nat.add_sub_cancel' h1, Nat.sub_sub_sub_cancel_right h1,
    Nat.sub_sub_sub_cancel_right h1, Nat.min_eq_left (Nat.sub_le_sub_right h2 a)]

theorem pySlice_pySlice {α : Type} (data : List α) (s e a b : Int) (hs : 0 ≤ s) (hsa : s ≤ a) (hbe : b ≤ e) :
    pySlice (pySlice data s e) (a - s) (b - s) = pySlice data a b := by
  obtain ⟨s, rfl⟩ := Int.eq_ofNat_of_zero_le hs
  simp only [pySlice, Int.toNat_sub', Int.toNat_natCast]
  exact slice_slice data s e.toNat a.toNat b.toNat (Int.toNat_le_toNat hsa) (Int.toNat_le_toNat hbe)

/-- one pass of the `while` loop of `chunk_bounds` keeps the predicate `P` on the loop state
`(s_end, keep_end, chunks yielded so far)` -/
def LoopKeeps (n cs ov : Int) (P : Int → Int → List Chunk → Prop) : Prop :=
  ∀ sEnd keepEnd acc, P sEnd keepEnd acc → sEnd - ov + cs < n →
    P (sEnd - ov + cs) (sEnd - ov + cs - ov / 2)
      (acc ++ [⟨sEnd - ov, sEnd - ov + cs, keepEnd, sEnd - ov + cs - ov / 2⟩])

/-- A predicate that one pass of the loop keeps holds when the loop is left, and enough fuel lets the loop run to its
exit condition: each pass raises `s_end` by `cs - ov ≥ 1`, so `n - s_end` passes suffice (`chunkBounds` gives
`n.toNat`, starting from `s_end = cs > 0`). -/
theorem loopCB_inv (n cs ov : Int) (hcs : 0 < cs) (hov : ov < cs) (P : Int → Int → List Chunk → Prop)
    (step : LoopKeeps n cs ov P) :
    ∀ (fuel : Nat) (sEnd keepEnd : Int) (acc : List Chunk), P sEnd keepEnd acc →
      let r := loopCB n cs ov fuel sEnd keepEnd acc
      P r.1 r.2.1 r.2.2 ∧ ((n - sEnd).toNat ≤ fuel → ¬ (r.1 - ov + cs < n)) := by
  intro fuel
  induction fuel with
  | zero =>
    intro sEnd keepEnd acc h
    simp only [loopCB]
    exact ⟨h, by omega⟩
  | succ k ih =>
    intro sEnd keepEnd acc h
    simp only [loopCB]
    split
    · rename_i hlt
      rw [if_pos (Int.lt_add_of_pos_right _ hcs)]  -- the pass's `if s_start < s_end`
      obtain ⟨a, d⟩ := ih _ _ _ (step sEnd keepEnd acc h hlt)
      exact ⟨a, fun hf => d (by omega)⟩
    · rename_i hge
      exact ⟨h, fun _ => hge⟩

/-- … hence holds of the state from which `chunk_bounds` yields its last chunk, if it holds after the first. -/
theorem chunkBounds_inv (n cs ov : Int) (hcs : 0 < cs) (hov : ov < cs) (P : Int → Int → List Chunk → Prop)
    (init : P cs (cs - ov / 2) [⟨0, cs, 0, cs - ov / 2⟩]) (step : LoopKeeps n cs ov P) :
    ∃ sEnd keepEnd acc, P sEnd keepEnd acc ∧ ¬ (sEnd - ov + cs < n) ∧
      chunkBounds n cs ov = if sEnd - ov < n then acc ++ [⟨sEnd - ov, n, keepEnd, n⟩] else acc :=
  have h := loopCB_inv n cs ov hcs hov P step n.toNat _ _ _ init
  ⟨_, _, _, h.1, h.2 (Int.toNat_le_toNat (Int.sub_le_self n (Int.le_of_lt hcs))), rfl⟩

theorem kept_concat {α : Type} (data : List α) (acc : List Chunk) (s e ks ke : Int)
    (h : kept data acc = data.take ks.toNat) (hk : ks ≤ ke) :
    kept data (acc ++ [⟨s, e, ks, ke⟩]) = data.take ke.toNat := by
  rw [kept_append, h]
  simp only [kept, List.map_cons, List.map_nil, List.flatten_cons, List.flatten_nil, List.append_nil]
  exact take_append_pySlice data _ _ hk

theorem loop_inv {α : Type} (data : List α) (n cs ov : Int) (hcs : 0 < cs) (hov0 : 0 ≤ ov) (hov : ov < cs) :
    ∀ (fuel : Nat) (sEnd keepEnd : Int) (acc : List Chunk),
      kept data acc = data.take keepEnd.toNat → 0 ≤ keepEnd → keepEnd = sEnd - ov / 2 →
      let r := loopCB n cs ov fuel sEnd keepEnd acc
      kept data r.2.2 = data.take r.2.1.toNat ∧ 0 ≤ r.2.1 ∧ r.2.1 = r.1 - ov / 2 ∧
        (fuel ≥ (n - sEnd).toNat → ¬ (r.1 - ov + cs < n)) := by
  intro fuel sEnd keepEnd acc h1 h2 h3
  obtain ⟨⟨a, b, c⟩, d⟩ := loopCB_inv n cs ov hcs hov
    (fun sEnd keepEnd acc => kept data acc = data.take keepEnd.toNat ∧ 0 ≤ keepEnd ∧ keepEnd = sEnd - ov / 2)
    (fun _ _ _ h _ => ⟨kept_concat data _ _ _ _ _ h.1 (by omega), by omega, rfl⟩) fuel sEnd keepEnd acc ⟨h1, h2, h3⟩
  exact ⟨a, b, c, d⟩

theorem chunkBounds_tile {α : Type} (data : List α) (cs ov : Int) (hcs : 0 < cs) (hov0 : 0 ≤ ov) (hov : ov < cs) :
    kept data (chunkBounds (data.length : Int) cs ov) = data := by
  obtain ⟨sEnd, keepEnd, acc, ⟨h1, h2⟩, h3, e⟩ := chunkBounds_inv data.length cs ov hcs hov
    (fun sEnd keepEnd acc => kept data acc = data.take keepEnd.toNat ∧ keepEnd = sEnd - ov / 2)
    ⟨by simp [kept, pySlice], rfl⟩
    (fun _ _ _ h _ => ⟨kept_concat data _ _ _ _ _ h.1 (by omega), rfl⟩)
  rw [e]
  split
  · by_cases hk : keepEnd ≤ (data.length : Int)
    · rw [kept_concat data _ _ _ _ _ h1 hk]; simp
    · -- the kept data already reach the end and the last chunk keeps nothing
      rw [kept_append, h1, List.take_of_length_le (by omega)]
      simp [kept, pySlice]; omega
  · rw [h1]
    apply List.take_of_length_le
    omega

/-- what the inclusion and size clauses of `tileOK` need of a chunk -/
def ChunkGood (cs : Int) (c : Chunk) : Prop :=
  0 ≤ c.s ∧ c.s ≤ c.ks ∧ c.ke ≤ c.e ∧ c.e - c.s ≤ cs

theorem clamp_mono (n a b : Nat) (h : a ≤ b) : min a n ≤ min b n :=
  Nat.le_min.2 ⟨Nat.le_trans (Nat.min_le_left _ _) h, Nat.min_le_right _ _⟩

theorem clamp_sub_le (n cs s e : Nat) (h : e - s ≤ cs) : min e n - min s n ≤ cs := by
  omega

/-- the two clauses of `tileOK` on clamped index intervals, with the bounds as natural numbers: clamping at `n` keeps
the order of the ends and lengthens nothing; an empty kept interval is inside anything -/
theorem tileOK_clauses_nat (n cs s e ks ke : Nat) (h2 : s ≤ ks) (h3 : ke ≤ e) (h4 : e - s ≤ cs) :
    (min ks n = max (min ks n) (min ke n) ∨
      min s n ≤ min ks n ∧ max (min ks n) (min ke n) ≤ max (min s n) (min e n)) ∧
    max (min s n) (min e n) - min s n ≤ cs := by
  have m1 := clamp_mono n s ks h2
  have m2 := clamp_mono n ke e h3
  have m3 := clamp_sub_le n cs s e h4
  generalize min s n = S, min ks n = KS, min ke n = KE, min e n = E at m1 m2 m3 ⊢
  omega

theorem tileOK_clauses_of_chunkGood (n cs : Nat) (c : Chunk) (h : ChunkGood cs c) :
    (ivSubset (clampIv n c.ks c.ke) (clampIv n c.s c.e) &&
      decide ((clampIv n c.s c.e).2 - (clampIv n c.s c.e).1 ≤ cs)) = true := by
  obtain ⟨h1, h2, h3, h4⟩ := h
  simp only [ivSubset, Bool.and_eq_true, Bool.or_eq_true, beq_iff_eq, decide_eq_true_eq]
  exact tileOK_clauses_nat n cs c.s.toNat c.e.toNat c.ks.toNat c.ke.toNat (Int.toNat_le_toNat h2) (Int.toNat_le_toNat h3)
    (by omega)

theorem chunkBounds_good (n cs ov : Int) (hcs : 0 < cs) (hov0 : 0 ≤ ov) (hov : ov < cs) :
    ∀ c ∈ chunkBounds n cs ov, ChunkGood cs c := by
  have step : LoopKeeps n cs ov
      fun sEnd keepEnd acc => (∀ c ∈ acc, ChunkGood cs c) ∧ cs ≤ sEnd ∧ keepEnd = sEnd - ov / 2 :=
    fun sEnd keepEnd acc h _ =>
      ⟨List.forall_mem_append.2 ⟨h.1, List.forall_mem_singleton.2 (by simp only [ChunkGood]; omega)⟩, by omega, rfl⟩
  obtain ⟨sEnd, keepEnd, acc, ⟨h1, h2, h3⟩, h4, e⟩ := chunkBounds_inv n cs ov hcs hov _
    ⟨List.forall_mem_singleton.2 (by simp only [ChunkGood]; omega), by omega, rfl⟩ step
  rw [e]
  split
  · exact List.forall_mem_append.2 ⟨h1, List.forall_mem_singleton.2 (by simp only [ChunkGood]; omega)⟩
  · exact h1

theorem chunk_inside {α : Type} (data : List α) (cs : Int) (hcs : 0 < cs) (c : Chunk)
    (h : ChunkGood cs c) :
    pySlice data c.ks c.ke = pySlice (chunkData data c) (c.ks - c.s) (c.ke - c.s) ∧
      ((chunkData data c).length : Int) ≤ cs := by
  obtain ⟨h1, h2, h3, h4⟩ := h
  have := pySlice_length_le data c.s c.e
  exact ⟨(pySlice_pySlice data c.s c.e c.ks c.ke h1 h2 h3).symm, by unfold chunkData; omega⟩

theorem chunkBounds_tileOK (n cs ov : Nat) (hcs : 0 < cs) (hov : ov < cs) :
    tileOK n cs (chunkBounds n cs ov) = true := by
  rw [tileOK, Bool.and_eq_true, List.all_eq_true]
  constructor
  · have h := chunkBounds_tile (List.range n) (cs : Int) (ov : Int) (by omega) (by omega) (by omega)
    rw [List.length_range] at h
    rw [h]; simp
  · exact fun c hc => tileOK_clauses_of_chunkGood n cs c
      (chunkBounds_good n cs ov (by omega) (by omega) (by omega) c hc)

theorem excerptsChain_cons (n size prev a b : Int) (t : List (Int × Int)) :
    excerptsChain n size prev ((a, b) :: t) = true ↔
      prev ≤ a ∧ a ≤ b ∧ b ≤ n ∧ b - a ≤ size ∧ excerptsChain n size b t = true := by
  simp only [excerptsChain, Bool.and_eq_true, decide_eq_true_eq, and_assoc]

theorem excerptsLoop_inv (n step size : Int) (hs : 0 ≤ size) (hst : size ≤ step) :
    ∀ (fuel i : Nat) (prev : Int), prev ≤ (i : Int) * step →
      excerptsChain n size prev (excerptsLoop n step size fuel i) = true ∧
      (excerptsLoop n step size fuel i).length ≤ fuel := by
  intro fuel
  induction fuel with
  | zero => intro i prev _; simp [excerptsLoop, excerptsChain]
  | succ f ih =>
    intro i prev hp
    simp only [excerptsLoop]
    split
    · simp [excerptsChain]
    · rename_i hlt
      -- the next excerpt starts one `step ≥ size` further, at or after the end of this one
      have hnext : min ((i : Int) * step + size) n ≤ ((i + 1 : Nat) : Int) * step := by
        have : ((i + 1 : Nat) : Int) * step = (i : Int) * step + step := by
          rw [Int.natCast_add, Int.add_mul]; simp
        omega
      obtain ⟨h1, h2⟩ := ih (i + 1) (min ((i : Int) * step + size) n) hnext
      rw [excerptsChain_cons, List.length_cons]
      exact ⟨⟨hp, by omega, Int.min_le_right _ _, by omega, h1⟩, by omega⟩

theorem excerptStep_ge (n k size : Int) : size ≤ excerptStep n k size := by
  unfold excerptStep; omega

theorem excerpts_chain (n k size : Int) (hs : 0 ≤ size) :
    excerptsChain n size 0 (excerpts n k size) = true ∧ (excerpts n k size).length ≤ k.toNat := by
  unfold excerpts
  exact excerptsLoop_inv n _ size hs (excerptStep_ge n k size) k.toNat 0 0 (by simp)

theorem excerpts_ok (n k size : Int) (hn : 0 ≤ n) (hk : 2 ≤ k) (hs : 0 ≤ size) :
    excerptsOK n k size (excerpts n k size) = true := by
  obtain ⟨h1, h2⟩ := excerpts_chain n k size hs
  simp only [excerptsOK, Bool.and_eq_true, decide_eq_true_eq]
  exact ⟨h1, by omega⟩

theorem excerptsChain_sublist {α : Type} (data : List α) (n size : Int) :
    ∀ (l : List (Int × Int)) (prev : Int), 0 ≤ prev → excerptsChain n size prev l = true →
      ((l.map (fun p => pySlice data p.1 p.2)).flatten).Sublist (data.drop prev.toNat) ∧
      ((l.map (fun p => pySlice data p.1 p.2)).flatten).length ≤ l.length * size.toNat := by
  intro l
  induction l with
  | nil => intro prev _ _; simp
  | cons p t ih =>
    intro prev hp h
    obtain ⟨a, b⟩ := p
    obtain ⟨h1, h2, h3, h4, h5⟩ := (excerptsChain_cons ..).1 h
    obtain ⟨i1, i2⟩ := ih b (Int.le_trans hp (Int.le_trans h1 h2)) h5
    rw [List.map_cons, List.flatten_cons, List.length_append, List.length_cons, Nat.succ_mul]
    constructor
    · have := i1.append_left (pySlice data a b)
      rw [pySlice_append_drop data a b h2] at this
      exact this.trans (List.drop_sublist_drop_left data (Int.toNat_le_toNat h1))
    · have hlen : (pySlice data a b).length ≤ size.toNat :=
        Nat.le_trans (pySlice_length_le data a b) (by omega)
      rw [Nat.add_comm (t.length * size.toNat)]
      exact Nat.add_le_add hlen i2

theorem getExcerpts_short {α : Type} (data : List α) (k size : Nat)
    (h : data.length < k * size) : getExcerpts data k size = data := by
  simp [getExcerpts, h]

theorem getExcerpts_sublist {α : Type} (data : List α) (k size : Nat) (hs : 0 < size)
    (hlen : k * size ≤ data.length) :
    (getExcerpts data k size).Sublist data ∧ (getExcerpts data k size).length ≤ k * size := by
  rw [getExcerpts, if_neg (Nat.not_lt.2 hlen)]
  split
  · simp
  · split
    · rename_i hk1
      subst hk1
      refine ⟨List.take_sublist _ _, ?_⟩
      rw [Nat.one_mul]
      exact List.length_take_le _ _
    · obtain ⟨c1, c2⟩ := excerpts_chain (data.length : Int) (k : Int) (size : Int) (Int.natCast_nonneg size)
      obtain ⟨s1, s2⟩ := excerptsChain_sublist data _ _ _ 0 (Int.le_refl 0) c1
      -- `(↑k : Int).toNat` in `c2` and `s2` computes to `k`
      exact ⟨by simpa using s1, Nat.le_trans s2 (Nat.mul_le_mul_right _ c2)⟩

end PhyVerif.C16.Lemmas
