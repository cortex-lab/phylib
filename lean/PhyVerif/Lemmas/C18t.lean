import PhyVerif.Lemmas.C18c
import PhyVerif.Lemmas.C18n
import PhyVerif.Lemmas.Np
/-! Table files written then read, on the text of the file (`Model/C18c.lean`): `write_tsv`/`read_tsv`,
`_write_tsv_simple`/`_read_tsv_simple`, `save_metadata`/`load_metadata`. -/
namespace PhyVerif.C18.Lemmas
open PhyVerif PhyVerif.C18

/-! List facts; `Lemmas/C18p.lean` uses the last two as well. -/

theorem two_le_length_of_distinct {α : Type} {a b : α} {l : List α} (hab : a ≠ b) (ha : a ∈ l) (hb : b ∈ l) :
    2 ≤ l.length := by
  rcases l with _ | ⟨x, _ | ⟨y, t⟩⟩
  · nomatch ha
  · exact absurd ((List.mem_singleton.mp ha).trans (List.mem_singleton.mp hb).symm) hab
  · exact Nat.le_add_left 2 t.length

/-- a dictionary filled entry by entry, every key new when it comes, is the list of the entries -/
theorem foldl_set_new {κ β : Type} (set : List (κ × β) → κ → β → List (κ × β))
    (hset : ∀ k v d, k ∉ d.map (·.1) → set d k v = d ++ [(k, v)]) (l acc : List (κ × β))
    (h : ((acc ++ l).map (·.1)).Nodup) : l.foldl (fun d kv => set d kv.1 kv.2) acc = acc ++ l := by
  induction l generalizing acc with
  | nil => exact (List.append_nil acc).symm
  | cons kv l ih =>
    have hk : kv.1 ∉ acc.map (·.1) := by
      intro hm
      rw [List.map_append, List.nodup_append] at h
      exact h.2.2 _ hm _ List.mem_cons_self rfl
    rw [List.foldl_cons, hset _ _ acc hk, ih _ (by simpa using h), List.append_assoc]
    rfl

theorem tsv_roundtrip_obs {γ δ : Type} (D : γ → Prop) (render : γ → String) (parse : String → δ) (obs : γ → δ)
    (hrt : ∀ c, D c → parse (render c) = obs c) (hne : ∀ c, D c → render c ≠ "")
    (rows : List (List (String × γ))) (first : Option String) (hD : ∀ r ∈ rows, ∀ fc ∈ r, D fc.2)
    (file : List String × List (List String)) (hw : writeTsv render rows first = some file) :
    readTsv parse file = expectedRows file.1 (obsRows obs rows) := by
  obtain rfl := writeTsv_eq_some hw
  simp only [readTsv, expectedRows, obsRows, List.map_map]
  exact List.map_congr_left fun r hr => line_roundtrip_obs D render parse obs hrt hne r (hD r hr) (header rows first)

theorem delim_props (isTsv : Bool) :
    delimOf isTsv ≠ '"' ∧ delimOf isTsv ≠ '\r' ∧ delimOf isTsv ≠ '\n' := by
  cases isTsv <;> exact ⟨by decide, by decide, by decide⟩

theorem mem_header_iff {γ : Type} (rows : List (List (String × γ))) (first : Option String) (f : String) :
    f ∈ header rows first ↔ f ∈ fieldsOf rows := by
  rw [(header_perm rows first).mem_iff, List.mem_eraseDups]
  rfl

theorem mem_fieldsOf {γ : Type} {rows : List (List (String × γ))} {f : String} (h : f ∈ fieldsOf rows) :
    ∃ r ∈ rows, ∃ fc ∈ r, fc.1 = f := by
  unfold fieldsOf at h
  obtain ⟨r, hr, hf⟩ := List.mem_flatMap.mp h
  obtain ⟨fc, hfc, rfl⟩ := List.mem_map.mp hf
  exact ⟨r, hr, fc, hfc, rfl⟩

/-- `read_tsv` looks for a tab in the first line: a tab-separated header needs two fields to hold one, a
comma-separated one must not hold any -/
theorem sniff_written (isTsv : Bool) (hdr : List Str) (rest : List Str)
    (htsv : isTsv = true → 2 ≤ hdr.length)
    (hcsv : isTsv = false → ∀ f ∈ hdr, '\t' ∉ f) :
    sniff (csvRow (delimOf isTsv) hdr :: rest) = delimOf isTsv := by
  cases isTsv with
  | true => simp [sniff, delimOf, delim_mem_csvRow '\t' hdr (htsv rfl)]
  | false =>
    have : '\t' ∉ csvRow ',' hdr := by
      intro h
      rcases mem_csvRow h with ⟨f, hf, hc⟩ | h | h
      · exact hcsv rfl f hf hc
      · exact absurd h (by decide)
      · exact absurd h (by decide)
    simp [sniff, delimOf, this]

/-- the records `read_tsv` and `_read_tsv_simple` get from a text: its lines, split at the delimiter found
in the first -/
abbrev recordsOf (text : Str) : List (List Str) := (fileLines text).map (csvParseLine (sniff (fileLines text)))

theorem records_roundtrip (isTsv : Bool) (hdr : List Str) (body : List (List Str))
    (hnb : ∀ r ∈ hdr :: body, ∀ f ∈ r, NoBreak f)
    (htsv : isTsv = true → 2 ≤ hdr.length)
    (hcsv : isTsv = false → ∀ f ∈ hdr, '\t' ∉ f) :
    recordsOf (csvWrite (delimOf isTsv) (hdr :: body)) = hdr :: body := by
  obtain ⟨hq, hr, hn⟩ := delim_props isTsv
  unfold recordsOf
  rw [fileLines_csvWrite _ ⟨hr, hn⟩ _ hnb, List.map_cons, sniff_written isTsv hdr _ htsv hcsv, ← List.map_cons,
    List.map_map]
  exact List.map_id'' (csv_line_roundtrip _ hq) _

theorem readTsvFile_of_records {δ : Type} (parse : String → δ) (text : Str) (hdr : List Str) (body : List (List Str))
    (h : recordsOf text = hdr :: body) :
    readTsvFile parse text =
      some (readTsv parse (hdr.map String.ofList, body.map fun r => r.map String.ofList)) := by
  unfold readTsvFile
  simp only [h]

/-- the text layer: a table of strings without line break written by the csv writer is what `read_tsv`
reads, before it drops empty cells and parses the others -/
theorem readTsvFile_csvWrite {δ : Type} (parse : String → δ) (isTsv : Bool) (file : List String × List (List String))
    (hhdr : ∀ f ∈ file.1, NoBreak f.toList) (hbody : ∀ r ∈ file.2, ∀ f ∈ r, NoBreak f.toList)
    (htsv : isTsv = true → 2 ≤ file.1.length)
    (hcsv : isTsv = false → ∀ f ∈ file.1, '\t' ∉ f.toList) :
    readTsvFile parse (csvWrite (delimOf isTsv) ((file.1 :: file.2).map fun r => r.map String.toList)) =
      some (readTsv parse file) := by
  have hrec := records_roundtrip isTsv (file.1.map String.toList) (file.2.map fun r => r.map String.toList)
    (by simpa only [List.forall_mem_cons, List.forall_mem_map] using And.intro hhdr hbody)
    (by rwa [List.length_map])
    (by simpa only [List.forall_mem_map] using hcsv)
  rw [List.map_cons, readTsvFile_of_records parse _ _ _ hrec]
  simp [List.map_map, Function.comp_def, String.ofList_toList]

theorem table_file_roundtrip {γ δ : Type} (isTsv : Bool) (D : γ → Prop) (render : γ → String)
    (parse : String → δ) (obs : γ → δ)
    (hrt : ∀ c, D c → parse (render c) = obs c) (hne : ∀ c, D c → render c ≠ "")
    (hnb : ∀ c, D c → NoBreak (render c).toList)
    (rows : List (List (String × γ))) (first : Option String) (hD : ∀ r ∈ rows, ∀ fc ∈ r, D fc.2)
    (hnames : ∀ f ∈ fieldsOf rows, NoBreak f.toList)
    (htsv : isTsv = true → TwoColumns rows)
    (hcsv : isTsv = false → ∀ f ∈ fieldsOf rows, '\t' ∉ f.toList)
    (text : Str) (hw : writeTsvFile isTsv render rows first = some text) :
    ∃ file, writeTsv render rows first = some file ∧
      readTsvFile parse text = some (expectedRows file.1 (obsRows obs rows)) := by
  obtain ⟨file, hfile, rfl⟩ := Option.map_eq_some_iff.mp hw
  refine ⟨file, hfile, ?_⟩
  rw [← tsv_roundtrip_obs D render parse obs hrt hne rows first hD file hfile]
  obtain rfl := writeTsv_eq_some hfile
  refine readTsvFile_csvWrite parse isTsv _ ?_ ?_ ?_ ?_
  · exact fun name hname => hnames name ((mem_header_iff rows first name).mp hname)
  · simp only [List.forall_mem_map]
    intro row hrow name _
    cases hl : row.lookup name with
    | none => exact noBreak_nil
    | some c => exact hnb c (hD row hrow (name, c) (mem_of_lookup_eq_some hl))
  · intro h
    obtain ⟨f1, f2, hne12, h1, h2⟩ := htsv h
    exact two_le_length_of_distinct hne12 ((mem_header_iff rows first f1).mpr h1)
      ((mem_header_iff rows first f2).mpr h2)
  · exact fun h name hname => hcsv h name ((mem_header_iff rows first name).mp hname)

theorem renderW_ok (n : Nat) (hn : n ≠ 0) (c : WCell) (hc : WCellOK c) :
    tryMakeNumber (renderW n c) = obsW n c ∧ renderW n c ≠ "" ∧ NoBreak (renderW n c).toList := by
  cases c with
  | int i => exact ⟨tryMakeNumber_intToStr i, intToStr_ne_empty i, noBreak_intToStr i⟩
  | float x =>
    refine ⟨tryMakeNumber_fmtFixed n hn x, ?_, ?_⟩
    · exact fun h => fmtFixed_ne_nil n hn x (by simpa [renderW] using congrArg String.toList h)
    · simpa [renderW, String.toList_ofList] using noBreak_fmtFixed n hn x
  | text s => exact ⟨hc.1.2, hc.1.1, hc.2⟩

theorem cluster_table_roundtrip (isTsv : Bool) (n : Nat) (hn : n ≠ 0) (rows : List (List (String × WCell)))
    (first : Option String) (hD : ∀ r ∈ rows, ∀ fc ∈ r, WCellOK fc.2)
    (hnames : ∀ f ∈ fieldsOf rows, NoBreak f.toList)
    (htsv : isTsv = true → TwoColumns rows)
    (hcsv : isTsv = false → ∀ f ∈ fieldsOf rows, '\t' ∉ f.toList)
    (text : Str) (hw : writeTsvFile isTsv (renderW n) rows first = some text) :
    ∃ file, writeTsv (renderW n) rows first = some file ∧
      readTsvFile tryMakeNumber text = some (expectedRows file.1 (obsRows (obsW n) rows)) :=
  table_file_roundtrip isTsv WCellOK (renderW n) tryMakeNumber (obsW n)
    (fun c hc => (renderW_ok n hn c hc).1) (fun c hc => (renderW_ok n hn c hc).2.1)
    (fun c hc => (renderW_ok n hn c hc).2.2) rows first hD hnames htsv hcsv text hw

theorem written_precision (n : Nat) (x : Dbl) :
    (0 ≤ x.e → scaled n x = x.m * 10 ^ n * 2 ^ x.e.toNat) ∧
    (x.e < 0 →
      2 * (scaled n x * 2 ^ (-x.e).toNat) ≤ 2 * (x.m * 10 ^ n) + 2 ^ (-x.e).toNat ∧
      2 * (x.m * 10 ^ n) ≤ 2 * (scaled n x * 2 ^ (-x.e).toNat) + 2 ^ (-x.e).toNat) := by
  constructor
  · intro h
    simp [scaled, h]
  · intro h
    have hn : ¬ (x.e ≥ 0) := by omega
    simp only [scaled, hn, if_false]
    exact roundDiv_close _ _ (Nat.pow_pos (by decide))

theorem ins_eq_insertBy {α : Type} (x : Int × α) (l : List (Int × α)) :
    sortById.ins x l = Np.insertBy (fun a b => decide (a.1 ≤ b.1)) x l := by
  induction l with
  | nil => rfl
  | cons y ys ih => simp only [sortById.ins, Np.insertBy, decide_eq_true_eq, ih]

/-- `sorted(data)` is the stable insertion sort by id -/
theorem sortById_eq_isort {α : Type} (l : List (Int × α)) :
    sortById l = Np.isort (fun a b => decide (a.1 ≤ b.1)) l := by
  induction l with
  | nil => rfl
  | cons x xs ih => exact (ins_eq_insertBy x _).trans (congrArg _ ih)

theorem sortById_perm {α : Type} (l : List (Int × α)) : (sortById l).Perm l :=
  sortById_eq_isort l ▸ Np.Lemmas.isort_perm _ l

theorem renderS_ok (v : SVal) (hv : SValOK v) :
    tryMakeNumber (renderS v) = obsS v ∧ NoBreak (renderS v).toList := by
  cases v with
  | int i => exact ⟨tryMakeNumber_intToStr i, noBreak_intToStr i⟩
  | float lit => exact ⟨rfl, hv⟩
  | text s => exact ⟨hv.1, hv.2⟩

theorem records_simple (isTsv : Bool) (field : String) (data : List (Int × SVal))
    (hfield : NoBreak field.toList) (hcsv : isTsv = false → '\t' ∉ field.toList)
    (hvals : ∀ p ∈ data, SValOK p.2) :
    recordsOf (writeTsvSimple isTsv field data) =
      ["cluster_id".toList, field.toList] ::
        (sortById data).map fun p => [(intToStr p.1).toList, (renderS p.2).toList] := by
  have hid : NoBreak "cluster_id".toList ∧ '\t' ∉ "cluster_id".toList := by decide +kernel
  refine records_roundtrip isTsv _ _ ?_ (fun _ => Nat.le_refl 2) ?_
  · simp only [List.forall_mem_cons, List.forall_mem_map]
    refine ⟨⟨hid.1, hfield, nofun⟩, fun p hp => ⟨noBreak_intToStr p.1, ?_, nofun⟩⟩
    exact (renderS_ok p.2 (hvals p ((sortById_perm data).mem_iff.mp hp))).2
  · simp only [List.forall_mem_cons]
    exact fun h => ⟨hid.2, hcsv h, nofun⟩

theorem simple_table_roundtrip (isTsv : Bool) (field : String) (data : List (Int × SVal))
    (hfield : NoBreak field.toList) (hcsv : isTsv = false → '\t' ∉ field.toList)
    (hvals : ∀ p ∈ data, SValOK p.2) :
    readTsvSimple (writeTsvSimple isTsv field data) =
      some (field, (sortById data).map fun p => (p.1, obsS p.2)) := by
  unfold readTsvSimple
  simp only [records_simple isTsv field data hfield hcsv hvals]
  -- written rows are never empty: the blank-line filter keeps them all
  rw [List.filter_eq_self.mpr (by
    intro r hr
    obtain ⟨p, _, rfl⟩ := List.mem_map.mp hr
    rfl), Np.Lemmas.mapM_map_some _ _ (fun p => (p.1, obsS p.2))]
  · simp [String.ofList_toList]
  · intro p hp
    simp only [parseIntLit_intToStr, String.ofList_toList, Option.map_some,
      (renderS_ok p.2 (hvals p ((sortById_perm data).mem_iff.mp hp))).1]

theorem setKV_new (k v : Num) (d : List (Num × Num)) (h : k ∉ d.map (·.1)) : setKV d k v = d ++ [(k, v)] := by
  induction d with
  | nil => rfl
  | cons kv t ih =>
    obtain ⟨h1, h2⟩ := not_or.mp fun e => h (List.mem_cons.mpr e)
    rw [setKV, if_neg fun e => h1 (beq_iff_eq.mp e).symm, ih h2]
    rfl

/-- the rows `read_tsv` returns for a two-column file -/
def metaRows (field : String) (l : List (Int × SVal)) : List (List (String × Num)) :=
  l.map fun p => [("cluster_id", .int p.1), (field, obsS p.2)]

/-- `out` while the rows of a one-field file are regrouped: the field is there once a row was seen -/
def oneField (field : String) (d : List (Num × Num)) : List (String × List (Num × Num)) :=
  if d = [] then [] else [(field, d)]

theorem metaStep_oneField (field : String) (hne : field ≠ "cluster_id") (d : List (Num × Num)) (cid v : Num) :
    metaStep (oneField field d) [("cluster_id", cid), (field, v)] = oneField field (setKV d cid v) := by
  cases d with
  | nil => simp [metaStep, hne, oneField, setNested, setKV]
  | cons x t =>
    have : setKV (x :: t) cid v ≠ [] := by
      unfold setKV
      split <;> simp
    simp [metaStep, hne, oneField, setNested, this]

theorem foldl_metaRows (field : String) (hne : field ≠ "cluster_id") (l : List (Int × SVal)) (d : List (Num × Num)) :
    (metaRows field l).foldl metaStep (oneField field d) =
      oneField field ((l.map fun p => (Num.int p.1, obsS p.2)).foldl (fun d kv => setKV d kv.1 kv.2) d) := by
  induction l generalizing d with
  | nil => rfl
  | cons p l ih =>
    simp only [metaRows, List.map_cons, List.foldl_cons, metaStep_oneField field hne]
    exact ih _

theorem readTsvFile_simple (isTsv : Bool) (field : String) (data : List (Int × SVal))
    (hfield : NoBreak field.toList) (hcsv : isTsv = false → '\t' ∉ field.toList)
    (hvals : ∀ p ∈ data, SValOK p.2 ∧ renderS p.2 ≠ "") :
    readTsvFile tryMakeNumber (writeTsvSimple isTsv field data) = some (metaRows field (sortById data)) := by
  rw [readTsvFile_of_records _ _ _ _ (records_simple isTsv field data hfield hcsv fun p hp => (hvals p hp).1)]
  simp only [readTsv, metaRows, List.map_map, List.map_cons, List.map_nil, String.ofList_toList]
  refine congrArg some (List.map_congr_left fun p hp => ?_)
  obtain ⟨hok, h2⟩ := hvals p ((sortById_perm data).mem_iff.mp hp)
  simp [Function.comp, String.ofList_toList, intToStr_ne_empty p.1, h2, tryMakeNumber_intToStr,
    (renderS_ok p.2 hok).1]

theorem metadata_roundtrip (isTsv : Bool) (field : String) (data : List (Int × SVal))
    (hfield : NoBreak field.toList) (hcsv : isTsv = false → '\t' ∉ field.toList) (hne : field ≠ "cluster_id")
    (hvals : ∀ p ∈ data, SValOK p.2 ∧ renderS p.2 ≠ "") (hids : (data.map (·.1)).Nodup) :
    loadMetadata (writeTsvSimple isTsv field data) =
      some (if data = [] then [] else [(field, (sortById data).map fun p => (Num.int p.1, obsS p.2))]) := by
  have hperm := sortById_perm data
  have hnd : (((sortById data).map fun p => (Num.int p.1, obsS p.2)).map (·.1)).Nodup := by
    have h1 : ((sortById data).map (·.1)).Nodup := (hperm.map _).nodup_iff.mpr hids
    rw [List.map_map]
    exact List.pairwise_map.mpr ((List.pairwise_map.mp h1).imp fun h e => h (Num.int.inj e))
  have hnil : (sortById data).map (fun p => (Num.int p.1, obsS p.2)) = [] ↔ data = [] := by
    rw [List.map_eq_nil_iff]
    exact ⟨fun h => List.nil_perm.mp (h ▸ hperm), fun h => by rw [h]; rfl⟩
  unfold loadMetadata
  rw [readTsvFile_simple isTsv field data hfield hcsv hvals, Option.map_some]
  -- the empty dictionary the loop starts from is `oneField field []`
  show some ((metaRows field (sortById data)).foldl metaStep (oneField field [])) = _
  rw [foldl_metaRows field hne, foldl_set_new setKV setKV_new _ [] hnd, List.nil_append]
  simp only [oneField, hnil]

end PhyVerif.C18.Lemmas
