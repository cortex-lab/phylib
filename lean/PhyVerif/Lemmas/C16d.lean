import PhyVerif.Model.C16d
import PhyVerif.Lemmas.C16c
import PhyVerif.Lemmas.Fl
/-! Proofs for the chunk length computed by the float unit (`Model/C16d.lean`).  Statements: `Props/C16.lean`. -/
namespace PhyVerif.C16.Lemmas
open PhyVerif.C16 PhyVerif.Fl PhyVerif.Fl.Lemmas

theorem relErr_nonneg (e : Int) (x : ℚ) : 0 ≤ pow2 e * absR x := by
  rw [absR_eq]; exact mul_nonneg (le_of_lt (pow2_pos _)) (abs_nonneg _)

/-- an exact value is within any relative error of itself -/
theorem relErr_self (e : Int) (x : ℚ) : absR (x - x) ≤ pow2 e * absR x := by
  rw [sub_self, absR_eq, abs_zero]
  exact relErr_nonneg e x

theorem pyRound_near (x y e : ℚ) (h : absR (y - x) ≤ e) :
    x - 1 / 2 - e ≤ (pyRound y : ℚ) ∧ (pyRound y : ℚ) ≤ x + 1 / 2 + e := by
  obtain ⟨b1, b2⟩ := pyRound_bounds y
  rw [absR_eq, abs_le] at h
  constructor <;> linarith [h.1, h.2]

theorem pyRound_unique_near (x y e : ℚ) (m : Int) (h : absR (y - x) ≤ e) (h1 : x - 1 / 2 + e < m)
    (h2 : (m : ℚ) < x + 1 / 2 - e) : pyRound y = m := by
  rw [absR_eq, abs_le] at h
  apply pyRound_unique <;> linarith [h.1, h.2]

theorem chunkSizeFl_close (rate : ℚ) (hr : rate ≠ 0) :
    600 * rate - 1 / 2 - pow2 (ulpExp (600 * rate) - 1) ≤ (chunkSizeFl rate : ℚ) ∧
    (chunkSizeFl rate : ℚ) ≤ 600 * rate + 1 / 2 + pow2 (ulpExp (600 * rate) - 1) :=
  pyRound_near _ _ _ (roundDouble_half_ulp (600 * rate) (by intro h; apply hr; linarith))

theorem chunkSizeFl_close_rel (rate : ℚ) :
    600 * rate - 1 / 2 - pow2 (-53) * absR (600 * rate) ≤ (chunkSizeFl rate : ℚ) ∧
    (chunkSizeFl rate : ℚ) ≤ 600 * rate + 1 / 2 + pow2 (-53) * absR (600 * rate) :=
  pyRound_near _ _ _ (roundDouble_rel (600 * rate))

theorem chunkSizeFl_eq_chunkSize (rate : ℚ) (h : IsDouble (600 * rate)) : chunkSizeFl rate = chunkSize rate := by
  unfold chunkSizeFl chunkSize defaultChunkDuration
  rw [roundDouble_of_isDouble _ h]

theorem chunkSizeFl_unique (rate : ℚ) (m : Int)
    (h1 : 600 * rate - 1 / 2 + pow2 (-53) * absR (600 * rate) < m)
    (h2 : (m : ℚ) < 600 * rate + 1 / 2 - pow2 (-53) * absR (600 * rate)) : chunkSizeFl rate = m :=
  pyRound_unique_near _ _ _ m (roundDouble_rel (600 * rate)) h1 h2

theorem chunkSizeFl_eq_of_far (rate : ℚ) (m : Int)
    (h1 : 600 * rate - 1 / 2 + pow2 (-53) * absR (600 * rate) < m)
    (h2 : (m : ℚ) < 600 * rate + 1 / 2 - pow2 (-53) * absR (600 * rate)) : chunkSizeFl rate = chunkSize rate := by
  rw [chunkSizeFl_unique rate m h1 h2]
  exact (pyRound_unique_near (600 * rate) (600 * rate) _ m (relErr_self _ _) h1 h2).symm

theorem mtsChunkSizeFl_eq (cd rate : ℚ) (h : IsDouble (cd * rate)) : mtsChunkSizeFl cd rate = mtsChunkSize cd rate := by
  unfold mtsChunkSizeFl mtsChunkSize
  rw [roundDouble_of_isDouble _ h]

theorem mtsChunkSizeFl_close (cd rate : ℚ) :
    cd * rate - 1 / 2 - pow2 (-53) * absR (cd * rate) ≤ (mtsChunkSizeFl cd rate : ℚ) ∧
    (mtsChunkSizeFl cd rate : ℚ) ≤ cd * rate + 1 / 2 + pow2 (-53) * absR (cd * rate) :=
  pyRound_near _ _ _ (roundDouble_rel (cd * rate))

theorem chunkSizeFl_pos_iff (rate : ℚ) : 0 < chunkSizeFl rate ↔ 1 / 2 < roundDouble (600 * rate) :=
  pyRound_pos_iff _

/-- `1/2 + 2^-54` is the mid-point between `1/2` and the next double, `1/2 + 2^-53`; it rounds to the even one -/
theorem roundDouble_tie_half : roundDouble (1 / 2 + 1 / 18014398509481984) = 1 / 2 := by decide +kernel

theorem roundDouble_above_half : roundDouble (1 / 2 + 1 / 9007199254740992) = 1 / 2 + 1 / 9007199254740992 := by
  decide +kernel

/-- the constructors' `assert chunk_size > 0` in terms of the exact product: up to the mid-point `1/2 + 2^-54` the float
product is at most `0.5`, and `round(0.5) = 0` -/
theorem chunkSizeFl_pos_iff_rate (rate : ℚ) :
    0 < chunkSizeFl rate ↔ 1 / 2 + 1 / 18014398509481984 < 600 * rate := by
  rw [chunkSizeFl_pos_iff]
  constructor
  · intro h
    by_contra hc
    have := roundDouble_mono _ _ (not_lt.1 hc)
    rw [roundDouble_tie_half] at this
    linarith
  · intro h
    -- the product is above the mid-point, so it rounds to a double other than 1/2 that is ≥ 1/2
    have h1 : (1 : ℚ) / 2 ≤ roundDouble (600 * rate) := by
      have := roundDouble_mono (1 / 2) (600 * rate) (by linarith)
      rwa [show roundDouble (1 / 2) = 1 / 2 by decide +kernel] at this
    -- 1/2 + 2^-53 is a double, and the product is above the mid-point between 1/2 and it
    have hd : IsDouble (1 / 2 + 1 / 9007199254740992 : ℚ) := by
      rw [← roundDouble_above_half]; exact roundDouble_isDouble _
    exact lt_of_le_of_ne h1
      (roundDouble_ne_of_mid_lt _ _ _ hd (by norm_num) (by linarith)).symm

theorem readerChunkBoundsFl_ok (sizes : List Nat) (rate : ℚ) (hne : sizes ≠ []) (hr : 0 < chunkSizeFl rate) :
    ∃ cb, readerChunkBoundsFl sizes rate = some cb ∧
      boundsOK sizes (chunkSizeFl rate).toNat cb = true :=
  boundsOfChunkSize_ok sizes _ hne hr

theorem readerChunkBoundsFl_none (sizes : List Nat) (rate : ℚ) (hr : chunkSizeFl rate ≤ 0) :
    readerChunkBoundsFl sizes rate = none :=
  if_pos hr

theorem readerChunkBoundsFl_eq (sizes : List Nat) (rate : ℚ) (h : IsDouble (600 * rate)) :
    readerChunkBoundsFl sizes rate = readerChunkBounds sizes rate := by
  unfold readerChunkBoundsFl readerChunkBounds
  rw [chunkSizeFl_eq_chunkSize rate h]

end PhyVerif.C16.Lemmas
