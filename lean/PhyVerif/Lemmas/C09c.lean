import PhyVerif.Model.C09c
import PhyVerif.Spec.C09c
import PhyVerif.Lemmas.C09b
import PhyVerif.Lemmas.C08
/-!
Proofs about `Model/C09c.lean` and `Spec/C09c.lean`: the id space of the summaries (which arrays, how many ids, which
ids are NaN), `templates_probes`, the bare `_amplitudes` vector, and unwhitening as the inverse of whitening.
-/
namespace PhyVerif.C09.Lemmas
open PhyVerif PhyVerif.C09

/-! ### ids without spikes -/

theorem membersOf_nil_iff (s : List Nat) (t : Nat) : membersOf s t = [] ↔ t ∉ s := by
  rw [← List.length_eq_zero_iff, ← count_eq_members, List.count_eq_zero]

theorem meanOver_none_iff (s : List Nat) (w : List Rat) (t : Nat) : meanOver s w t = none ↔ t ∉ s := by
  rw [← membersOf_nil_iff, ← List.length_eq_zero_iff]
  by_cases h : (membersOf s t).length = 0
  · exact iff_of_true (if_pos h) h
  · exact iff_of_false (fun e => Option.some_ne_none _ ((if_neg h).symm.trans e)) h

theorem ampsVUnit_none_iff (d : Data) (f : Rat) (ha : d.amplitudes.length = d.spikes.length) (t : Nat)
    (ht : t < d.wfsW.length) : (ampsVUnit d f).getD t none = none ↔ t ∉ d.spikes := by
  rw [(ampsVUnit_eq_mean d f ha t ht).1, meanOver_none_iff]

theorem rescaledUnit_none (d : Data) (f : Rat) (ha : d.amplitudes.length = d.spikes.length) (t : Nat)
    (ht : t < d.wfsW.length) (hn : t ∉ d.spikes) : (rescaledUnit d f).getD t none = none := by
  rw [rescaledUnit_getD, rescaled_getD d t ht,
    show (ampsV d).getD t none = none from (ampsV_eq_mean d ha t ht).1.trans ((meanOver_none_iff ..).mpr hn)]
  rfl

/-! ### which arrays -/

theorem idCount_true (s : Stored) :
    idCount s true = if s.sc ≠ s.st then s.sc.foldl max 0 + 1 else s.templates.length :=
  if_congr (and_iff_right rfl) rfl rfl

theorem useArrays_spec (s : Stored) (cl : Bool) :
    (useArrays s cl).1.length = idCount s cl ∧ (useArrays s cl).2.2 = idCount s cl ∧
    (useArrays s cl).2.1 = assignment s cl := by
  cases cl
  · exact ⟨rfl, rfl, rfl⟩
  · obtain ⟨h1, h2⟩ := C08.Lemmas.cluster_count_rule s.templates s.chans s.st s.sc s.ns s.nc
    have hc := h2.trans ((idCount_true s).trans (ite_not ..)).symm
    exact ⟨h1.trans hc, hc, rfl⟩

theorem useArrays_clusters_spec (s : Stored) :
    (useArrays s true).1.length = (if s.sc ≠ s.st then s.sc.foldl max 0 + 1 else s.templates.length) ∧
    (useArrays s true).2.2 = (if s.sc ≠ s.st then s.sc.foldl max 0 + 1 else s.templates.length) ∧
    (useArrays s true).2.1 = s.sc ∧
    idCount s true = (if s.sc ≠ s.st then s.sc.foldl max 0 + 1 else s.templates.length) := by
  obtain ⟨h1, h2, h3⟩ := useArrays_spec s true
  exact ⟨h1.trans (idCount_true s), h2.trans (idCount_true s), h3, idCount_true s⟩

theorem assignment_lt_idCount (s : Stored) (cl : Bool) (hst : ∀ t ∈ s.st, t < s.templates.length) :
    ∀ t ∈ assignment s cl, t < idCount s cl := by
  cases cl
  · exact hst
  · intro t (ht : t ∈ s.sc)
    rw [idCount_true]
    split
    · exact Nat.lt_succ_of_le ((Np.Lemmas.le_foldl_max s.sc 0).2 t ht)
    · rename_i h
      exact hst t (of_not_not h ▸ ht)

/-- the guard of `amplitudesTrueUse` in terms of the id space: the count check always passes
(`useArrays_spec`), what is left is that every spike id lies in the space -/
theorem amplitudesTrueUse_eq (s : Stored) (cl : Bool) (f : Rat) :
    amplitudesTrueUse s cl f =
      if ∀ t ∈ assignment s cl, t < idCount s cl then some (amplitudesTrue (useData s cl) f) else none := by
  obtain ⟨h1, h2, h3⟩ := useArrays_spec s cl
  unfold amplitudesTrueUse
  simp only [h1, h2, h3, List.all_eq_true, decide_eq_true_eq, true_and]

theorem amplitudesTrueUse_defined (s : Stored) (cl : Bool) (f : Rat)
    (hin : ∀ t ∈ assignment s cl, t < idCount s cl) :
    amplitudesTrueUse s cl f = some (amplitudesTrue (useData s cl) f) := by
  rw [amplitudesTrueUse_eq, if_pos hin]

theorem amplitudesTrueUse_none (s : Stored) (cl : Bool) (f : Rat)
    (hout : ∃ t ∈ assignment s cl, idCount s cl ≤ t) : amplitudesTrueUse s cl f = none := by
  obtain ⟨t, ht, hge⟩ := hout
  rw [amplitudesTrueUse_eq, if_neg fun h => absurd (h t ht) (Nat.not_lt.mpr hge)]

theorem ampsUse_spec (s : Stored) (cl : Bool) (f : Rat)
    (ha : s.amplitudes.length = (assignment s cl).length) (hin : ∀ t ∈ assignment s cl, t < idCount s cl)
    (t : Nat) (ht : t < idCount s cl) :
    ∃ sa resc av, amplitudesTrueUse s cl f = some (sa, resc, av) ∧
      sa.length = (assignment s cl).length ∧ resc.length = idCount s cl ∧ av.length = idCount s cl ∧
      av.getD t none = meanOver (assignment s cl) sa t ∧
      (av.getD t (some 0) = none ↔ t ∉ assignment s cl) ∧
      (t ∉ assignment s cl → resc.getD t (some []) = none) := by
  obtain ⟨h1, _, h3⟩ := useArrays_spec s cl
  -- from here on everything is said about the record `useData s cl`
  rw [← h3] at ha ⊢
  rw [← h1] at ht ⊢
  obtain ⟨e1, e2⟩ := ampsVUnit_eq_mean (useData s cl) f ha t ht
  refine ⟨_, _, _, amplitudesTrueUse_defined s cl f hin, spikeAmpsUnit_length _ f ha, rescaledUnit_length _ f, e2, e1, ?_, fun hn => ?_⟩
  · rw [Np.Lemmas.getD_default _ t (some 0) none (e2.symm ▸ ht)]
    exact ampsVUnit_none_iff _ f ha t ht
  · rw [Np.Lemmas.getD_default _ t (some []) none ((rescaledUnit_length _ f).symm ▸ ht)]
    exact rescaledUnit_none _ f ha t ht hn

/-! ### the selected waveforms are `(ns, nc)` blocks -/

theorem loadClusters_rect (W : List Mat) (chans : List (List Nat)) (st sc : List Nat) (ns nc : Nat)
    (hst : ∀ t ∈ st, t < W.length) (hW : ∀ M ∈ W, Rect M ns nc) :
    ∀ M ∈ (C08.loadClusters W chans st sc ns nc).1, Rect M ns nc := by
  unfold C08.loadClusters
  split
  · intro M hM
    obtain ⟨c, _, rfl⟩ := List.mem_map.mp hM
    split
    · -- no template: a block of zeros
      exact ⟨List.length_replicate, fun row hrow => List.eq_of_mem_replicate hrow ▸ List.length_replicate⟩
    · -- one template `t`: its waveform
      rename_i t heq
      obtain ⟨i, hi, rfl, _⟩ := (C08.Lemmas.mem_mergeMap_getD st sc c t).mp (heq ▸ List.mem_singleton_self t)
      exact hW _ (Np.Lemmas.getD_mem W _ [] (hst _ (Np.Lemmas.getD_mem st i 0 hi)))
    · -- several: an `(ns, nc)` table written entry by entry
      refine ⟨(List.length_map _).trans List.length_range, fun row hrow => ?_⟩
      obtain ⟨_, _, rfl⟩ := List.mem_map.mp hrow
      exact (List.length_map _).trans List.length_range
  · exact hW

theorem useArrays_rect (s : Stored) (cl : Bool) (hst : ∀ t ∈ s.st, t < s.templates.length)
    (hW : ∀ M ∈ s.templates, Rect M s.ns s.nc) : ∀ M ∈ (useArrays s cl).1, Rect M s.ns s.nc := by
  cases cl
  · exact hW
  · exact loadClusters_rect s.templates s.chans s.st s.sc s.ns s.nc hst hW

/-! ### summaries of the selected waveforms -/

theorem duration_times_rate (x : Rat) (n : Int) (rate : Rat) (hr : 0 < rate) (h : x = (n : Rat) * 1000 / rate) :
    x * rate = (n : Rat) * 1000 :=
  (eq_div_iff (ne_of_gt hr)).mp h

theorem summariesUse_spec (s : Stored) (cl : Bool) (rate : Rat) (hr : 0 < rate)
    (hst : ∀ t ∈ s.st, t < s.templates.length)
    (hW : ∀ M ∈ s.templates, Rect M s.ns s.nc) (hns : 0 < s.ns) (hnc : 0 < s.nc) (t : Nat)
    (ht : t < idCount s cl) :
    (channelsUse s cl).length = idCount s cl ∧ (durationsUse s cl rate).length = idCount s cl ∧
    ∃ p iM im, IsPeakChannel ((useArrays s cl).1.getD t []) s.nc p ∧
      IsFirstMax (chan ((useArrays s cl).1.getD t []) p) iM ∧
      IsFirstMin (chan ((useArrays s cl).1.getD t []) p) im ∧
      (channelsUse s cl).getD t 0 = p ∧
      (durationsUse s cl rate).getD t 0 = (((iM : Int) - (im : Int) : Int) : Rat) * 1000 / rate ∧
      (durationsUse s cl rate).getD t 0 * rate = (((iM : Int) - (im : Int) : Int) : Rat) * 1000 := by
  have hrect := useArrays_rect s cl hst hW
  rw [← (useArrays_spec s cl).1] at ht ⊢
  have hWt : Rect ((useArrays s cl).1.getD t []) s.ns s.nc := hrect _ (Np.Lemmas.getD_mem _ t [] ht)
  obtain ⟨p, iM, im, hp, hM, hm⟩ := duration_objects_exist _ s.ns s.nc hWt hns hnc
  obtain ⟨c1, c2⟩ := peakChannels_spec (useArrays s cl).1 t s.ns s.nc ht hWt hns hnc
  have hd := duration_ms_spec _ rate s.ns s.nc hns hnc hrect t ht p iM im hp hM hm
  exact ⟨c2, waveformDurations_length _ rate, p, iM, im, hp, hM, hm, isPeakChannel_unique _ s.nc _ _ c1 hp, hd,
    duration_times_rate _ _ rate hr hd⟩

theorem templatesProbes_spec (probes : List Int) (templates : List Mat) (t ns nc : Nat) (ht : t < templates.length)
    (hrect : Rect (templates.getD t []) ns nc) (hns : 0 < ns) (hnc : 0 < nc) (hp : probes.length = nc) :
    (templatesProbes probes templates).length = templates.length ∧
    ∃ p, IsPeakChannel (templates.getD t []) nc p ∧ p < probes.length ∧
      (templatesProbes probes templates).getD t 0 = probes.getD p 0 := by
  obtain ⟨c1, c2⟩ := peakChannels_spec templates t ns nc ht hrect hns hnc
  exact ⟨(List.length_map _).trans c2, _, c1, hp ▸ c1.1, Np.Lemmas.getD_map_of_lt _ _ t 0 0 (c2 ▸ ht)⟩

theorem amplitudesVec_eq (ids : List Nat) (amps : List Rat) :
    amplitudesVec ids amps = (meanAmps ids amps).map (·.2) := by
  rw [meanAmps, List.map_map]
  rfl

theorem amplitudesVec_spec (ids : List Nat) (amps : List Rat) (h : amps.length = ids.length) :
    (amplitudesVec ids amps).length = (Np.unique (ids.map Int.ofNat)).length ∧
    ∀ k, k < (Np.unique (ids.map Int.ofNat)).length →
      (Np.unique (ids.map Int.ofNat)).getD k 0 ∈ ids ∧
      0 < (membersOf ids ((Np.unique (ids.map Int.ofNat)).getD k 0)).length ∧
      (amplitudesVec ids amps).getD k 0 =
        ((membersOf ids ((Np.unique (ids.map Int.ofNat)).getD k 0)).map fun i => amps.getD i 0).sum /
          ((membersOf ids ((Np.unique (ids.map Int.ofNat)).getD k 0)).length : Nat) := by
  rw [amplitudesVec_eq, meanAmps_eq ids amps h, List.map_map]
  refine ⟨List.length_map _, fun k hk => ?_⟩
  have hmem : (Np.unique (ids.map Int.ofNat)).getD k 0 ∈ ids := (mem_unique_ofNat ids _).mp (Np.Lemmas.getD_mem _ k 0 hk)
  exact ⟨hmem, count_eq_members ids _ ▸ List.count_pos_iff.mpr hmem, Np.Lemmas.getD_map_of_lt _ _ k 0 0 hk⟩

/-! ### unwhitening undoes whitening -/

theorem rect_row (W : Mat) (ns nc s : Nat) (h : Rect W ns nc) (hs : s < ns) : (W.getD s []).length = nc :=
  h.2 _ (Np.Lemmas.getD_mem W s [] (h.1 ▸ hs))

theorem matMul_rect (W M : Mat) (ns nk nc : Nat) (hW : Rect W ns nk) (hM : Rect M nk nc) (hnk : 0 < nk) :
    Rect (matMul W M) ns nc := by
  refine ⟨(List.length_map _).trans hW.1, fun row hrow => ?_⟩
  obtain ⟨_, _, rfl⟩ := List.mem_map.mp hrow
  exact (List.length_map _).trans (List.length_range.trans (ncols_of_rect M nk nc hM hnk))

theorem matMul_entry_rect (W M : Mat) (ns nk nc : Nat) (hW : Rect W ns nk) (hM : Rect M nk nc) (hnk : 0 < nk)
    (s j : Nat) (hs : s < ns) (hj : j < nc) :
    entry (matMul W M) s j = sumTo nk fun k => entry W s k * entry M k j := by
  rw [matMul_entry W M s j (hW.1 ▸ hs) ((ncols_of_rect M nk nc hM hnk).symm ▸ hj)
    ((rect_row W ns nk s hW hs).trans hM.1.symm), hM.1]

theorem unwhiten_whitened (U wm wmi : Mat) (ns nc : Nat) (hU : Rect U ns nc) (hnc : 0 < nc)
    (hinv : Unwhitens wm wmi nc) (s j : Nat) (hs : s < ns) (hj : j < nc) :
    entry (matMul (matMul U wm) wmi) s j = entry U s j := by
  obtain ⟨hwm, hwmi, hprod⟩ := hinv
  have e : ∀ k, k < nc → entry (matMul U wm) s k * entry wmi k j =
      sumTo nc fun l => entry U s l * entry wm l k * entry wmi k j := fun k hk => by
    rw [matMul_entry_rect U wm ns nc nc hU hwm hnc s k hs hk, ← sumTo_mul_right]
  -- sum over `l` outside: the inner sum over `k` is row `l` of `wm · wmi`
  have e2 : ∀ l, l < nc → (sumTo nc fun k => entry U s l * entry wm l k * entry wmi k j) =
      entry U s l * (if l = j then 1 else 0) := fun l hl => by
    rw [← hprod l hl j hj, ← sumTo_mul_left]
    exact sumTo_congr _ _ _ fun k _ => mul_assoc _ _ _
  rw [matMul_entry_rect _ wmi ns nc nc (matMul_rect U wm ns nc nc hU hwm hnc) hwmi hnc s j hs hj,
    sumTo_congr nc _ _ e, sumTo_comm nc nc fun l k => entry U s l * entry wm l k * entry wmi k j,
    sumTo_congr nc _ _ e2, sumTo_indicator nc j hj]

end PhyVerif.C09.Lemmas
