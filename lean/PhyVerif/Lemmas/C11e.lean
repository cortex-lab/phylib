import PhyVerif.Model.C11e
import PhyVerif.Lemmas.Np
/-! The merge as a function on a file system (`Model/C11e.lean`): the finite map, `loadEach`, and for every
`write_*` step what it has read and saved when it did not raise (`c*_ok`). -/
namespace PhyVerif.C11.Lemmas
open PhyVerif PhyVerif.C11

theorem read_write (fs : FS) (p q : Path) (f : File) :
    (fs.write p f).read q = if q = p then some f else fs.read q := by
  unfold FS.write FS.read
  by_cases h : q = p
  · subst h; simp
  · have : (q == p) = false := by simpa using h
    rw [List.lookup_cons, this, if_neg h]
    exact Np.Lemmas.lookup_filter_ne fs q p h

theorem saveAll_nil (out : String) (fs : FS) : saveAll out fs [] = fs := rfl

theorem saveAll_cons (out : String) (fs : FS) (w : String × File) (ws : List (String × File)) :
    saveAll out fs (w :: ws) = saveAll out (fs.write (out, w.1) w.2) ws := rfl

theorem saveAll_append (out : String) (fs : FS) (ws ws' : List (String × File)) :
    saveAll out fs (ws ++ ws') = saveAll out (saveAll out fs ws) ws' := by
  unfold saveAll; rw [List.foldl_append]

theorem saveAll_read_other (out : String) (ws : List (String × File)) :
    ∀ (fs : FS) (d n : String), (d ≠ out ∨ n ∉ ws.map (·.1)) → (saveAll out fs ws).read (d, n) = fs.read (d, n) := by
  induction ws with
  | nil => intro fs d n _; rfl
  | cons w ws ih =>
    intro fs d n h
    rw [saveAll_cons, ih _ d n (h.imp_right fun h hc => h (List.mem_cons_of_mem _ hc)), read_write, if_neg]
    intro hc
    rcases h with h | h
    · exact h (Prod.mk.inj hc).1
    · exact h ((Prod.mk.inj hc).2 ▸ List.mem_cons_self)

theorem loadEach_congr {α β : Type} (f g : β → M α) (l : List β) (h : ∀ x ∈ l, f x = g x) :
    loadEach f l = loadEach g l := by
  induction l with
  | nil => rfl
  | cons x rest ih =>
    unfold loadEach
    rw [h x (by simp), ih (fun y hy => h y (by simp [hy]))]

theorem loadEach_cons_ok {α β : Type} (f : β → M α) (x : β) (l : List β) (as : List α) :
    loadEach f (x :: l) = .ok as ↔ ∃ a as', f x = .ok a ∧ loadEach f l = .ok as' ∧ as = a :: as' := by
  rw [loadEach]
  cases f x with
  | error e => simp
  | ok a => cases loadEach f l <;> simp [eq_comm]

theorem loadEach_length {α β : Type} (f : β → M α) (l : List β) (as : List α) (h : loadEach f l = .ok as) :
    as.length = l.length := by
  induction l generalizing as with
  | nil => unfold loadEach at h; cases h; rfl
  | cons x rest ih =>
    obtain ⟨a, as', -, h', rfl⟩ := (loadEach_cons_ok f x rest as).1 h
    exact congrArg Nat.succ (ih as' h')

theorem loadEach_get {α β : Type} (f : β → M α) (l : List β) (as : List α) (h : loadEach f l = .ok as)
    (i : Nat) (hi : i < l.length) : ∃ a, as[i]? = some a ∧ f l[i] = .ok a := by
  induction l generalizing as i with
  | nil => exact absurd hi (Nat.not_lt_zero _)
  | cons x rest ih =>
    obtain ⟨a, as', hfa, h', rfl⟩ := (loadEach_cons_ok f x rest as).1 h
    cases i with
    | zero => exact ⟨a, rfl, hfa⟩
    | succ i => exact ih as' h' i (Nat.lt_of_succ_lt_succ hi)

theorem loadEach_mem {α β : Type} (f : β → M α) (l : List β) (as : List α) (h : loadEach f l = .ok as)
    (x : β) (hx : x ∈ l) : ∃ a ∈ as, f x = .ok a := by
  obtain ⟨i, hi, rfl⟩ := List.getElem_of_mem hx
  obtain ⟨a, ha, hf⟩ := loadEach_get f l as h i hi
  exact ⟨a, List.mem_of_getElem? ha, hf⟩

theorem saveStep_ok (out : String) (c : Compute) (s s1 : FS × Reg) (h : saveStep out c s = .ok s1) :
    ∃ ws reg, c s.1 s.2 = .ok (ws, reg) ∧ s1 = (saveAll out s.1 ws, reg) := by
  unfold saveStep at h
  split at h
  · cases h
  · rename_i ws reg heq; cases h; exact ⟨ws, reg, heq, rfl⟩

/-- the save of one iteration of `write_misc` -/
def optWrite (fn : String) : Option (List (List Int)) → List (String × File)
  | none => []
  | some m => [(fn, .mat m)]

/-- Every `c*_ok` below is read off the definition of its `write_*` step in the same way: unfold the step `d` in
`h : d … = .ok …`, split every `match` and `if`, and close the branches that return an error. What is left is the one
branch that returns, with the results of its reads and the negations of its tests as hypotheses. -/
macro "inv_ok" d:ident h:ident : tactic =>
  `(tactic| (unfold $d at $h:ident
             try dsimp only at $h:ident
             repeat' (split at $h:ident)
             all_goals (try (cases $h:ident; done))))

variable (subdirs : List String) (fs : FS) (reg reg' : Reg) (ws : List (String × File))

theorem cParams_ok (h : cParams subdirs fs reg = .ok (ws, reg')) :
    ∃ ps p, loadEach (readParams fs "params.py") subdirs = .ok ps ∧ C12.mergeParams ps = some p ∧
      ws = [("params.py", .params p.1 p.2)] ∧ reg' = reg := by
  inv_ok cParams h
  cases h; exact ⟨_, _, by assumption, by assumption, rfl, rfl⟩

theorem cProbeDesc_ok (h : cProbeDesc subdirs fs reg = .ok (ws, reg')) :
    ws = [("probes.description.tsv", .labels subdirs)] ∧ reg' = reg := by
  unfold cProbeDesc at h; cases h; exact ⟨rfl, rfl⟩

theorem cSpikeTimes_ok (h : cSpikeTimes subdirs fs reg = .ok (ws, reg')) :
    ∃ times, loadEach (readInts fs "spike_times.npy") subdirs = .ok times ∧
      concatOK "spike_times.npy" times = .ok () ∧
      ws = [("spike_times.npy", .ints (gather times (spikeOrder times)))] ∧
      reg' = { reg with order := spikeOrder times } := by
  inv_ok cSpikeTimes h
  cases h; exact ⟨_, by assumption, by assumption, rfl, rfl⟩

theorem cAmplitudes_ok (h : cAmplitudes subdirs fs reg = .ok (ws, reg')) :
    ∃ arrays, loadEach (readInts fs "amplitudes.npy") subdirs = .ok arrays ∧
      concatOK "amplitudes.npy" arrays = .ok () ∧ arrays.flatten.length = reg.order.length ∧
      ws = [("amplitudes.npy", .ints (gather arrays reg.order))] ∧ reg' = reg := by
  inv_ok cAmplitudes h
  rename_i hne
  cases h; exact ⟨_, by assumption, by assumption, by simpa using hne, rfl, rfl⟩

theorem cSpikeTemplatesRaw_ok (h : cSpikeTemplatesRaw subdirs fs reg = .ok (ws, reg')) :
    ∃ arrays, loadEach (readNats fs "spike_templates.npy") subdirs = .ok arrays ∧
      concatOK "spike_templates.npy" arrays = .ok () ∧ arrays.flatten.length = reg.order.length ∧
      ws = [("spike_templates.npy", .nats (gather arrays reg.order))] ∧ reg' = reg := by
  inv_ok cSpikeTemplatesRaw h
  rename_i hne
  cases h; exact ⟨_, by assumption, by assumption, by simpa using hne, rfl, rfl⟩

theorem cSpikeClusters_ok (h : cSpikeClusters subdirs fs reg = .ok (ws, reg')) :
    ∃ sc st counts, loadEach (readNats fs "spike_clusters.npy") subdirs = .ok sc ∧
      loadEach (readNats fs "spike_templates.npy") subdirs = .ok st ∧
      loadEach (readTemplateCount fs) (subdirs.zip (sc.zip st)) = .ok counts ∧
      concatOK "spike_clusters.npy" sc = .ok () ∧ concatOK "spike_templates.npy" st = .ok () ∧
      (shiftIds sc).flatten.length = reg.order.length ∧
      (shiftBy st (templateOffsets st counts)).flatten.length = reg.order.length ∧
      (gather (shiftIds sc) reg.order).foldl max 0 + 1 = (clusterProbes sc).length ∧
      ws = [("spike_clusters.npy", .nats (gather (shiftIds sc) reg.order)),
            ("spike_templates.npy", .nats (gather (shiftBy st (templateOffsets st counts)) reg.order)),
            ("cluster_probes.npy", .nats (clusterProbes sc))] ∧
      reg' = { reg with clusters := sc, templateOffsets := templateOffsets st counts } := by
  inv_ok cSpikeClusters h
  rename_i h1 _ _ _ h2 h3  -- the three `if` tests, outermost first
  cases h
  exact ⟨_, _, _, by assumption, by assumption, by assumption, by assumption, by assumption,
    by simpa using h1, by simpa using h2, by simpa using h3, rfl, rfl⟩

theorem cClusterData_ok (fn : String) (h : cClusterData subdirs fn fs reg = .ok (ws, reg')) :
    ∃ md, loadEach (readTsvOpt fs fn) subdirs = .ok md ∧
      ws = (if (mergeClusterData md reg.clusters).isEmpty then [] else [(fn, .tsv (mergeClusterData md reg.clusters))]) ∧
      reg' = reg := by
  unfold cClusterData at h
  split at h
  · cases h
  · cases h; exact ⟨_, by assumption, rfl, rfl⟩

theorem cChannelData_ok (h : cChannelData subdirs fs reg = .ok (ws, reg')) :
    ∃ maps, loadEach (readNats fs "channel_map.npy") subdirs = .ok maps ∧
      maxOK "channel_map.npy" maps = .ok () ∧
      ws = [("channel_map.npy", .nats (C12.mergeChannelMaps maps)),
            ("channel_probe.npy", .nats (C12.channelProbes maps))] ∧
      reg' = { reg with chanIndexOffsets := C12.chanIndexOffsets maps } := by
  inv_ok cChannelData h
  cases h; exact ⟨_, by assumption, by assumption, rfl, rfl⟩

theorem cChannelPositions_ok (h : cChannelPositions subdirs fs reg = .ok (ws, reg')) :
    ∃ pos, loadEach (readPos fs "channel_positions.npy") subdirs = .ok pos ∧
      maxOK "channel_positions.npy" pos = .ok () ∧
      ws = [("channel_positions.npy", .pos (C12.mergePositions pos))] ∧ reg' = reg := by
  inv_ok cChannelPositions h
  cases h; exact ⟨_, by assumption, by assumption, rfl, rfl⟩

theorem cTemplates_ok (h : cTemplates subdirs fs reg = .ok (ws, reg')) :
    ∃ ts, loadEach (readTmpl fs "templates.npy") subdirs = .ok ts ∧
      (ts.all fun t => t.all fun tm => tm.length == ((ts.headD []).headD []).length) = true ∧
      ws = [("templates.npy", .tmpl (C12.mergeTemplates ts))] ∧ reg' = reg := by
  inv_ok cTemplates h
  cases h; exact ⟨_, by assumption, by assumption, rfl, rfl⟩

theorem cPcInd_ok (h : cPcInd subdirs fs reg = .ok (ws, reg')) :
    ∃ tables, loadEach (readTable fs "pc_feature_ind.npy") subdirs = .ok tables ∧ sameWidth tables = true ∧
      ws = [("pc_feature_ind.npy", .table (C12.shiftTables tables reg.chanIndexOffsets))] ∧ reg' = reg := by
  inv_ok cPcInd h
  cases h; exact ⟨_, by assumption, by assumption, rfl, rfl⟩

theorem cTfInd_ok (h : cTfInd subdirs fs reg = .ok (ws, reg')) :
    ∃ tables, loadEach (readTable fs "template_feature_ind.npy") subdirs = .ok tables ∧ sameWidth tables = true ∧
      ws = [("template_feature_ind.npy", .table (C12.shiftTables tables reg.templateOffsets))] ∧ reg' = reg := by
  inv_ok cTfInd h
  cases h; exact ⟨_, by assumption, by assumption, rfl, rfl⟩

theorem cMisc_ok (fn : String) (h : cMisc subdirs fn fs reg = .ok (ws, reg')) :
    ∃ ms, loadEach (readMatOpt fs fn) subdirs = .ok ms ∧
      ws = optWrite fn (C12.mergeOptional ms) ∧ reg' = reg := by
  inv_ok cMisc h
  · rename_i hm; cases h; exact ⟨_, by assumption, by rw [hm]; rfl, rfl⟩
  · rename_i hm; cases h; exact ⟨_, by assumption, by rw [hm]; rfl, rfl⟩

end PhyVerif.C11.Lemmas
