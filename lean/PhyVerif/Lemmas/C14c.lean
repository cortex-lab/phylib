import PhyVerif.Lemmas.C08
import PhyVerif.Lemmas.C14
import PhyVerif.Lemmas.C14b
/-! WHICH ids are blanked (the ids without spikes, computed from the spike assignment; composition with C08's
`nan_idx`), the cluster depths, spike depths (with and without features) and durations of Model/C14 stated on that, and
the table of listed channels, one row per stored waveform. -/
namespace PhyVerif.C14.Lemmas
open PhyVerif PhyVerif.C09 PhyVerif.C14

theorem mem_spikelessIds (n : Nat) (sc : List Nat) (c : Nat) :
    c ∈ spikelessIds n sc ↔ c < n ∧ c ∉ sc := by
  simp [spikelessIds, List.mem_filter, List.mem_range]

theorem contains_spikelessIds (n : Nat) (sc : List Nat) (c : Nat) (hc : c < n) :
    (spikelessIds n sc).contains c = true ↔ c ∉ sc := by
  rw [List.contains_iff_mem, mem_spikelessIds, and_iff_right hc]

/-- composition with C08: for a curated dataset (`n_clusters = max id + 1`) the blanked ids ARE `model.nan_idx` -/
theorem spikelessIds_eq_nanIdx (st sc : List Nat) (hlen : st.length = sc.length) :
    spikelessIds (sc.foldl max 0 + 1) sc = C08.nanIdx (C08.mergeMap st sc) := by
  unfold spikelessIds C08.nanIdx
  rw [C08.Lemmas.mergeMap_length st sc]
  refine List.filter_congr fun c hc => ?_
  -- `nanIdx_spec` at an id below the number of clusters: its list is empty iff no spike carries it
  have h := C08.Lemmas.nanIdx_spec st sc hlen c
  rw [C08.nanIdx, List.mem_filter, C08.Lemmas.mergeMap_length st sc, and_iff_right hc,
    and_iff_right (Nat.le_of_lt_succ (List.mem_range.1 hc))] at h
  rw [Bool.eq_iff_iff, h, Bool.not_eq_true', List.contains_eq_mem, decide_eq_false_iff_not]

/-- … stated on the model's `nan_idx` (`modelNanIdx`), for a CURATED, non-empty assignment (`_hne`: the domain, the real
loader takes `max` of the ids; not needed by the proof) -/
theorem blanked_ids_eq_nanIdx (st sc : List Nat) (hlen : st.length = sc.length) (hcur : sc ≠ st) (_hne : sc ≠ []) :
    spikelessIds (sc.foldl max 0 + 1) sc = modelNanIdx st sc := by
  rw [spikelessIds_eq_nanIdx st sc hlen, modelNanIdx, if_neg hcur]

theorem exportClusterDepths_length (ys : List Rat) (peaks sc : List Nat) :
    (exportClusterDepths ys peaks sc).length = peaks.length := by
  rw [exportClusterDepths, clusterDepths, List.length_map, List.length_zipIdx]

theorem export_cluster_depth_eq (ys : List Rat) (peaks sc : List Nat) (c : Nat) (hc : c < peaks.length) :
    (exportClusterDepths ys peaks sc).getD c none =
      if c ∈ sc then some (ys.getD (peaks.getD c 0) 0) else none := by
  unfold exportClusterDepths
  exact (cluster_depth_eq ys peaks _ c hc).trans
    ((if_congr (contains_spikelessIds _ sc c hc) rfl rfl).trans (ite_not ..))

theorem export_spike_depth_eq (fe : Option Feats) (ys : List Rat) (peaks st sc : List Nat)
    (hno : getDepths fe ys st = none) (i : Nat) (hi : i < sc.length) (hc : sc.getD i 0 < peaks.length) :
    (exportSpikeDepths fe ys peaks st sc).getD i none = some (ys.getD (peaks.getD (sc.getD i 0) 0) 0) := by
  unfold exportSpikeDepths
  rw [hno]
  -- the spike's own cluster has a spike
  exact (spikeDepthsFromClusters_getD _ sc i hi).trans
    ((export_cluster_depth_eq ys peaks sc _ hc).trans (if_pos (Np.Lemmas.getD_mem sc i 0 hi)))

theorem getDepths_none_iff (fe : Option Feats) (ys : List Rat) (st : List Nat) :
    getDepths fe ys st = none ↔ ∀ f, fe = some f → f.feat0.length ≠ st.length := by
  cases fe with
  | none => exact ⟨fun _ _ h => (nomatch h), fun _ => rfl⟩
  | some f =>
    refine ⟨fun h g hg hl => ?_, fun h => if_neg (h f rfl)⟩
    cases hg
    exact absurd ((show getDepths (some f) ys st = some _ from if_pos hl).symm.trans h) (Option.some_ne_none _)

theorem exportSpikeDepths_features (f : Feats) (ys : List Rat) (peaks st sc : List Nat)
    (hl : f.feat0.length = st.length) :
    exportSpikeDepths (some f) ys peaks st sc = depths f.feat0 f.cols ys st ∧
    (depths f.feat0 f.cols ys st).length = st.length :=
  ⟨by rw [exportSpikeDepths, show getDepths (some f) ys st = some _ from if_pos hl],
    by rw [depths, List.length_map, List.length_zip, hl, Nat.min_self]⟩

theorem spike_depth_features_eq_fold (f : Feats) (ys : List Rat) (peaks st sc : List Nat)
    (hl : f.feat0.length = st.length) (i : Nat) (hi : i < st.length) :
    (exportSpikeDepths (some f) ys peaks st sc).getD i none =
      (let w := (f.feat0.getD i []).map fun x => (max x 0) * (max x 0)
       let y := (f.cols.getD (st.getD i 0) []).map fun c => ys.getD c 0
       if w.sum = 0 then none else some (dot y w / w.sum)) ∧
    (exportSpikeDepths (some f) ys peaks st sc).length = st.length := by
  obtain ⟨e, hlen⟩ := exportSpikeDepths_features f ys peaks st sc hl
  rw [e]
  exact ⟨C09.Lemmas.depths_eq f.feat0 f.cols ys st i (hl ▸ hi) hl.symm, hlen⟩

theorem spike_depth_features_eq (f : Feats) (ys : List Rat) (peaks st sc : List Nat) (nloc : Nat)
    (hl : f.feat0.length = st.length)
    (hf : ∀ i, i < st.length → (f.feat0.getD i []).length = nloc)
    (hst : ∀ i, i < st.length → st.getD i 0 < f.cols.length)
    (hc : ∀ i, i < st.length → (f.cols.getD (st.getD i 0) []).length = nloc)
    (hb : ∀ i, i < st.length → ∀ c ∈ f.cols.getD (st.getD i 0) [], c < ys.length)
    (i : Nat) (hi : i < st.length) :
    (exportSpikeDepths (some f) ys peaks st sc).getD i none =
      (let w := fun k => max ((f.feat0.getD i []).getD k 0) 0 * max ((f.feat0.getD i []).getD k 0) 0
       let y := fun k => ys.getD ((f.cols.getD (st.getD i 0) []).getD k 0) 0
       if sumTo nloc w = 0 then none else some (sumTo nloc (fun k => y k * w k) / sumTo nloc w)) ∧
    (exportSpikeDepths (some f) ys peaks st sc).length = st.length := by
  obtain ⟨e, hlen⟩ := exportSpikeDepths_features f ys peaks st sc hl
  rw [e]
  exact ⟨C09.Lemmas.depth_direct f.feat0 f.cols ys st i nloc (hl ▸ hi) hl.symm (hf i hi) (hst i hi) (hc i hi)
    (hb i hi), hlen⟩

theorem exportSpikeDepths_length_fallback (fe : Option Feats) (ys : List Rat) (peaks st sc : List Nat)
    (hno : getDepths fe ys st = none) : (exportSpikeDepths fe ys peaks st sc).length = sc.length := by
  simp [exportSpikeDepths, hno, spikeDepthsFromClusters]

theorem exportListedChannels_length (wfs : List Mat) (pos : List (Rat × Rat)) (probes : List Nat) (ncw : Nat) :
    (exportListedChannels wfs pos probes ncw).length = wfs.length := by
  simp [exportListedChannels, peakChannels]

theorem exportListedChannels_getD (wfs : List Mat) (pos : List (Rat × Rat)) (probes : List Nat) (ncw t : Nat)
    (ht : t < wfs.length) :
    (exportListedChannels wfs pos probes ncw).getD t [] =
      nearestSameProbe pos probes ((peakChannels wfs).getD t 0) ncw :=
  Np.Lemmas.getD_map_of_lt _ _ t 0 [] (by rw [peakChannels, List.length_map]; exact ht)

theorem listed_channels_of_waveform (wfs : List Mat) (pos : List (Rat × Rat)) (probes : List Nat)
    (ncw t ns nc : Nat) (ht : t < wfs.length) (hrect : Rect (wfs.getD t []) ns nc) (hns : 0 < ns) (hnc : 0 < nc)
    (hpos : pos.length = nc) (_hpr : probes.length = pos.length) :
    IsPeakChannel (wfs.getD t []) nc ((peakChannels wfs).getD t 0) ∧
    nearestOK pos probes ((peakChannels wfs).getD t 0) ncw
      ((exportListedChannels wfs pos probes ncw).getD t []) = true ∧
    (exportListedChannels wfs pos probes ncw).length = wfs.length := by
  have hpk := (C09.Lemmas.peakChannels_spec wfs t ns nc ht hrect hns hnc).1
  refine ⟨hpk, ?_, exportListedChannels_length wfs pos probes ncw⟩
  rw [exportListedChannels_getD wfs pos probes ncw t ht]
  exact nearest_ok pos probes _ ncw (hpos ▸ hpk.1)

theorem contains_modelNanIdx (st sc : List Nat) (hlen : st.length = sc.length) (c : Nat)
    (hc : sc ≠ st → c ≤ sc.foldl max 0) :
    (modelNanIdx st sc).contains c = true ↔ sc ≠ st ∧ c ∉ sc := by
  unfold modelNanIdx
  by_cases h : sc = st
  · rw [if_pos h, List.contains_nil]
    exact iff_of_false Bool.false_ne_true fun hh => hh.1 h
  · rw [if_neg h, ← spikelessIds_eq_nanIdx st sc hlen, contains_spikelessIds _ sc c (Nat.lt_succ_of_le (hc h)),
      and_iff_right h]

theorem durations_eq (wfs : List Mat) (rate : Rat) (st sc : List Nat) (hlen : st.length = sc.length)
    (hn : sc ≠ st → wfs.length = sc.foldl max 0 + 1) (ns nc : Nat) (hns : 0 < ns)
    (hnc : 0 < nc) (hrect : ∀ W ∈ wfs, Rect W ns nc) (c : Nat) (hc : c < wfs.length) (p iM im : Nat)
    (hp : IsPeakChannel (wfs.getD c []) nc p) (hM : IsFirstMax (chan (wfs.getD c []) p) iM)
    (hm : IsFirstMin (chan (wfs.getD c []) p) im) :
    (exportDurations wfs rate st sc).getD c none =
      if sc ≠ st ∧ c ∉ sc then none else some ((((iM : Int) - (im : Int) : Int) : Rat) * 1000 / rate) := by
  unfold exportDurations
  rw [peakToTrough_eq wfs rate _ ns nc hns hnc hrect c hc p iM im hp hM hm]
  exact if_congr
    (contains_modelNanIdx st sc hlen c fun h => Nat.le_of_lt_succ (Nat.lt_of_lt_of_eq hc (hn h))) rfl rfl

theorem exportDurations_length (wfs : List Mat) (rate : Rat) (st sc : List Nat) :
    (exportDurations wfs rate st sc).length = wfs.length :=
  exportPeakToTrough_length wfs rate _

end PhyVerif.C14.Lemmas
