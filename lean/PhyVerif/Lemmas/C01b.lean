import PhyVerif.Model.C01b
import PhyVerif.Spec.C01b
import PhyVerif.Lemmas.C01
import PhyVerif.Lemmas.C16d
/-! Proofs for the reader objects of C01 (`Model/C01b.lean`): what a constructor that succeeds establishes (`Built`),
for which rates it fails, and the backend-tagged `__getitem__` on a built reader. The chunk bounds of the constructors
are those of C16 (`Lemmas/C16t.lean`, `C16d`); Mathlib's order lemmas come with `Lemmas/Fl.lean`.
Statements: `Props/C01.lean`. -/
namespace PhyVerif.C01.Lemmas
open PhyVerif PhyVerif.C01

theorem partBoundsFrom_eq {α : Type} (parts : List (List α)) :
    ∀ off, C16.partBoundsFrom off (parts.map List.length) = boundsFrom off parts := by
  induction parts with
  | nil => intro off; rfl
  | cons p ps ih => intro off; simp only [List.map_cons, C16.partBoundsFrom, boundsFrom, ih]

theorem partBounds_eq {α : Type} (parts : List (List α)) :
    C16.partBounds (parts.map List.length) = bounds parts := partBoundsFrom_eq parts 0

theorem getRowsW_bounds {α : Type} (parts : List (List α)) (it : Item) :
    getRowsW (bounds parts) parts it = getRows parts it := by
  cases it <;> rfl

/-- the chunk bounds of a flat / array reader (chunk length from the float product, positive for an accepted rate)
end at the total number of rows -/
theorem readerChunkBoundsFl_last (sizes : List Nat) (rate : Rat) (hne : sizes ≠ []) (hr : RateOK rate) :
    ∃ cb, C16.readerChunkBoundsFl sizes rate = some cb ∧ cb.getLast? = some sizes.sum := by
  obtain ⟨cb, hcb, hok⟩ := C16.Lemmas.readerChunkBoundsFl_ok sizes rate hne
    ((C16.Lemmas.chunkSizeFl_pos_iff_rate rate).2 hr.1)
  exact ⟨cb, hcb, ((C16.Lemmas.boundsOK_iff _ _ _).1 hok).2.1⟩

theorem rate_pos {rate : Rat} (hr : RateOK rate) : 0 < rate := by
  have h : (0 : Rat) < 600 * rate := lt_trans (by norm_num) hr.1
  exact (mul_pos_iff_of_pos_left (by norm_num)).1 h

/-- What the theorems need to know about a constructed reader. `shape` and `duration` are functions of these fields;
`attrs_of_built` lists all eight attributes in the order of `reader_attrs_eq_concat`. -/
structure Built {α : Type} (src : Source α) (r : Reader α) : Prop where
  backend : r.backend = src.backend
  nSamples : r.nSamples = some src.concat.length
  nChannels : r.nChannels = src.width
  dtype : r.dtype = src.dtype
  rate : r.rate = src.rate
  rate_ne : r.rate ≠ 0
  partBounds : r.partBounds = bounds r.store
  store : r.store.flatten = src.concat

/-- `ArrayEphysReader.__init__` on the array `a`, for a source `src` that stands for that array -/
theorem buildArray_built {α : Type} (a : Arr α) (rate : Rat) (hr : RateOK rate) (src : Source α)
    (hc : src.concat = a.rows) (hw : src.width = a.ncols) (hd : src.dtype = a.dtype)
    (hrate : src.rate = rate) :
    ∃ r, buildArray src.backend a rate = some r ∧ Built src r := by
  obtain ⟨cb, hcb, hlast⟩ := readerChunkBoundsFl_last [a.rows.length] rate (by simp) hr
  have hpos := rate_pos hr
  refine ⟨_, by unfold buildArray; rw [if_neg (Rat.not_le.2 hpos), hcb], ?_⟩
  refine ⟨rfl, ?_, hw.symm, hd.symm, hrate.symm, ne_of_gt hpos, ?_, ?_⟩
  · simpa [Reader.nSamples, hc] using hlast
  · simp [bounds, boundsFrom]
  · simp [hc]

theorem build_built {α : Type} (src : Source α) (h : SrcOK src) : ∃ r, build src = some r ∧ Built src r := by
  cases src with
  | flat files off isz nch dtype rate =>
    obtain ⟨hne, hisz, hnch, hfs, hr⟩ := h
    have hsizes : (files.map fun f => memmapRows f.fsize off isz nch) =
        (files.map (·.rows)).map List.length := by
      rw [List.map_map]
      apply List.map_congr_left
      intro f hf
      rw [hfs f hf]
      exact memmapRows_exact off isz nch _ hisz hnch
    obtain ⟨cb, hcb, hlast⟩ := readerChunkBoundsFl_last ((files.map (·.rows)).map List.length) rate
      (fun h => hne (List.map_eq_nil_iff.1 (List.map_eq_nil_iff.1 h))) hr
    have hshort : ¬ files.any (fun f => decide (f.fsize < off)) = true := by
      simp only [List.any_eq_true, decide_eq_true_eq, not_exists, not_and]
      intro f hf
      rw [hfs f hf]
      omega
    have hb : build (.flat files off isz nch dtype rate) = some ⟨.flat, files.map (·.rows),
        C16.partBounds ((files.map (·.rows)).map List.length), cb, nch, dtype, rate⟩ := by
      unfold build
      simp only []
      rw [if_neg (mt List.isEmpty_iff.1 hne), if_neg (Nat.ne_of_gt hnch), if_neg hshort, hsizes, hcb]
    refine ⟨_, hb, rfl, ?_, rfl, rfl, rfl, ne_of_gt (rate_pos hr), partBounds_eq _, rfl⟩
    rw [Reader.nSamples, hlast, ← List.length_flatten]; rfl
  | array a rate => exact buildArray_built a rate h (.array a rate) rfl rfl rfl rfl
  | npy paths rate =>
    obtain ⟨hlen, hr⟩ := h
    obtain ⟨a, rfl⟩ := List.length_eq_one_iff.1 hlen
    exact buildArray_built a rate hr (.npy [a] rate) (by simp [Source.concat]) rfl rfl rfl
  | cbin readers =>
    obtain ⟨hlen, hmd⟩ := h
    obtain ⟨⟨m, d⟩, rfl⟩ := List.length_eq_one_iff.1 hlen
    obtain ⟨hl, hrate⟩ := hmd (m, d) (List.mem_singleton.2 rfl)
    simp only at hl hrate
    refine ⟨_, by unfold build; simp only [hl]; rfl, ?_⟩
    refine ⟨rfl, ?_, rfl, rfl, rfl, hrate, ?_, ?_⟩
    · simp [Reader.nSamples, hl, Source.concat]
    · simp [bounds, boundsFrom]
    · simp [Source.concat]

theorem built_of_build {α : Type} (src : Source α) (h : SrcOK src) (r : Reader α)
    (hr : build src = some r) : Built src r := by
  obtain ⟨r', hr', b⟩ := build_built src h
  cases hr.symm.trans hr'
  exact b

/-- `1/2 + 2^-54`, the lower bound of `RateOK`: at or below it the float-product chunk length is not positive -/
theorem chunkSizeFl_nonpos {rate : Rat} (h : 600 * rate ≤ 1/2 + 1/18014398509481984) :
    C16.chunkSizeFl rate ≤ 0 :=
  not_lt.1 ((C16.Lemmas.chunkSizeFl_pos_iff_rate rate).not.2 (not_lt.2 h))

theorem buildArray_none {α : Type} (be : Backend) (a : Arr α) (rate : Rat)
    (h : 600 * rate ≤ 1/2 + 1/18014398509481984) : buildArray be a rate = none := by
  unfold buildArray
  simp only [C16.Lemmas.readerChunkBoundsFl_none _ rate (chunkSizeFl_nonpos h), ite_self]

theorem build_none_of_rate {α : Type} (src : Source α) (hbe : src.backend ≠ .cbin)
    (h : 600 * src.rate ≤ 1/2 + 1/18014398509481984) : build src = none := by
  cases src with
  | flat files off isz nch dtype rate =>
    unfold build
    simp only [C16.Lemmas.readerChunkBoundsFl_none _ rate (chunkSizeFl_nonpos h), ite_self]
  | array a rate => exact buildArray_none .array a rate h
  | npy paths rate =>
    match paths with
    | [a] => exact buildArray_none .npy a rate h
    | [] => rfl
    | _ :: _ :: _ => rfl
  | cbin readers => exact absurd rfl hbe

theorem attrs_of_built {α : Type} {src : Source α} {r : Reader α} (b : Built src r) :
    r.backend = src.backend ∧
    r.nSamples = some src.concat.length ∧
    r.shape = some (src.concat.length, src.width) ∧
    r.nChannels = src.width ∧ r.dtype = src.dtype ∧
    r.duration = some ((src.concat.length : Rat) / src.rate) ∧
    r.partBounds = bounds r.store ∧ r.store.flatten = src.concat := by
  refine ⟨b.backend, b.nSamples, ?_, b.nChannels, b.dtype, ?_, b.partBounds, b.store⟩
  · rw [Reader.shape, b.nSamples, b.nChannels]; rfl
  · rw [Reader.duration, b.nSamples, Option.bind_some, if_neg b.rate_ne, b.rate]

/-- within `[-w, w)` no entry is dropped by the `filterMap` of `selCols` -/
theorem selCols_idx {β : Type} (l : List Int) (row : List β)
    (hl : ∀ i ∈ l, -(row.length : Int) ≤ i ∧ i < row.length) (d : β) :
    selCols (.idx l) row =
      l.map fun i => (row[(if i < 0 then i + (row.length : Int) else i).toNat]?).getD d := by
  unfold selCols
  simp only []
  rw [← List.filterMap_eq_map']
  apply List.filterMap_congr
  intro i hi
  rw [List.getElem?_eq_getElem (wrapIdx_spec (hl i hi).1 (hl i hi).2).2]
  rfl

/-- for a non-empty list of valid samples the chunk loop of the list branch has a first chunk -/
theorem listChunks_some {α : Type} (parts : List (List α)) (l : List Nat) (hne : l ≠ [])
    (hlt : ∀ x ∈ l, x < parts.flatten.length) :
    ∃ c cs, listChunks (bounds parts) l = some (c :: cs) := by
  obtain ⟨_, hmem⟩ := unique_ofNat_spec (fun x => ssRight (bounds parts) x - 1) l
  have hall : listChunks (bounds parts) l =
      some ((Np.unique (l.map fun x => Int.ofNat (ssRight (bounds parts) x - 1))).map id) := by
    apply Np.Lemmas.mapM_option_eq_some
    intro c hc
    obtain ⟨x, hx, rfl⟩ := (hmem c).1 hc
    obtain ⟨hc, _, _⟩ := chunk_spec parts x (hlt x hx)
    rw [if_neg (bounds_length_not_le parts hc)]; rfl
  obtain ⟨x, hx⟩ := List.exists_mem_of_ne_nil l hne
  obtain ⟨c, cs, hU⟩ := List.exists_cons_of_ne_nil (List.ne_nil_of_mem ((hmem _).2 ⟨x, hx, rfl⟩))
  exact ⟨c, cs, by rw [hall, List.map_id, hU]⟩

theorem getRowsB_eq {α : Type} {src : Source α} {r : Reader α} (b : Built src r) (it : Item)
    (hd : InDom src.concat.length it) (hoff : src.backend = .cbin → it.isList = false) :
    ∃ rows, npRows src.concat it = some rows ∧ rows ≠ [] ∧ getRowsB r it = .ok rows := by
  obtain ⟨rows, hrows, hne⟩ := npRows_some src.concat it hd
  refine ⟨rows, hrows, hne, ?_⟩
  rw [← b.store] at hd hrows
  have hW : getRowsW r.partBounds r.store it = some rows := by
    rw [b.partBounds, getRowsW_bounds, getRows_eq_concat' r.store it hd, hrows]
  rw [← b.backend] at hoff
  -- `getRowsB` is `getRowsW` except for an index list on the compressed backend, which `hoff` excludes
  unfold getRowsB
  cases hbe : r.backend <;> cases it <;> simp only [hW]
  exact absurd (hoff hbe) (by simp [Item.isList])

theorem getRowsB_cbin_list {α : Type} {src : Source α} {r : Reader α} (b : Built src r)
    (hbe : src.backend = .cbin) (l : List Int) (hd : InDom src.concat.length (.list l)) :
    getRowsB r (.list l) = .refused := by
  rw [← b.store] at hd
  obtain ⟨h1, h2, _, h4⟩ := inDom_list hd
  obtain ⟨c, cs, hc⟩ := listChunks_some r.store (l.map Int.toNat) (by simpa using hd.1) h4
  unfold getRowsB
  simp only [b.backend, hbe]
  rw [if_neg h1, if_neg h2, b.partBounds, hc]

theorem getItemB_sound {β : Type} {src : Source (List β)} {r : Reader (List β)} (b : Built src r) (it : Item)
    (hd : InDom src.concat.length it) (c : ColSel) (v : List (List β)) (hv : getItemB r it c = .ok v) :
    ∃ rows, npRows src.concat it = some rows ∧ v = rows.map (selCols c) := by
  unfold getItemB at hv
  by_cases hoff : src.backend = .cbin → it.isList = false
  · obtain ⟨rows, h1, _, h3⟩ := getRowsB_eq b it hd hoff
    rw [h3] at hv
    exact ⟨rows, h1, by cases hv; rfl⟩
  · -- an index list on a compressed file: refused, so there is no answer
    rw [Decidable.not_imp_iff_and_not] at hoff
    cases it with
    | list l =>
      rw [getRowsB_cbin_list b hoff.1 l hd] at hv
      cases hv
    | int i => exact absurd rfl hoff.2
    | slice s e => exact absurd rfl hoff.2

end PhyVerif.C01.Lemmas
