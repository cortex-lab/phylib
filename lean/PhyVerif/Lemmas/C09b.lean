import PhyVerif.Model.C09b
import PhyVerif.Spec.C09b
import PhyVerif.Lemmas.C09
import Mathlib.Algebra.Order.Ring.Abs
import Mathlib.Algebra.Order.Field.Basic
import Mathlib.Algebra.BigOperators.Group.List.Basic
/-! Proofs about `Model/C09b.lean` in the entry-level terms of `Spec/C09b.lean`: the rescaled waveforms and the
unit factor, peak-to-peak / peak channel / peak amplitude, durations in ms, and the algebra of `sumTo` with the
matrix product and the weighted depth written as finite sums. -/
namespace PhyVerif.C09.Lemmas
open PhyVerif PhyVerif.C09

/-! ### scaling a waveform by any factor -/

theorem getD_map_mul (w : List Rat) (f : Rat) (i : Nat) : (w.map (· * f)).getD i 0 = w.getD i 0 * f :=
  Np.Lemmas.getD_map _ w i 0 0 (zero_mul f)

theorem getD_map_optmap {α : Type} (l : List (Option α)) (g : α → α) (t : Nat) :
    (l.map fun o => o.map g).getD t none = (l.getD t none).map g :=
  Np.Lemmas.getD_map _ l t none none rfl

theorem ptp_scale_abs (v : List Rat) (c : Rat) : ptp (v.map (· * c)) = ptp v * |c| := by
  rcases le_total 0 c with hc | hc
  · rw [abs_of_nonneg hc]
    exact ptp_scale v c hc
  · unfold ptp
    rw [abs_of_nonpos hc, listMax_map_mul_nonpos v c hc, listMin_map_mul_nonpos v c hc]
    ring

theorem ncols_scaleMat (U : Mat) (c : Rat) : ncols (scaleMat U c) = ncols U := by
  cases U with
  | nil => rfl
  | cons r U => exact List.length_map _

theorem col_scaleMat (U : Mat) (c : Rat) (j : Nat) : col (scaleMat U c) j = (col U j).map (· * c) := by
  simp only [col, scaleMat, List.map_map, Function.comp_def, getD_map_mul]

theorem chAmps_scale_abs (U : Mat) (c : Rat) : chAmps (scaleMat U c) = (chAmps U).map (· * |c|) := by
  simp only [chAmps, ncols_scaleMat, col_scaleMat, ptp_scale_abs, List.map_map, Function.comp_def]

theorem peak_scale_abs (U : Mat) (c : Rat) :
    listMax (chAmps (scaleMat U c)) = listMax (chAmps U) * |c| := by
  rw [chAmps_scale_abs, listMax_map_mul _ _ (abs_nonneg c)]

theorem scaleMat_scaleMat (U : Mat) (a b : Rat) : scaleMat (scaleMat U a) b = scaleMat U (a * b) := by
  simp [scaleMat]

theorem rect_scaleMat (W : Mat) (ns nc : Nat) (c : Rat) (h : Rect W ns nc) : Rect (scaleMat W c) ns nc := by
  refine ⟨(List.length_map _).trans h.1, fun row hrow => ?_⟩
  obtain ⟨r, hr, rfl⟩ := List.mem_map.mp hrow
  exact (List.length_map _).trans (h.2 r hr)

theorem entry_scaleMat (W : Mat) (c : Rat) (s j : Nat) : entry (scaleMat W c) s j = entry W s j * c := by
  unfold entry scaleMat
  rw [Np.Lemmas.getD_map _ W s [] [] rfl, getD_map_mul]

/-! ### the rescaled waveform and the unit factor -/

theorem rescaled_getD (d : Data) (t : Nat) (ht : t < d.wfsW.length) :
    (rescaled d).getD t none =
      match (ampsV d).getD t none with
      | none => none
      | some v =>
        if (ampsAu d).getD t 0 = 0 then none
        else some (((unwhitened d).getD t []).map fun row =>
          row.map (· * (v / (ampsAu d).getD t 0))) := by
  have hA : t < (ampsAu d).length := (ampsAu_length d).symm ▸ ht
  have hV : t < (ampsV d).length := (ampsV_length d).symm ▸ ht
  unfold rescaled
  rw [Np.Lemmas.getD_map_zip _ _ _ t [] (none, 0) none ((unwhitened_length d).symm ▸ ht)
      (List.length_zip ▸ Nat.lt_min.mpr ⟨hV, hA⟩), Np.Lemmas.getD_zip _ _ t none 0 hV hA]
  rfl

theorem rescaled_length (d : Data) : (rescaled d).length = d.wfsW.length := by
  rw [rescaled, List.length_map, List.length_zip, List.length_zip, unwhitened_length, ampsV_length, ampsAu_length,
    Nat.min_self, Nat.min_self]

theorem peak_rescaled (d : Data) (t : Nat) (v : Rat) (hau : 0 < (ampsAu d).getD t 0) :
    listMax (chAmps (scaleMat ((unwhitened d).getD t []) (v / (ampsAu d).getD t 0))) = |v| := by
  rw [peak_scale_abs, ← ampsAu_getD, abs_div, abs_of_pos hau]
  exact mul_div_cancel₀ _ (ne_of_gt hau)

theorem rescaled_some (d : Data) (t : Nat) (ht : t < d.wfsW.length) (v : Rat)
    (hv : (ampsV d).getD t none = some v) (hau : (ampsAu d).getD t 0 ≠ 0) :
    (rescaled d).getD t none = some (scaleMat ((unwhitened d).getD t []) (v / (ampsAu d).getD t 0)) := by
  rw [rescaled_getD d t ht, hv]
  exact if_neg hau

-- `ha`, `hrect`, `hcols` say on which arrays the real code has a result; the proof needs none of them
set_option linter.unusedVariables false in
theorem rescaled_peak (d : Data) (ha : d.amplitudes.length = d.spikes.length)
    (hnn : ∀ a ∈ d.amplitudes, 0 ≤ a) (t : Nat) (ht : t < d.wfsW.length) (v : Rat)
    (hv : (ampsV d).getD t none = some v) (hau : 0 < (ampsAu d).getD t 0)
    (hrect : ∀ row ∈ (unwhitened d).getD t [], row.length = ncols ((unwhitened d).getD t []))
    (hcols : 0 < ncols ((unwhitened d).getD t [])) :
    ∃ W, (rescaled d).getD t none = some W ∧ listMax (chAmps W) = v :=
  ⟨_, rescaled_some d t ht v hv (ne_of_gt hau),
    (peak_rescaled d t v hau).trans (abs_of_nonneg (ampsV_nonneg d hnn t ht v hv))⟩

theorem sum_map_mul_right (m : List Nat) (g : Nat → Rat) (f : Rat) :
    (m.map fun i => g i * f).sum = (m.map g).sum * f := by
  induction m with
  | nil => exact (zero_mul f).symm
  | cons a m ih => rw [List.map_cons, List.sum_cons, ih, List.map_cons, List.sum_cons, add_mul]

theorem meanOver_scale (s : List Nat) (w : List Rat) (f : Rat) (t : Nat) :
    meanOver s (w.map (· * f)) t = (meanOver s w t).map (· * f) := by
  unfold meanOver
  simp only [getD_map_mul, sum_map_mul_right]
  split
  · rfl
  · simp only [Option.map_some]
    congr 1
    ring

theorem spikeAmpsUnit_length (d : Data) (f : Rat) (ha : d.amplitudes.length = d.spikes.length) :
    (spikeAmpsUnit d f).length = d.spikes.length :=
  (List.length_map _).trans (spikeAmps_length d ha)

theorem spikeAmpUnit_eq (d : Data) (f : Rat) (i : Nat) (hi : i < d.spikes.length)
    (ha : d.amplitudes.length = d.spikes.length) (hs : d.spikes.getD i 0 < d.wfsW.length) :
    (spikeAmpsUnit d f).getD i 0 =
      d.amplitudes.getD i 0 *
        listMax (chAmps (matMul (d.wfsW.getD (d.spikes.getD i 0) []) d.wmi)) * f ∧
    (spikeAmpsUnit d f).length = d.spikes.length := by
  refine ⟨?_, spikeAmpsUnit_length d f ha⟩
  unfold spikeAmpsUnit
  rw [getD_map_mul]
  rcases spikeAmp_eq d i hi ha with h | h
  · rw [h, mul_comm (d.amplitudes.getD i 0)]
  · exact absurd hs (Nat.not_lt.mpr h)

theorem ampsVUnit_length (d : Data) (f : Rat) : (ampsVUnit d f).length = d.wfsW.length :=
  (List.length_map _).trans (ampsV_length d)

theorem ampsVUnit_eq_mean (d : Data) (f : Rat) (ha : d.amplitudes.length = d.spikes.length) (t : Nat)
    (ht : t < d.wfsW.length) :
    (ampsVUnit d f).getD t none = meanOver d.spikes (spikeAmpsUnit d f) t ∧
    (ampsVUnit d f).length = d.wfsW.length := by
  refine ⟨?_, ampsVUnit_length d f⟩
  unfold ampsVUnit spikeAmpsUnit
  rw [getD_map_optmap, (ampsV_eq_mean d ha t ht).1, meanOver_scale]

theorem rescaledUnit_length (d : Data) (f : Rat) : (rescaledUnit d f).length = d.wfsW.length :=
  (List.length_map _).trans (rescaled_length d)

theorem rescaledUnit_getD (d : Data) (f : Rat) (t : Nat) :
    (rescaledUnit d f).getD t none = ((rescaled d).getD t none).map fun W => scaleMat W f :=
  Np.Lemmas.getD_map _ _ t none none rfl

theorem ampsVUnit_some (d : Data) (f : Rat) (t : Nat) (v : Rat) (hv : (ampsVUnit d f).getD t none = some v) :
    ∃ v0, (ampsV d).getD t none = some v0 ∧ v0 * f = v := by
  unfold ampsVUnit at hv
  rw [getD_map_optmap] at hv
  exact Option.map_eq_some_iff.mp hv

theorem ampsVUnit_nonneg (d : Data) (f : Rat) (hnn : ∀ a ∈ d.amplitudes, 0 ≤ a) (hf : 0 ≤ f) (t : Nat)
    (ht : t < d.wfsW.length) (v : Rat) (hv : (ampsVUnit d f).getD t none = some v) : 0 ≤ v := by
  obtain ⟨v0, hv0, rfl⟩ := ampsVUnit_some d f t v hv
  exact mul_nonneg (ampsV_nonneg d hnn t ht v0 hv0) hf

theorem ampsVUnit_nonpos (d : Data) (f : Rat) (hnn : ∀ a ∈ d.amplitudes, 0 ≤ a) (hf : f ≤ 0) (t : Nat)
    (ht : t < d.wfsW.length) (v : Rat) (hv : (ampsVUnit d f).getD t none = some v) : v ≤ 0 := by
  obtain ⟨v0, hv0, rfl⟩ := ampsVUnit_some d f t v hv
  exact mul_nonpos_of_nonneg_of_nonpos (ampsV_nonneg d hnn t ht v0 hv0) hf

theorem rescaledUnit_some (d : Data) (f : Rat) (t : Nat) (ht : t < d.wfsW.length) (v : Rat)
    (hv : (ampsVUnit d f).getD t none = some v) (hau : (ampsAu d).getD t 0 ≠ 0) :
    (rescaledUnit d f).getD t none =
      some (scaleMat ((unwhitened d).getD t []) (v / (ampsAu d).getD t 0)) := by
  obtain ⟨v0, hv0, rfl⟩ := ampsVUnit_some d f t v hv
  rw [rescaledUnit_getD, rescaled_some d t ht v0 hv0 hau, Option.map_some, scaleMat_scaleMat,
    div_mul_eq_mul_div]

/-- The returned (unit-scaled) waveform of an id with spikes has as peak amplitude the ABSOLUTE VALUE of
the returned per-id amplitude — no sign condition on amplitudes or factor. -/
theorem rescaledUnit_peak_abs (d : Data) (f : Rat) (t : Nat) (ht : t < d.wfsW.length) (v : Rat)
    (hv : (ampsVUnit d f).getD t none = some v) (hau : 0 < (ampsAu d).getD t 0) :
    ∃ W, (rescaledUnit d f).getD t none = some W ∧ listMax (chAmps W) = |v| :=
  ⟨_, rescaledUnit_some d f t ht v hv (ne_of_gt hau), peak_rescaled d t v hau⟩

/-! ### peak-to-peak, peak channel, peak amplitude: entry-level characterisations -/

/-- `W` is the list of its rows `W.getD s []` -/
theorem col_eq_chan (W : Mat) (j : Nat) : col W j = chan W j :=
  (congrArg (List.map fun row : List Rat => row.getD j 0) (Np.Lemmas.map_getD_range W [])).symm.trans List.map_map

theorem col_getD (W : Mat) (j s : Nat) (hs : s < W.length) : (col W j).getD s 0 = entry W s j :=
  Np.Lemmas.getD_map_of_lt _ W s [] 0 hs

theorem col_ne_nil (W : Mat) (j : Nat) (hW : W ≠ []) : col W j ≠ [] :=
  List.ne_nil_of_length_pos ((col_length W j).symm ▸ List.length_pos_iff.mpr hW)

theorem chan_ne_nil (W : Mat) (j : Nat) (hW : W ≠ []) : chan W j ≠ [] :=
  col_eq_chan W j ▸ col_ne_nil W j hW

theorem ptp_isPtp (W : Mat) (j : Nat) (hW : W ≠ []) : IsPtp W j (ptp (col W j)) := by
  have hne := col_ne_nil W j hW
  obtain ⟨a1, a2, _⟩ := argmaxFirst_spec (col W j) hne
  obtain ⟨b1, b2, _⟩ := argminFirst_spec (col W j) hne
  rw [col_length] at a1 a2 b1 b2
  refine ⟨_, _, a1, b1, fun s hs => ?_, fun s hs => ?_, ?_⟩
  · rw [← col_getD W j s hs, ← col_getD W j _ a1]
    exact a2 s hs
  · rw [← col_getD W j s hs, ← col_getD W j _ b1]
    exact b2 s hs
  · rw [← col_getD W j _ a1, ← col_getD W j _ b1, getD_argmax, getD_argmin]
    rfl

theorem isPtp_unique (W : Mat) (j : Nat) (a b : Rat) (ha : IsPtp W j a) (hb : IsPtp W j b) : a = b := by
  obtain ⟨s1, s2, hs1, hs2, hM, hm, rfl⟩ := ha
  obtain ⟨r1, r2, hr1, hr2, hM', hm', rfl⟩ := hb
  have e1 : entry W s1 j = entry W r1 j := le_antisymm (hM' s1 hs1) (hM r1 hr1)
  have e2 : entry W s2 j = entry W r2 j := le_antisymm (hm r2 hr2) (hm' s2 hs2)
  rw [e1, e2]

theorem isPtp_eq (W : Mat) (j : Nat) (b : Rat) (hW : W ≠ []) (hb : IsPtp W j b) : b = ptp (col W j) :=
  isPtp_unique W j b _ hb (ptp_isPtp W j hW)

theorem ncols_of_rect (W : Mat) (ns nc : Nat) (h : Rect W ns nc) (hns : 0 < ns) : ncols W = nc := by
  obtain ⟨hl, hr⟩ := h
  cases W with
  | nil => exact absurd hns (hl ▸ Nat.lt_irrefl 0)
  | cons r W => exact hr r List.mem_cons_self

theorem ne_nil_of_rect (W : Mat) (ns nc : Nat) (h : Rect W ns nc) (hns : 0 < ns) : W ≠ [] :=
  List.ne_nil_of_length_pos (h.1 ▸ hns)

theorem chAmps_ne_nil (W : Mat) (h : 0 < ncols W) : chAmps W ≠ [] :=
  List.ne_nil_of_length_pos ((chAmps_length W).symm ▸ h)

/-- `np.argmax(tmp.max(axis=0) - tmp.min(axis=0))` of one rectangular waveform is its peak channel -/
theorem peakChannel_spec (W : Mat) (ns nc : Nat) (h : Rect W ns nc) (hns : 0 < ns) (hnc : 0 < nc) :
    IsPeakChannel W nc (argmaxFirst (chAmps W)) := by
  have hW := ne_nil_of_rect W ns nc h hns
  obtain rfl := ncols_of_rect W ns nc h hns
  obtain ⟨h1, h2, h3⟩ := argmaxFirst_spec (chAmps W) (chAmps_ne_nil W hnc)
  rw [chAmps_length] at h1 h2
  refine ⟨h1, _, ptp_isPtp W _ hW, fun j b hj hb => ?_, fun j b hj hb => ?_⟩
  · rw [isPtp_eq W j b hW hb, ← chAmps_getD W j hj, ← chAmps_getD W _ h1]
    exact h2 j hj
  · rw [isPtp_eq W j b hW hb, ← chAmps_getD W j (hj.trans h1), ← chAmps_getD W _ h1]
    exact h3 j hj

theorem peakChannels_getD (wfs : List Mat) (t : Nat) (ht : t < wfs.length) :
    (peakChannels wfs).getD t 0 = argmaxFirst (chAmps (wfs.getD t [])) :=
  Np.Lemmas.getD_map_of_lt _ wfs t [] 0 ht

theorem peakChannels_spec (wfs : List Mat) (t ns nc : Nat) (ht : t < wfs.length)
    (hrect : Rect (wfs.getD t []) ns nc) (hns : 0 < ns) (hnc : 0 < nc) :
    IsPeakChannel (wfs.getD t []) nc ((peakChannels wfs).getD t 0) ∧
    (peakChannels wfs).length = wfs.length := by
  refine ⟨?_, List.length_map _⟩
  rw [peakChannels_getD wfs t ht]
  exact peakChannel_spec _ ns nc hrect hns hnc

theorem peakAmp_spec (W : Mat) (ns nc : Nat) (h : Rect W ns nc) (hns : 0 < ns) (hnc : 0 < nc) :
    IsPeakAmp W nc (listMax (chAmps W)) := by
  have hW := ne_nil_of_rect W ns nc h hns
  obtain ⟨hp, a, ha, hb, _⟩ := peakChannel_spec W ns nc h hns hnc
  have hmax : listMax (chAmps W) = a := by
    rw [← getD_argmax, chAmps_getD W _ ((ncols_of_rect W ns nc h hns).symm ▸ hp)]
    exact (isPtp_eq W _ a hW ha).symm
  rw [hmax]
  exact ⟨⟨_, hp, ha⟩, hb⟩

/-! ### durations in milliseconds -/

theorem durTable_getD (wfs : List Mat) (t : Nat) (ht : t < wfs.length) :
    (durTable wfs).getD t [] =
      (List.range (ncols (wfs.getD t []))).map fun j =>
        (argmaxFirst (col (wfs.getD t []) j) : Int) - (argminFirst (col (wfs.getD t []) j) : Int) :=
  Np.Lemmas.getD_map_of_lt _ wfs t [] [] ht

theorem durations_getD (wfs : List Mat) (t : Nat) (ht : t < wfs.length) :
    (durations wfs).getD t 0 =
      (argmaxFirst (col (wfs.getD t []) (argmaxFirst (chAmps (wfs.getD t [])))) : Int) -
      (argminFirst (col (wfs.getD t []) (argmaxFirst (chAmps (wfs.getD t [])))) : Int) :=
  Np.Lemmas.getD_map_of_lt _ wfs t [] 0 ht

theorem ravelIndex_length (nc : Nat) (peaks : List Nat) : (ravelIndex nc peaks).length = peaks.length :=
  (List.length_map _).trans List.length_zipIdx

theorem ravelIndex_getD (nc : Nat) (peaks : List Nat) (t : Nat) (ht : t < peaks.length) :
    (ravelIndex nc peaks).getD t 0 = t * nc + peaks.getD t 0 :=
  Np.Lemmas.getD_map_zipIdx _ peaks t 0 0 ht

/-- the flat-index route of `_waveform_durations` picks, for waveform `t`, the entry of the peak
channel — provided all waveforms have the same rectangular shape (they are slices of one array) -/
theorem waveformDurations_getD (wfs : List Mat) (rate : Rat) (ns nc : Nat) (hns : 0 < ns) (hnc : 0 < nc)
    (hrect : ∀ W ∈ wfs, Rect W ns nc) (t : Nat) (ht : t < wfs.length) :
    (waveformDurations wfs rate).getD t 0 = (((durations wfs).getD t 0 : Int) : Rat) / rate * 1000 := by
  have hWt : Rect (wfs.getD t []) ns nc := hrect _ (Np.Lemmas.getD_mem wfs t [] ht)
  have hhead : ncols (wfs.headD []) = nc := by
    rw [List.headD_eq_getD]
    exact ncols_of_rect _ ns nc (hrect _ (Np.Lemmas.getD_mem wfs 0 [] (Nat.zero_lt_of_lt ht))) hns
  have hp : (peakChannels wfs).getD t 0 < nc := (peakChannels_spec wfs t ns nc ht hWt hns hnc).1.1
  have hp' : (peakChannels wfs).getD t 0 < ncols (wfs.getD t []) := (ncols_of_rect _ ns nc hWt hns).symm ▸ hp
  have hpl : t < (peakChannels wfs).length := (List.length_map _).symm ▸ ht
  have hrows : ∀ r ∈ durTable wfs, r.length = nc := by
    intro r hr
    obtain ⟨W, hW, rfl⟩ := List.mem_map.mp hr
    rw [List.length_map, List.length_range]
    exact ncols_of_rect _ ns nc (hrect W hW) hns
  unfold waveformDurations
  simp only [hhead]
  rw [Np.Lemmas.getD_map_of_lt _ _ t 0 0 ((ravelIndex_length ..).symm ▸ hpl), ravelIndex_getD nc _ t hpl,
    Np.Lemmas.flatten_uniform_getD 0 nc _ t _ hrows hp, durTable_getD wfs t ht,
    Np.Lemmas.getD_map_range _ _ _ 0 hp', peakChannels_getD wfs t ht, durations_getD wfs t ht]

/-- of two first positions of the maximum the later one has the earlier one strictly below it -/
theorem firstMax_unique {α : Type} [LinearOrder α] (f : Nat → α) (n i j : Nat)
    (hi : i < n ∧ (∀ k, k < n → f k ≤ f i) ∧ ∀ k, k < i → f k < f i)
    (hj : j < n ∧ (∀ k, k < n → f k ≤ f j) ∧ ∀ k, k < j → f k < f j) : i = j := by
  obtain ⟨i1, i2, i3⟩ := hi
  obtain ⟨j1, j2, j3⟩ := hj
  rcases Nat.lt_trichotomy i j with h | h | h
  · exact absurd (j3 i h) (not_lt.mpr (i2 j j1))
  · exact h
  · exact absurd (i3 j h) (not_lt.mpr (j2 i i1))

theorem isFirstMax_unique (l : List Rat) (i j : Nat) (hi : IsFirstMax l i) (hj : IsFirstMax l j) : i = j :=
  firstMax_unique (fun k => l.getD k 0) l.length i j hi hj

theorem isFirstMin_unique (l : List Rat) (i j : Nat) (hi : IsFirstMin l i) (hj : IsFirstMin l j) : i = j :=
  firstMax_unique (α := Ratᵒᵈ) (fun k => l.getD k 0) l.length i j hi hj

theorem isPeakChannel_unique (W : Mat) (nc p q : Nat) (hp : IsPeakChannel W nc p)
    (hq : IsPeakChannel W nc q) : p = q := by
  obtain ⟨p1, a, pa, p2, p3⟩ := hp
  obtain ⟨q1, b, qb, q2, q3⟩ := hq
  rcases Nat.lt_trichotomy p q with h | h | h
  · exact absurd (q3 p a h pa) (not_lt.mpr (p2 q b q1 qb))
  · exact h
  · exact absurd (p3 q b h qb) (not_lt.mpr (q2 p a p1 pa))

theorem duration_ms_spec (wfs : List Mat) (rate : Rat) (ns nc : Nat) (hns : 0 < ns) (hnc : 0 < nc)
    (hrect : ∀ W ∈ wfs, Rect W ns nc) (t : Nat) (ht : t < wfs.length) (p iM im : Nat)
    (hp : IsPeakChannel (wfs.getD t []) nc p) (hM : IsFirstMax (chan (wfs.getD t []) p) iM)
    (hm : IsFirstMin (chan (wfs.getD t []) p) im) :
    (waveformDurations wfs rate).getD t 0 = (((iM : Int) - (im : Int) : Int) : Rat) * 1000 / rate := by
  have hWt : Rect (wfs.getD t []) ns nc := hrect _ (Np.Lemmas.getD_mem wfs t [] ht)
  have hne := chan_ne_nil _ p (ne_nil_of_rect _ ns nc hWt hns)
  -- the model's peak channel, arg-max and arg-min are the given ones: each is unique
  rw [waveformDurations_getD wfs rate ns nc hns hnc hrect t ht, durations_getD wfs t ht,
    isPeakChannel_unique _ nc _ _ (peakChannel_spec _ ns nc hWt hns hnc) hp, col_eq_chan,
    isFirstMax_unique _ _ _ (argmaxFirst_spec _ hne) hM, isFirstMin_unique _ _ _ (argminFirst_spec _ hne) hm,
    div_mul_eq_mul_div]

theorem duration_objects_exist (W : Mat) (ns nc : Nat) (h : Rect W ns nc) (hns : 0 < ns) (hnc : 0 < nc) :
    ∃ p iM im, IsPeakChannel W nc p ∧ IsFirstMax (chan W p) iM ∧ IsFirstMin (chan W p) im :=
  have hne := chan_ne_nil W _ (ne_nil_of_rect W ns nc h hns)
  ⟨_, _, _, peakChannel_spec W ns nc h hns hnc, argmaxFirst_spec _ hne, argminFirst_spec _ hne⟩

theorem waveformDurations_length (wfs : List Mat) (rate : Rat) :
    (waveformDurations wfs rate).length = wfs.length :=
  (List.length_map _).trans ((ravelIndex_length ..).trans (List.length_map _))

/-! ### the rescaled templates in entry-level terms -/

theorem rescaledUnit_peak_full (d : Data) (f : Rat) (t : Nat) (ht : t < d.wfsW.length) (v : Rat)
    (hv : (ampsVUnit d f).getD t none = some v) (hau : 0 < (ampsAu d).getD t 0) (ns nc : Nat)
    (hns : 0 < ns) (hnc : 0 < nc) (hrect : Rect ((unwhitened d).getD t []) ns nc) :
    ∃ W, (rescaledUnit d f).getD t none = some W ∧ Rect W ns nc ∧ IsPeakAmp W nc |v| ∧
      ∀ s j, entry W s j = entry ((unwhitened d).getD t []) s j * (v / (ampsAu d).getD t 0) := by
  have hR := rect_scaleMat _ ns nc (v / (ampsAu d).getD t 0) hrect
  refine ⟨_, rescaledUnit_some d f t ht v hv (ne_of_gt hau), hR, ?_, entry_scaleMat _ _⟩
  rw [← peak_rescaled d t v hau]
  exact peakAmp_spec _ ns nc hR hns hnc

theorem rescaledUnit_peak_nonneg (d : Data) (f : Rat) (hnn : ∀ a ∈ d.amplitudes, 0 ≤ a) (hf : 0 ≤ f)
    (t : Nat) (ht : t < d.wfsW.length) (v : Rat)
    (hv : (ampsVUnit d f).getD t none = some v) (hau : 0 < (ampsAu d).getD t 0) (ns nc : Nat)
    (hns : 0 < ns) (hnc : 0 < nc) (hrect : Rect ((unwhitened d).getD t []) ns nc) :
    ∃ W, (rescaledUnit d f).getD t none = some W ∧ Rect W ns nc ∧ IsPeakAmp W nc v ∧
      ∀ s j, entry W s j = entry ((unwhitened d).getD t []) s j * (v / (ampsAu d).getD t 0) := by
  have := rescaledUnit_peak_full d f t ht v hv hau ns nc hns hnc hrect
  rwa [abs_of_nonneg (ampsVUnit_nonneg d f hnn hf t ht v hv)] at this

/-! ### matrix product and weighted depth as explicit finite sums -/

theorem sumTo_congr (n : Nat) (a b : Nat → Rat) (h : ∀ k, k < n → a k = b k) : sumTo n a = sumTo n b := by
  unfold sumTo
  congr 1
  apply List.map_congr_left
  intro k hk
  exact h k (List.mem_range.mp hk)

theorem sumTo_zero (a : Nat → Rat) : sumTo 0 a = 0 := rfl

theorem sumTo_succ (n : Nat) (a : Nat → Rat) : sumTo (n + 1) a = sumTo n a + a n :=
  List.sum_range_succ a n

theorem sumTo_add (n : Nat) (a b : Nat → Rat) : sumTo n (fun k => a k + b k) = sumTo n a + sumTo n b :=
  List.sum_map_add

theorem sumTo_mul_right (n : Nat) (a : Nat → Rat) (c : Rat) : sumTo n (fun k => a k * c) = sumTo n a * c :=
  sum_map_mul_right (List.range n) a c

theorem sumTo_mul_left (n : Nat) (a : Nat → Rat) (c : Rat) : sumTo n (fun k => c * a k) = c * sumTo n a := by
  simp only [mul_comm c, sumTo_mul_right]

theorem sumTo_comm (n m : Nat) (a : Nat → Nat → Rat) :
    sumTo n (fun k => sumTo m fun l => a l k) = sumTo m fun l => sumTo n fun k => a l k := by
  induction n with
  | zero => exact List.sum_map_zero.symm
  | succ n ih =>
    rw [sumTo_succ, ih, ← sumTo_add]
    apply sumTo_congr
    intro l _
    rw [sumTo_succ]

theorem sumTo_indicator (n j : Nat) (hj : j < n) (a : Nat → Rat) :
    sumTo n (fun l => a l * (if l = j then 1 else 0)) = a j := by
  induction n with
  | zero => omega
  | succ n ih =>
    rw [sumTo_succ]
    rcases Nat.lt_succ_iff_lt_or_eq.mp hj with h | rfl
    · rw [ih h, if_neg (Nat.ne_of_gt h), mul_zero, add_zero]
    · rw [sumTo_congr j _ (fun _ => 0) fun k hk => by rw [if_neg (Nat.ne_of_lt hk), mul_zero], if_pos rfl, mul_one,
        sumTo, List.sum_map_zero, zero_add]

theorem sum_eq_sumTo (l : List Rat) : l.sum = sumTo l.length fun k => l.getD k 0 :=
  congrArg List.sum (Np.Lemmas.map_getD_range l 0).symm

theorem dot_eq_sumTo (a b : List Rat) (h : a.length = b.length) :
    dot a b = sumTo a.length fun k => a.getD k 0 * b.getD k 0 := by
  unfold dot
  rw [sum_eq_sumTo, List.length_map, List.length_zip, ← h, Nat.min_self]
  exact sumTo_congr _ _ _ fun k hk => Np.Lemmas.getD_map_zip _ a b k 0 0 0 hk (h ▸ hk)

theorem sum_map_eq_sumTo (l : List Rat) (g : Rat → Rat) :
    (l.map g).sum = sumTo l.length fun k => g (l.getD k 0) := by
  rw [sum_eq_sumTo, List.length_map]
  exact sumTo_congr _ _ _ fun k hk => Np.Lemmas.getD_map_of_lt g l k 0 0 hk

theorem matMul_entry (W M : Mat) (s j : Nat) (hs : s < W.length) (hj : j < ncols M)
    (hrow : (W.getD s []).length = M.length) :
    entry (matMul W M) s j = sumTo M.length fun k => entry W s k * entry M k j := by
  rw [entry, matMul, Np.Lemmas.getD_map_of_lt _ W s [] [] hs, Np.Lemmas.getD_map_range _ _ j 0 hj,
    dot_eq_sumTo _ _ (by rw [col_length, hrow]), hrow]
  apply sumTo_congr
  intro k hk
  rw [col_getD M j k hk]
  rfl

-- `hst`, `hb` are the index bounds outside which the real code raises IndexError; the proof needs neither
set_option linter.unusedVariables false in
theorem depth_direct (feat0 : List (List Rat)) (cols : List (List Nat)) (ys : List Rat) (st : List Nat)
    (i nloc : Nat) (hi : i < feat0.length) (hl : st.length = feat0.length)
    (hf : (feat0.getD i []).length = nloc) (hst : st.getD i 0 < cols.length)
    (hc : (cols.getD (st.getD i 0) []).length = nloc)
    (hb : ∀ c ∈ cols.getD (st.getD i 0) [], c < ys.length) :
    (depths feat0 cols ys st).getD i none =
      (let w := fun k => max ((feat0.getD i []).getD k 0) 0 * max ((feat0.getD i []).getD k 0) 0
       let y := fun k => ys.getD ((cols.getD (st.getD i 0) []).getD k 0) 0
       if sumTo nloc w = 0 then none else some (sumTo nloc (fun k => y k * w k) / sumTo nloc w)) := by
  rw [depths_eq feat0 cols ys st i hi hl]
  simp only
  rw [sum_map_eq_sumTo, hf, dot_eq_sumTo _ _ (by rw [List.length_map, List.length_map, hc, hf]),
    List.length_map, hc]
  congr 3
  exact sumTo_congr _ _ _ fun k hk => by
    rw [Np.Lemmas.getD_map_of_lt _ _ k 0 0 (hc ▸ hk), Np.Lemmas.getD_map_of_lt _ _ k 0 0 (hf ▸ hk)]

end PhyVerif.C09.Lemmas
