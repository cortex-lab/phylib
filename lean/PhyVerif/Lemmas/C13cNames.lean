import PhyVerif.Spec.C13c
import PhyVerif.Lemmas.C13
import PhyVerif.Lemmas.C13cDir
/-! File names under `rename_with_label` (`Model/C13c.lean`): what `relabel` keeps of a name (its object, its
extension, whether it is an object file), that it is injective, and which of the names the conversion can write
(`allNames`) the globs of `compress_spikes_dtypes` find once they are labelled. -/
namespace PhyVerif.C13.Lemmas
open PhyVerif PhyVerif.C13

/-- the label goes in front of the last part: the object name and the extension stay -/
theorem withLabel_cons2 (label a b : String) (rest : List String) :
    ∃ m mid, withLabel label (a :: b :: rest) = a :: m :: mid ∧
      (a :: m :: mid).getLast? = (a :: b :: rest).getLast? := by
  rcases List.eq_nil_or_concat (b :: rest) with h | ⟨init, ext, h⟩
  · cases h
  · rw [List.concat_eq_append] at h
    rw [h, ← List.cons_append, label_before_extension, List.getLast?_concat]
    cases init with
    | nil => exact ⟨label, [ext], rfl, rfl⟩
    | cons i init =>
      refine ⟨i, init ++ [label, ext], rfl, ?_⟩
      rw [show a :: i :: (init ++ [label, ext]) = (a :: i :: init ++ [label]) ++ [ext] by simp,
        List.getLast?_concat]

theorem isObj_cons2 {n : Name} (h : isObj n = true) : ∃ a b rest, n = a :: b :: rest := by
  match n, h with
  | a :: b :: rest, _ => exact ⟨a, b, rest, rfl⟩

theorem relabel_of_not_obj (label : String) (n : Name) (h : isObj n = false) : relabel label n = n := by
  simp [relabel, h]

theorem relabel_cons2 (label : String) {n : Name} (h : isObj n = true) :
    ∃ a b rest m mid, n = a :: b :: rest ∧ relabel label n = a :: m :: mid ∧
      (a :: m :: mid).getLast? = n.getLast? := by
  obtain ⟨a, b, rest, rfl⟩ := isObj_cons2 h
  obtain ⟨m, mid, hm, hlast⟩ := withLabel_cons2 label a b rest
  exact ⟨a, b, rest, m, mid, rfl, by rw [relabel, if_pos h, hm], hlast⟩

theorem isObj_relabel (label : String) (n : Name) : isObj (relabel label n) = isObj n := by
  cases h : isObj n
  · rw [relabel_of_not_obj label n h, h]
  · obtain ⟨a, b, rest, m, mid, rfl, hm, _⟩ := relabel_cons2 label h
    rw [hm]
    exact h

theorem expectedRows_relabel (s : Sizes) (label : String) {n : Name} (h : isObj n = true) :
    expectedRows s (relabel label n) = expectedRows s n := by
  obtain ⟨a, b, rest, m, mid, rfl, hm, _⟩ := relabel_cons2 label h
  rw [hm]
  -- `expectedRows` looks at the object name only
  simp only [isObj, Bool.or_eq_true, beq_iff_eq] at h
  rcases h with ((h | h) | h) | h <;> subst h <;> rfl

theorem getLast?_relabel (label : String) {n : Name} (h : isObj n = true) :
    (relabel label n).getLast? = n.getLast? := by
  obtain ⟨a, b, rest, m, mid, rfl, hm, hlast⟩ := relabel_cons2 label h
  rw [hm, hlast]

theorem head?_labelled (label : String) (k : Name) : (labelled' label k).head? = k.head? := by
  unfold labelled'
  split
  · rfl
  · cases h : isObj k
    · rw [relabel_of_not_obj _ _ h]
    · obtain ⟨_, _, _, _, _, rfl, hm, _⟩ := relabel_cons2 label h
      rw [hm]
      rfl

theorem labelled3 (label a b c : String) (h : isObj [a, b, c] = true) :
    labelled' label [a, b, c] = if label = "" then [a, b, c] else [a, b, label, c] := by
  rw [labelled', relabel, if_pos h, withLabel3]

theorem isObj_labelled (label : String) (n : Name) : isObj (labelled' label n) = isObj n := by
  rw [labelled']
  split
  · rfl
  · exact isObj_relabel label n

theorem withLabel_inj (label : String) (a b : Name) (ha : a ≠ []) (hb : b ≠ [])
    (h : withLabel label a = withLabel label b) : a = b := by
  rcases List.eq_nil_or_concat a with h1 | ⟨ia, ea, h1⟩
  · exact absurd h1 ha
  rcases List.eq_nil_or_concat b with h2 | ⟨ib, eb, h2⟩
  · exact absurd h2 hb
  rw [List.concat_eq_append] at h1 h2
  subst h1 h2
  rw [label_before_extension, label_before_extension] at h
  obtain ⟨h3, h4⟩ := List.append_inj' h rfl
  rw [h3, (List.cons.inj (List.cons.inj h4).2).1]

theorem relabel_inj (label : String) (a b : Name) (h : relabel label a = relabel label b) : a = b := by
  have hab : isObj a = isObj b := by rw [← isObj_relabel label a, h, isObj_relabel]
  cases hb : isObj b
  · rwa [relabel_of_not_obj _ _ (hab.trans hb), relabel_of_not_obj _ _ hb] at h
  · rw [relabel, relabel, if_pos (hab.trans hb), if_pos hb] at h
    obtain ⟨_, _, _, rfl⟩ := isObj_cons2 (hab.trans hb)
    obtain ⟨_, _, _, rfl⟩ := isObj_cons2 hb
    exact withLabel_inj label _ _ (List.cons_ne_nil _ _) (List.cons_ne_nil _ _) h

theorem lookup_rename (label : String) (d : FDir) (k : Name) :
    (renameWithLabel label d).lookup (labelled' label k) = d.lookup k := by
  unfold renameWithLabel labelled'
  split
  · rfl
  · induction d with
    | nil => rfl
    | cons x d ih =>
      rw [List.map_cons, lookup_cons, lookup_cons, ih]
      by_cases hk : k = x.1
      · rw [if_pos hk, if_pos (congrArg _ hk)]
      · rw [if_neg hk, if_neg fun h => hk (relabel_inj label _ _ h)]

theorem has_rename (label : String) (d : FDir) (k : Name) (h : d.has k = true) :
    (renameWithLabel label d).has (labelled' label k) = true := by
  rw [← lookup_isSome, lookup_rename, lookup_isSome]; exact h

theorem not_matches_head (attr label : String) (k : Name) (h : k.head? ≠ some "spikes") :
    matchesSpikes attr (labelled' label k) = false := by
  rw [← head?_labelled label] at h
  generalize labelled' label k = n at h ⊢
  unfold matchesSpikes
  split
  · exact absurd rfl h
  · rfl

theorem not_matches_of_first (attr : String) (label : String) (a b c : String)
    (ha : a ≠ "spikes") : matchesSpikes attr (labelled' label [a, b, c]) = false :=
  not_matches_head attr label _ fun h => ha (Option.some.inj h)

theorem matchesSpikes_labelled3 (attr label b c : String) :
    matchesSpikes attr (labelled' label ["spikes", b, c]) = (b == attr && endsNpy c) := by
  rw [labelled3 _ _ _ _ rfl]
  split <;> simp [matchesSpikes]

/-- the names of the files the conversion computes, in the order of their first write: thirteen by the first
three steps, the last two by `make_depths` -/
def computedNames : List Name :=
  [["clusters", "channels", "npy"], ["clusters", "peakToTrough", "npy"], ["clusters", "amps", "npy"],
   ["clusters", "uuids", "csv"], ["channels", "rawInd", "npy"], ["spikes", "times", "npy"],
   ["spikes", "samples", "npy"], ["spikes", "amps", "npy"], ["templates", "amps", "npy"],
   ["templates", "waveforms", "npy"], ["templates", "waveformsChannels", "npy"],
   ["clusters", "waveforms", "npy"], ["clusters", "waveformsChannels", "npy"],
   ["spikes", "depths", "npy"], ["clusters", "depths", "npy"]]

/-- every name the conversion can put into an output directory that was empty (before labelling) -/
def allNames : List Name := computedNames ++ fileRenames.map (·.2.1)

/-- among all possible output files each glob finds exactly the id table it is meant for -/
theorem only_match (attr label : String) :
    ∀ k ∈ allNames, matchesSpikes attr (labelled' label k) = true → k = ["spikes", attr, "npy"] := by
  have hshape : ∀ k ∈ allNames, k.head? ≠ some "spikes" ∨ k = ["spikes", k.getD 1 "", "npy"] := by decide +kernel
  intro k hk hm
  rcases hshape k hk with h | h
  · rw [not_matches_head attr label k h] at hm; cases hm
  · rw [h, matchesSpikes_labelled3, Bool.and_eq_true, beq_iff_eq] at hm
    rw [h, hm.1]

end PhyVerif.C13.Lemmas
