import PhyVerif.Lemmas.C01
import PhyVerif.Model.C16b
import PhyVerif.Lemmas.C16t
/-! About `Model/C16b.lean`: reading the reader of C01 chunk by chunk along its own chunk bounds gives back the concatenated
recording. -/
namespace PhyVerif.C16.Lemmas
open PhyVerif PhyVerif.C01

/-- `reader[a:b]` for `0 ≤ a < b ≤ n` is rows `a .. b-1` of the concatenated recording -/
theorem getRows_slice_nat {α : Type} (parts : List (List α)) (a b : Nat) (hab : a < b)
    (hb : b ≤ parts.flatten.length) :
    getRows parts (.slice (some (Int.ofNat a)) (some (Int.ofNat b))) =
      some ((parts.flatten.drop a).take (b - a)) := by
  have hidx : Np.sliceIdx parts.flatten.length (some (Int.ofNat a)) (some (Int.ofNat b)) 1 =
      List.range' a (b - a) :=
    C01.Lemmas.sliceIdx_inside _ _ _ (Int.natCast_nonneg a) (Int.ofNat_le.2 (Nat.le_of_lt hab)) (Int.ofNat_le.2 hb)
  have hd : InDom parts.flatten.length (.slice (some (Int.ofNat a)) (some (Int.ofNat b))) := by
    refine ⟨?_, ?_, ?_⟩
    · rintro s ⟨rfl⟩
      simp only [Int.ofNat_eq_natCast]; omega
    · rintro e ⟨rfl⟩
      simp only [Int.ofNat_eq_natCast]; omega
    · rw [hidx, Ne, List.range'_eq_nil_iff]; omega
  rw [C01.Lemmas.getRows_eq_concat' parts _ hd, npRows, hidx, Np.Lemmas.take_range']

/-- consecutive slices along a strictly increasing chain `a = b0 < b1 < … < bk = n ≤ |A|` stack
to `A[a:n]` -/
theorem chain_read {α : Type} (A : List α) (f : Nat × Nat → Option (List α))
    (hf : ∀ a b, a < b → b ≤ A.length → f (a, b) = some ((A.drop a).take (b - a))) :
    ∀ (l : List Nat) (a n : Nat), l.head? = some a → l.getLast? = some n →
      strictInc l = true → n ≤ A.length →
      a ≤ n ∧ ((l.zip l.tail).mapM f).map List.flatten = some ((A.drop a).take (n - a)) := by
  intro l
  induction l with
  | nil => intro a n h; simp at h
  | cons x t ih =>
    intro a n h0 hl hs hn
    simp only [List.head?_cons, Option.some.injEq] at h0
    subst h0
    cases t with
    | nil =>
      simp only [List.getLast?_singleton, Option.some.injEq] at hl
      subst hl
      simp
    | cons y t' =>
      simp only [strictInc, Bool.and_eq_true, decide_eq_true_eq] at hs
      rw [List.getLast?_cons_cons] at hl
      obtain ⟨hyn, hrest⟩ := ih y n rfl hl hs.2 hn
      obtain ⟨pieces, hm, hp⟩ := Option.map_eq_some_iff.1 hrest
      rw [List.tail_cons] at hm
      refine ⟨by omega, ?_⟩
      simp only [List.tail_cons, List.zip_cons_cons, List.mapM_cons, hf x y hs.1 (by omega), hm, Option.pure_def,
        Option.bind_eq_bind, Option.bind_some, Option.map_some, List.flatten_cons, hp, Option.some.injEq]
      rw [← Nat.sub_add_sub_cancel hyn (Nat.le_of_lt hs.1), Nat.add_comm (n - y), List.take_add, List.drop_drop,
        Nat.add_sub_cancel' (Nat.le_of_lt hs.1)]

theorem read_by_chunks_eq_concat {α : Type} (parts : List (List α)) (cs : Nat) (hcs : 0 < cs) :
    readByChunks parts cs = some parts.flatten := by
  cases hparts : parts with
  | nil => rfl
  | cons p ps =>
    rw [← hparts]
    have hne : parts.map List.length ≠ [] := by rw [hparts]; simp
    obtain ⟨h0, hl, hs, _⟩ := (boundsOK_iff ..).1 (getChunkBounds_ok (parts.map List.length) cs hcs hne)
    have hlen : (parts.map List.length).sum = parts.flatten.length := by
      rw [List.length_flatten]
    rw [hlen] at hl
    have := (chain_read parts.flatten
      (fun ab => getRows parts (.slice (some (Int.ofNat ab.1)) (some (Int.ofNat ab.2))))
      (fun a b hab hb => getRows_slice_nat parts a b hab hb)
      _ 0 _ h0 hl hs (Nat.le_refl _)).2
    unfold readByChunks iterChunksBase
    rw [this, Nat.sub_zero, List.drop_zero, List.take_length]

end PhyVerif.C16.Lemmas
