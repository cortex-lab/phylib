import PhyVerif.Lemmas.C03
/-! The routes of `Model/C03.lean` composed: export → store files → load → lookup (`routes_agree`),
`TemplateModel.get_waveforms` with and without a store, and the `TemplateModel` subset store (`subset_loads_eq`,
`subset_store_eq_raw`) with `get_waveforms` on it (`getWaveforms_after_save`).
Statements: `Props/C03.lean`; `intervalsTile`: `Spec/C16.lean`. -/
namespace PhyVerif.C03.Lemmas
open PhyVerif PhyVerif.C16 PhyVerif.C03

variable {α : Type} [Zero α]

theorem routes_agree (scale : α → α) (A : List (List α)) (nch : Nat)
    (ivs : List (Nat × Nat)) (hT : intervalsTile A.length ivs = true) (samples : List Int)
    (chans : List (List Int)) (hlen : chans.length = samples.length)
    (hsorted : samples.Pairwise (· ≤ ·)) (hb : ∀ s ∈ samples, 0 ≤ s ∧ s < A.length) (n : Nat) (hn : 0 < n)
    (nloc : Nat) (hch : ∀ c ∈ chans, c.length = nloc ∧ ChOK nch c)
    (ids : List Nat) (hids : ids.length = samples.length)
    (query : List Nat) (hq : ∀ q ∈ query, q ∈ ids) (chq : List Nat) (hchq : chq ≠ []) :
    (∀ sc ∈ samples.zip chans, extractWaveform A sc.1 n sc.2 = window A sc.1 n sc.2) ∧
    npLoad (exportWaveforms scale A ivs samples chans n nloc) =
      some ((samples.zip chans).map fun sc => scaleW scale (extractWaveform A sc.1 n sc.2)) ∧
    (loadSubset ⟨ids, chans, exportWaveforms scale A ivs samples chans n nloc⟩).bind
        (fun st => getSpikeWaveforms st query chq n) =
      some (query.map fun q =>
        lookupSpec scale A (samples.getD (ids.idxOf q) 0) n (chans.getD (ids.idxOf q) []) chq) := by
  have hext := extract_all_eq_window A nch samples chans hb n (fun c hc => (hch c hc).2)
  have hload : npLoad (exportWaveforms scale A ivs samples chans n nloc) =
      some ((samples.zip chans).map fun sc => scaleW scale (window A sc.1 n sc.2)) :=
    export_loads_windows scale A nch ivs hT samples chans hlen hsorted hb n nloc hch
  refine ⟨hext, ?_, ?_⟩
  · exact hload.trans (congrArg some (List.map_congr_left fun z hz => by rw [hext z hz]))
  · simp only [loadSubset, hload, Option.map_some, Option.bind_some]
    refine lookup_scaled scale _ A samples n (hlen.trans hids.symm) ?_ ?_ query hq chq hn hchq
    · rw [List.length_map, List.length_zip, hlen, Nat.min_self, hids]
    · intro p hp
      have h1 : p < samples.length := hids ▸ hp
      exact Np.Lemmas.getD_map_zip _ samples chans p 0 [] [] h1 (hlen ▸ h1)

/-! ### `TemplateModel.get_waveforms` -/

theorem lookup_none_of_not_asserts (st : Store α) (query chq : List Nat) (n : Nat)
    (h : lookupAsserts st query chq n = false) : getSpikeWaveforms st query chq n = none := by
  -- the two guards of `getSpikeWaveforms` are the two conjuncts of `lookupAsserts`
  unfold getSpikeWaveforms
  rcases Bool.and_eq_false_iff.1 h with h1 | h2
  · rw [h1]
    rfl
  · rw [Bool.not_eq_eq_eq_not, Bool.not_false] at h2
    rw [h2, if_pos rfl]
    exact ite_self none

theorem asserts_of_lookup (st : Store α) (query chq : List Nat) (n : Nat) (W : List (List (List α)))
    (h : getSpikeWaveforms st query chq n = some W) : lookupAsserts st query chq n = true := by
  cases ha : lookupAsserts st query chq n
  · rw [lookup_none_of_not_asserts st query chq n ha] at h; exact absurd h (by simp)
  · rfl

/-- without a store `getWaveformsE` is its `raw`: `extract_waveforms` passes its `assert nsw > 0` and returns the windows -/
theorem getWaveforms_raw (A : List (List α)) (nch : Nat) (spikeSamples : List Int)
    (query chq : List Nat) (n : Nat) (hn : 0 < n)
    (hqb : ∀ q ∈ query, q < spikeSamples.length)
    (hsb : ∀ s ∈ spikeSamples, 0 ≤ s ∧ s < A.length) (hc : ∀ c ∈ chq, c < nch) :
    getWaveformsE none A spikeSamples query chq n =
      some (query.map fun q => window A (spikeSamples.getD q 0) n (chq.map Int.ofNat)) := by
  rw [getWaveformsE, if_neg (mt beq_iff_eq.1 (Nat.ne_of_gt hn)), extractWaveforms, List.map_map]
  refine congrArg some (List.map_congr_left fun q hq => ?_)
  have hs := hsb _ (Np.Lemmas.getD_mem spikeSamples q 0 (hqb q hq))
  refine extract_eq_window A nch _ hs.1 hs.2 n _ fun c hcm => ?_
  obtain ⟨k, hk, rfl⟩ := List.mem_map.1 hcm
  exact Or.inr ⟨Int.natCast_nonneg k, Int.ofNat_lt.2 (hc k hk)⟩

theorem getWaveforms_stored (st : Store α) (A : List (List α)) (spikeSamples : List Int)
    (query chq : List Nat) (n : Nat) (W : List (List (List α)))
    (h : getSpikeWaveforms st query chq n = some W) :
    getWaveformsE (some st) A spikeSamples query chq n = some W := by
  simp only [getWaveformsE, asserts_of_lookup st query chq n W h, if_true, h]

theorem getWaveforms_propagates (st : Store α) (A : List (List α)) (spikeSamples : List Int)
    (query chq : List Nat) (n : Nat) (ha : lookupAsserts st query chq n = true)
    (h : getSpikeWaveforms st query chq n = none) :
    getWaveformsE (some st) A spikeSamples query chq n = none := by
  simp only [getWaveformsE, ha, if_true, h]

theorem getWaveforms_unstored (st : Store α) (A : List (List α)) (nch : Nat) (spikeSamples : List Int)
    (query chq : List Nat) (n : Nat) (hn : 0 < n) (q : Nat) (hq : q ∈ query) (hns : q ∉ st.spikeIds)
    (hqb : ∀ q ∈ query, q < spikeSamples.length)
    (hsb : ∀ s ∈ spikeSamples, 0 ≤ s ∧ s < A.length) (hc : ∀ c ∈ chq, c < nch) :
    getWaveformsE (some st) A spikeSamples query chq n =
      some (query.map fun q => window A (spikeSamples.getD q 0) n (chq.map Int.ofNat)) := by
  have hall : query.all st.spikeIds.contains = false := List.all_eq_false.2 ⟨q, hq, by simpa using hns⟩
  simp only [getWaveformsE, lookupAsserts, hall, Bool.false_and, Bool.false_eq_true, if_false]
  exact getWaveforms_raw A nch spikeSamples query chq n hn hqb hsb hc

/-! ### the `TemplateModel` subset store -/

theorem length_templateNChannels (used : Bool) (order : List Int) (nc : Nat) :
    (templateNChannels used order nc).length = nc := by
  unfold templateNChannels
  cases used
  · simp
  · simp only [Bool.not_true, Bool.false_eq_true, if_false, List.length_append, List.length_take,
      List.length_replicate]
    exact Nat.add_sub_of_le (Nat.min_le_left nc order.length)

theorem chOK_templateNChannels (nch : Nat) (used : Bool) (order : List Int) (nc : Nat)
    (ho : ChOK nch order) : ChOK nch (templateNChannels used order nc) := by
  unfold templateNChannels
  intro c hc
  cases used
  · simp only [Bool.not_false, if_true] at hc
    exact Or.inl (List.eq_of_mem_replicate hc)
  · simp only [Bool.not_true, Bool.false_eq_true, if_false, List.mem_append] at hc
    rcases hc with hc | hc
    · exact ho c (List.mem_of_mem_take hc)
    · exact Or.inl (List.eq_of_mem_replicate hc)

theorem getD_bestChannels (spikeTemplates : List Nat) (orders : List (List Int)) (nc : Nat) (t : Nat)
    (ht : t < orders.length) :
    (bestChannels spikeTemplates orders nc).getD t [] =
      templateNChannels (spikeTemplates.contains t) (orders.getD t []) nc :=
  Np.Lemmas.getD_map_range _ orders.length t [] ht

theorem chOK_getD (nch : Nat) (orders : List (List Int)) (ho : ∀ o ∈ orders, ChOK nch o) (t : Nat) :
    ChOK nch (orders.getD t []) := by
  by_cases ht : t < orders.length
  · exact ho _ (Np.Lemmas.getD_mem orders t [] ht)
  · rw [Np.Lemmas.getD_of_le orders t [] (Nat.le_of_not_lt ht)]
    exact fun c hc => absurd hc List.not_mem_nil

/-- `spike_samples[spike_ids]` is sorted -/
theorem sorted_take_at (l : List Int) (hl : l.Pairwise (· ≤ ·)) :
    ∀ (sel : List Nat), sel.Pairwise (· < ·) → (∀ i ∈ sel, i < l.length) →
      (sel.map fun i => l.getD i 0).Pairwise (· ≤ ·) := by
  intro sel hsel hb
  rw [List.pairwise_map]
  refine List.Pairwise.imp_of_mem ?_ hsel
  intro i j hi hj hij
  rw [Np.Lemmas.getD_of_lt l i 0 (hb i hi), Np.Lemmas.getD_of_lt l j 0 (hb j hj)]
  exact (List.pairwise_iff_getElem.1 hl) i j (hb i hi) (hb j hj) hij

/-- the channel rows `best_channels[spike_templates[spike_ids], :]` that `save_spikes_subset_waveforms` writes: every
selected spike has a template that has spikes, so its row is the first `nc` channels of that template -/
theorem subset_channels (spikeTemplates : List Nat) (orders : List (List Int))
    (hto : ∀ t ∈ spikeTemplates, t < orders.length) (sel : List Nat) (hselb : ∀ i ∈ sel, i < spikeTemplates.length)
    (nc : Nat) :
    (sel.map fun i => (bestChannels spikeTemplates orders nc).getD (spikeTemplates.getD i 0) []) =
      sel.map fun i => templateNChannels true (orders.getD (spikeTemplates.getD i 0) []) nc := by
  refine List.map_congr_left fun i hi => ?_
  have ht := Np.Lemmas.getD_mem spikeTemplates i 0 (hselb i hi)
  rw [getD_bestChannels _ _ _ _ (hto _ ht), List.contains_iff_mem.mpr ht]

theorem subset_loads_eq (scale : α → α) (A : List (List α)) (nch : Nat)
    (ivs : List (Nat × Nat)) (hT : intervalsTile A.length ivs = true)
    (spikeSamples : List Int) (hss : spikeSamples.Pairwise (· ≤ ·))
    (hsb : ∀ s ∈ spikeSamples, 0 ≤ s ∧ s < A.length)
    (spikeTemplates : List Nat) (hst : spikeTemplates.length = spikeSamples.length)
    (orders : List (List Int)) (hto : ∀ t ∈ spikeTemplates, t < orders.length)
    (hord : ∀ o ∈ orders, ChOK nch o)
    (sel : List Nat) (hsel : sel.Pairwise (· < ·)) (hselb : ∀ i ∈ sel, i < spikeSamples.length)
    (n : Nat) (nc : Nat) :
    loadSubset (saveSubset scale A ivs spikeSamples spikeTemplates orders sel n nc) =
      some ⟨sel, sel.map fun i =>
        templateNChannels true (orders.getD (spikeTemplates.getD i 0) []) nc,
        sel.map fun i => scaleW scale (window A (spikeSamples.getD i 0) n
          (templateNChannels true (orders.getD (spikeTemplates.getD i 0) []) nc))⟩ := by
  have hload := export_loads_windows scale A nch ivs hT (sel.map fun i => spikeSamples.getD i 0)
    (sel.map fun i => templateNChannels true (orders.getD (spikeTemplates.getD i 0) []) nc)
    (by rw [List.length_map, List.length_map]) (sorted_take_at spikeSamples hss sel hsel hselb) ?_ n nc ?_
  · simp only [loadSubset, saveSubset, subset_channels spikeTemplates orders hto sel (hst ▸ hselb) nc, hload,
      Option.map_some, List.zip_map', List.map_map]
    rfl
  · intro s hs
    obtain ⟨i, hi, rfl⟩ := List.mem_map.1 hs
    exact hsb _ (Np.Lemmas.getD_mem spikeSamples i 0 (hselb i hi))
  · intro c hc
    obtain ⟨i, _, rfl⟩ := List.mem_map.1 hc
    exact ⟨length_templateNChannels _ _ _, chOK_templateNChannels nch _ _ _ (chOK_getD nch orders hord _)⟩

theorem subset_store_eq_raw (scale : α → α) (A : List (List α)) (nch : Nat)
    (ivs : List (Nat × Nat)) (hT : intervalsTile A.length ivs = true)
    (spikeSamples : List Int) (hss : spikeSamples.Pairwise (· ≤ ·))
    (hsb : ∀ s ∈ spikeSamples, 0 ≤ s ∧ s < A.length)
    (spikeTemplates : List Nat) (hst : spikeTemplates.length = spikeSamples.length)
    (orders : List (List Int)) (hto : ∀ t ∈ spikeTemplates, t < orders.length)
    (hord : ∀ o ∈ orders, ChOK nch o)
    (sel : List Nat) (hsel : sel.Pairwise (· < ·)) (hselb : ∀ i ∈ sel, i < spikeSamples.length)
    (n : Nat) (hn : 0 < n) (nc : Nat)
    (query : List Nat) (hq : ∀ q ∈ query, q ∈ sel) (chq : List Nat) (hchq : chq ≠ []) :
    (loadSubset (saveSubset scale A ivs spikeSamples spikeTemplates orders sel n nc)).bind
        (fun st => getSpikeWaveforms st query chq n) =
      some (query.map fun q =>
        lookupSpec scale A (spikeSamples.getD q 0) n
          (templateNChannels true (orders.getD (spikeTemplates.getD q 0) []) nc) chq) := by
  rw [subset_loads_eq scale A nch ivs hT spikeSamples hss hsb spikeTemplates hst orders hto hord sel hsel hselb n nc,
    Option.bind_some]
  refine (lookup_scaled scale _ A (sel.map fun i => spikeSamples.getD i 0) n (List.length_map _) (List.length_map _) ?_
    query hq chq hn hchq).trans (congrArg some (List.map_congr_left fun q hq' => ?_))
  · intro p hp
    simp only [List.getD_eq_getElem?_getD, List.getElem?_map, List.getElem?_eq_getElem hp, Option.map_some,
      Option.getD_some]
  · rw [Np.Lemmas.getD_map_idxOf _ 0 sel q (hq q hq'), Np.Lemmas.getD_map_idxOf _ [] sel q (hq q hq')]

/-- the ids and the channel rows only, as C10 uses it; `subset_loads` of `Props/C03.lean` is `subset_loads_eq` -/
theorem subset_loads (scale : α → α) (A : List (List α)) (nch : Nat)
    (ivs : List (Nat × Nat)) (hT : intervalsTile A.length ivs = true)
    (spikeSamples : List Int) (hss : spikeSamples.Pairwise (· ≤ ·))
    (hsb : ∀ s ∈ spikeSamples, 0 ≤ s ∧ s < A.length)
    (spikeTemplates : List Nat) (hst : spikeTemplates.length = spikeSamples.length)
    (orders : List (List Int)) (hto : ∀ t ∈ spikeTemplates, t < orders.length)
    (hord : ∀ o ∈ orders, ChOK nch o)
    (sel : List Nat) (hsel : sel.Pairwise (· < ·)) (hselb : ∀ i ∈ sel, i < spikeSamples.length)
    (n : Nat) (nc : Nat) :
    ∃ w, loadSubset (saveSubset scale A ivs spikeSamples spikeTemplates orders sel n nc) =
      some ⟨sel, sel.map fun i =>
        templateNChannels true (orders.getD (spikeTemplates.getD i 0) []) nc, w⟩ :=
  ⟨_, subset_loads_eq scale A nch ivs hT spikeSamples hss hsb spikeTemplates hst orders hto hord sel hsel hselb n nc⟩

theorem getWaveforms_after_save (scale : α → α) (A : List (List α)) (nch : Nat)
    (ivs : List (Nat × Nat)) (hT : intervalsTile A.length ivs = true)
    (spikeSamples : List Int) (hss : spikeSamples.Pairwise (· ≤ ·))
    (hsb : ∀ s ∈ spikeSamples, 0 ≤ s ∧ s < A.length)
    (spikeTemplates : List Nat) (hst : spikeTemplates.length = spikeSamples.length)
    (orders : List (List Int)) (hto : ∀ t ∈ spikeTemplates, t < orders.length)
    (hord : ∀ o ∈ orders, ChOK nch o)
    (sel : List Nat) (hsel : sel.Pairwise (· < ·)) (hselb : ∀ i ∈ sel, i < spikeSamples.length)
    (n : Nat) (hn : 0 < n) (nc : Nat)
    (query : List Nat) (hqb : ∀ q ∈ query, q < spikeSamples.length)
    (chq : List Nat) (hchq : chq ≠ []) (hc : ∀ c ∈ chq, c < nch) :
    getWaveformsE (loadSubset (saveSubset scale A ivs spikeSamples spikeTemplates orders sel n nc))
        A spikeSamples query chq n =
      some (if query.all sel.contains then
          query.map fun q => lookupSpec scale A (spikeSamples.getD q 0) n
            (templateNChannels true (orders.getD (spikeTemplates.getD q 0) []) nc) chq
        else query.map fun q => window A (spikeSamples.getD q 0) n (chq.map Int.ofNat)) := by
  have hload := subset_loads_eq scale A nch ivs hT spikeSamples hss hsb spikeTemplates hst orders hto hord
    sel hsel hselb n nc
  cases hall : query.all sel.contains
  · -- some requested spike is not stored
    rw [hload]
    obtain ⟨q, hq, hqn⟩ := List.all_eq_false.1 hall
    simp only [Bool.false_eq_true, if_false]
    exact getWaveforms_unstored _ A nch spikeSamples query chq n hn q hq (by simpa using hqn) hqb hsb hc
  · have hq : ∀ q ∈ query, q ∈ sel := fun q hq => List.contains_iff_mem.1 (List.all_eq_true.1 hall q hq)
    have key := subset_store_eq_raw scale A nch ivs hT spikeSamples hss hsb spikeTemplates hst orders hto hord
      sel hsel hselb n hn nc query hq chq hchq
    rw [hload, Option.bind_some] at key
    rw [hload, if_pos rfl]
    exact getWaveforms_stored _ A spikeSamples query chq n _ key

end PhyVerif.C03.Lemmas
