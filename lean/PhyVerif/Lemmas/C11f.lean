import PhyVerif.Lemmas.C11e
/-! Frame of the file-system merge (`Model/C11e.lean`): whatever its outcome, it changes only its own files of the
output directory. -/
namespace PhyVerif.C11.Lemmas
open PhyVerif PhyVerif.C11

/-- `s'` differs from `s` at most on the files `names` of directory `out` -/
def FrameRel (out : String) (names : List String) (s s' : FS × Reg) : Prop :=
  ∀ d n, (d ≠ out ∨ n ∉ names) → s'.1.read (d, n) = s.1.read (d, n)

def SavesOnly (c : Compute) (names : List String) : Prop :=
  ∀ fs reg ws reg', c fs reg = .ok (ws, reg') → ∀ w ∈ ws, w.1 ∈ names

theorem saveStep_frame (out : String) (c : Compute) (names : List String) (hc : SavesOnly c names)
    (s s' : FS × Reg) (h : saveStep out c s = .ok s') : FrameRel out names s s' := by
  obtain ⟨ws, reg, heq, rfl⟩ := saveStep_ok out c s s' h
  intro d n hdn
  apply saveAll_read_other
  refine hdn.imp_right fun hn hmem => hn ?_
  obtain ⟨w, hw, rfl⟩ := List.mem_map.mp hmem
  exact hc _ _ _ _ heq w hw

theorem runSteps_frame (out : String) (names : List String) (steps : List (FS × Reg → M (FS × Reg)))
    (hsteps : ∀ st ∈ steps, ∀ s s', st s = .ok s' → FrameRel out names s s') :
    ∀ s, FrameRel out names s (runSteps steps s).1 := by
  induction steps with
  | nil => intro s d n _; rfl
  | cons st rest ih =>
    intro s
    unfold runSteps
    split
    · intro d n _; rfl
    · rename_i s' heq
      intro d n hdn
      rw [ih (fun st' h' => hsteps st' (by simp [h'])) s' d n hdn]
      exact hsteps st (by simp) s s' heq d n hdn

/-- every `write_*` method saves only its own file names: read off what it saves (`c*_ok`) -/
theorem computes_save (subdirs : List String) (out : String) :
    ∀ c ∈ computes subdirs out, SavesOnly c outputNames := by
  intro c hc fs reg ws reg' h
  simp only [computes, List.mem_append, List.mem_cons, List.mem_map, List.not_mem_nil, or_false] at hc
  rcases hc with ((((rfl | rfl | rfl | rfl | rfl | rfl) | ⟨fn, hfn, rfl⟩) | (rfl | rfl | rfl | rfl | rfl)) |
    ⟨fn, hfn, rfl⟩) | rfl
  · obtain ⟨_, _, -, -, rfl, -⟩ := cParams_ok _ _ _ _ _ h
    simp [outputNames]
  · obtain ⟨rfl, -⟩ := cProbeDesc_ok _ _ _ _ _ h
    simp [outputNames]
  · obtain ⟨_, -, -, rfl, -⟩ := cSpikeTimes_ok _ _ _ _ _ h
    simp [outputNames]
  · obtain ⟨_, -, -, -, rfl, -⟩ := cAmplitudes_ok _ _ _ _ _ h
    simp [outputNames]
  · obtain ⟨_, -, -, -, rfl, -⟩ := cSpikeTemplatesRaw_ok _ _ _ _ _ h
    simp [outputNames]
  · obtain ⟨_, _, _, -, -, -, -, -, -, -, -, rfl, -⟩ := cSpikeClusters_ok _ _ _ _ _ h
    simp [outputNames]
  · obtain ⟨_, -, rfl, -⟩ := cClusterData_ok _ _ _ _ _ fn h
    split <;> simp [outputNames, hfn]
  · obtain ⟨_, -, -, rfl, -⟩ := cChannelData_ok _ _ _ _ _ h
    simp [outputNames]
  · obtain ⟨_, -, -, rfl, -⟩ := cChannelPositions_ok _ _ _ _ _ h
    simp [outputNames]
  · obtain ⟨_, -, -, rfl, -⟩ := cTemplates_ok _ _ _ _ _ h
    simp [outputNames]
  · obtain ⟨_, -, -, rfl, -⟩ := cPcInd_ok _ _ _ _ _ h
    simp [outputNames]
  · obtain ⟨_, -, -, rfl, -⟩ := cTfInd_ok _ _ _ _ _ h
    simp [outputNames]
  · obtain ⟨ms, -, rfl, -⟩ := cMisc_ok _ _ _ _ _ fn h
    cases C12.mergeOptional ms <;> simp [optWrite, outputNames, hfn]
  · unfold cLoadModel at h
    split at h <;> cases h <;> simp [outputNames, miscNames]

theorem merge_frame (fs : FS) (subdirs : List String) (out : String) :
    FrameRel out outputNames (fs, {}) (merge fs subdirs out).1 := by
  unfold merge
  split
  · intro d n _; rfl
  · apply runSteps_frame
    intro st hst s s' h
    rcases List.mem_map.mp hst with ⟨c, hc, rfl⟩
    exact saveStep_frame out c outputNames (computes_save subdirs out c hc) s s' h

theorem inputs_untouched (fs : FS) (subdirs : List String) (out : String) (hout : out ∉ subdirs) :
    (∀ d ∈ subdirs, ∀ name, (merge fs subdirs out).1.1.read (d, name) = fs.read (d, name)) ∧
    (∀ d name, d ≠ out → (merge fs subdirs out).1.1.read (d, name) = fs.read (d, name)) ∧
    (∀ name, name ∉ outputNames → (merge fs subdirs out).1.1.read (out, name) = fs.read (out, name)) := by
  have h := merge_frame fs subdirs out
  refine ⟨fun d hd name => h d name (Or.inl (fun hc => hout (hc ▸ hd))), fun d name hd => h d name (Or.inl hd),
    fun name hn => h out name (Or.inr hn)⟩

end PhyVerif.C11.Lemmas
