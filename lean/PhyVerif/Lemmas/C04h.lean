import PhyVerif.Model.C04h
import PhyVerif.Lemmas.C04
import PhyVerif.Lemmas.C04g
import PhyVerif.Lemmas.C04e
import PhyVerif.Lemmas.C07
/-! The loader that returns the directory in every outcome (`loadAny` of `Model/C04h`): its three kinds of outcome
(`loadAny_cases`), what any of them can have added to the directory (`Added`); the ids derived with `np.unique`. -/
namespace PhyVerif.C04.Lemmas
open PhyVerif PhyVerif.C04

theorem timesOf_read (d : Dir) (ti : TimeSrc) (sa : SampleSrc) (tc : List Cell) (h : timesOf d = some (ti, sa, tc))
    (hm : monotone tc = true) : TimesRead d ti sa := by
  unfold timesOf at h
  split at h
  · next s hs => cases h; exact .inl ⟨s, hs, rfl, rfl, hm⟩
  · next hs =>
    split at h
    · cases h
    · next t ht =>
      split at h
      · next s hss => cases h; exact .inr ⟨hs, t, ht, rfl, hm, .inl ⟨s, hss, rfl⟩⟩
      · next hss => cases h; exact .inr ⟨hs, t, ht, rfl, hm, .inr ⟨hss, rfl⟩⟩

theorem clustersOf_cases (d : Dir) (sc : Arr) (d1 : Dir) (h : clustersOf d = .ok (sc, d1)) :
    (∃ f a, findPath d ["spike_clusters.npy", "spikes.clusters*.npy"] = some f ∧ d.lookup f = some a ∧
      sc = squeeze (scrub a) ∧ d1 = d) ∨
    (findPath d ["spike_clusters.npy", "spikes.clusters*.npy"] = none ∧
      ∃ f a, findPath d ["spike_templates.npy", "spikes.templates*.npy"] = some f ∧ d.lookup f = some a ∧
        sc = squeeze (scrub a) ∧ d1 = d ++ [("spike_clusters.npy", a)]) := by
  unfold clustersOf at h
  split at h
  · next f hf =>
    split at h
    · next a ha => cases h; exact .inl ⟨f, a, hf, ha, rfl, rfl⟩
    · cases h
  · next hf =>
    split at h
    · next f hf2 =>
      split at h
      · next a ha => cases h; exact .inr ⟨hf, f, a, hf2, ha, rfl, rfl⟩
      · cases h
    · cases h

theorem clustersOf_ok_dir (d : Dir) (sc : Arr) (d1 : Dir) (h : clustersOf d = .ok (sc, d1)) : d1 = d1Of d := by
  rcases clustersOf_cases d sc d1 h with ⟨f, a, hf, -, -, h1⟩ | ⟨hn, f, a, hf, ha, -, h1⟩
  · rw [h1, d1Of_some d f hf]
  · rw [h1, d1Of_none d f a hn hf ha]

theorem clustersOf_error_early (d : Dir) (e : LoadErr) (h : clustersOf d = .error e) :
    (AnyErr.load e).early = true := by
  unfold clustersOf at h
  split at h
  · split at h
    · cases h
    · cases h; decide +kernel
  · split at h
    · split at h
      · cases h
      · cases h; decide +kernel
    · cases h; decide +kernel

section
variable (inv : Arr → Arr) {one : Cell} (bad : List String) (d : Dir)

/-- The three kinds of outcome of `loadAny`: rejected before `_load_spike_clusters` with the directory as it was;
rejected after it with the directory that step left; or loaded, and then `load` succeeds with the same view and
directory. -/
theorem loadAny_cases :
    (∃ e, e.early = true ∧ loadAny inv bad d one = (.error e, d)) ∨
    (∃ e sc d1, e.early = false ∧ clustersOf d = .ok (sc, d1) ∧ loadAny inv bad d one = (.error e, d1)) ∨
    (∃ v d', loadAny inv bad d one = (.ok v, d') ∧ load inv d one = .ok (v, d') ∧ v.spikeTemplates.data ≠ []) := by
  generalize hr : loadAny inv bad d one = r
  unfold loadAny at hr
  -- one step per statement of `loadAny` that can fail: the failing branch closes (`decide` settles whether the error
  -- is an early one: the kernel compares the names faster than `rfl` does), the other goes on
  rcases htimes : timesOf d with _ | ⟨ti, sa, tc⟩
  · rw [htimes] at hr; exact .inl ⟨_, by decide +kernel, hr.symm⟩
  simp only [htimes] at hr
  by_cases hmono : (!monotone tc) = true
  · rw [if_pos hmono] at hr; exact .inl ⟨_, by decide +kernel, hr.symm⟩
  rw [if_neg hmono] at hr
  cases ha0 : readFile d ["spike_templates.npy", "spikes.templates*.npy"] with
  | none => rw [ha0] at hr; exact .inl ⟨_, by decide +kernel, hr.symm⟩
  | some a0 =>
  simp only [ha0] at hr
  by_cases hne : (squeeze (scrub a0)).data.isEmpty = true
  · rw [if_pos hne] at hr; exact .inl ⟨_, by decide +kernel, hr.symm⟩
  rw [if_neg hne] at hr
  by_cases hbad0 : "spike_templates" ∈ bad
  · rw [if_pos hbad0] at hr; exact .inl ⟨_, by decide +kernel, hr.symm⟩
  rw [if_neg hbad0] at hr
  by_cases hconf : ((findPath d ["spike_clusters.npy"]).isSome && (findPath d ["spikes.clusters*.npy"]).isSome) = true
  · rw [if_pos hconf] at hr; exact .inl ⟨_, by decide +kernel, hr.symm⟩
  rw [if_neg hconf] at hr
  rcases hcl : clustersOf d with e | ⟨sc, d1⟩
  · rw [hcl] at hr; exact .inl ⟨_, clustersOf_error_early d e hcl, hr.symm⟩
  simp only [hcl] at hr
  right
  cases ha1 : readFile d1 ["channel_map.npy", "channels.rawInd*.npy"] with
  | none => rw [ha1] at hr; exact .inl ⟨_, _, _, by decide +kernel, rfl, hr.symm⟩
  | some a1 =>
  simp only [ha1] at hr
  by_cases hbad1 : "channel_map" ∈ bad
  · rw [if_pos hbad1] at hr; exact .inl ⟨_, _, _, by decide +kernel, rfl, hr.symm⟩
  rw [if_neg hbad1] at hr
  cases ha2 : readFile d1 ["channel_positions.npy", "channels.localCoordinates*.npy"] with
  | none => rw [ha2] at hr; exact .inl ⟨_, _, _, by decide +kernel, rfl, hr.symm⟩
  | some a2 =>
  simp only [ha2] at hr
  split at hr
  · exact .inl ⟨_, _, _, by decide +kernel, rfl, hr.symm⟩
  refine .inr ⟨_, _, hr.symm, ?_, by simpa using hne⟩
  -- the same reads make `load` succeed; `timesOf` and `clustersOf` are two of its steps, written out there
  have htr := timesOf_read d ti sa tc htimes (by simpa using hmono)
  have hconf' := Bool.eq_false_iff.2 hconf
  have hd1 := clustersOf_ok_dir d sc d1 hcl
  subst hd1
  rcases clustersOf_cases d sc _ hcl with ⟨f, a, k4, k5, rfl, -⟩ | ⟨k4, f, a, k5, k6, rfl, -⟩
  · exact (load_ok_iff inv d _ _).2 ⟨ti, sa, a0, a, a1, a2, rfl, rfl, htr, ha0, hconf', .inl ⟨f, k4, k5⟩, ha1, ha2⟩
  · cases Option.some.inj (((readFile_eq_some d _ a).2 ⟨f, k5, k6⟩).symm.trans ha0)
    exact (load_ok_iff inv d _ _).2 ⟨ti, sa, a0, a0, a1, a2, rfl, rfl, htr, ha0, hconf', .inr ⟨k4, rfl⟩, ha1, ha2⟩

theorem loadAny_ok (v : View) (d' : Dir)
    (h : loadAny inv bad d one = (.ok v, d')) : load inv d one = .ok (v, d') ∧ v.spikeTemplates.data ≠ [] := by
  rcases loadAny_cases inv (one := one) bad d with ⟨e, -, he⟩ | ⟨e, sc, d1, -, -, he⟩ | ⟨v', d'', he, hl⟩ <;>
    rw [he] at h <;> cases h
  exact hl

theorem loadAny_early_unchanged (e : AnyErr)
    (h : (loadAny inv bad d one).1 = .error e) (he : e.early = true) : (loadAny inv bad d one).2 = d := by
  rcases loadAny_cases inv (one := one) bad d with ⟨e', -, hr⟩ | ⟨e', sc, d1, he', -, hr⟩ | ⟨v, d', hr, -⟩ <;>
    rw [hr] at h ⊢ <;> cases h
  rw [he] at he'
  cases he'

/-- what a load can have added to the directory, whatever its outcome -/
def Added (d d' : Dir) : Prop :=
  ∃ e1 e2, d' = d ++ e1 ++ e2 ∧
    (e1 = [] ∨ (findPath d ["spike_clusters.npy", "spikes.clusters*.npy"] = none ∧
      ∃ f a, findPath d ["spike_templates.npy", "spikes.templates*.npy"] = some f ∧ d.lookup f = some a ∧
        e1 = [("spike_clusters.npy", a)])) ∧
    (e2 = [] ∨ (d.lookup "whitening_mat_inv.npy" = none ∧ ∃ w, e2 = [("whitening_mat_inv.npy", w)]))

theorem added_refl (d : Dir) : Added d d := ⟨[], [], by simp, .inl rfl, .inl rfl⟩

theorem added_of_load (v : View) (d' : Dir)
    (h : load inv d one = .ok (v, d')) : Added d d' := by
  obtain ⟨a, w, rfl, hc⟩ := load_dir inv d v d' h
  refine ⟨_, _, rfl, ?_, ?_⟩
  · by_cases hn : findPath d ["spike_clusters.npy", "spikes.clusters*.npy"] = none
    · obtain ⟨f, hf, ha, -⟩ := hc hn
      exact .inr ⟨hn, f, a, hf, ha, if_pos hn⟩
    · exact .inl (if_neg hn)
  · by_cases hn : d.lookup "whitening_mat_inv.npy" = none
    · exact .inr ⟨hn, w, if_pos hn⟩
    · exact .inl (if_neg hn)

theorem loadAny_added : Added d (loadAny inv bad d one).2 := by
  rcases loadAny_cases inv (one := one) bad d with ⟨e, -, h⟩ | ⟨e, sc, d1, -, hcl, h⟩ | ⟨v, d', h, hl, -⟩ <;> rw [h]
  · exact added_refl d
  · rcases clustersOf_cases d sc d1 hcl with ⟨f, a, -, -, -, rfl⟩ | ⟨k4, f, a, k5, k6, -, rfl⟩
    · exact added_refl _
    · exact ⟨_, [], by simp, .inr ⟨k4, f, a, k5, k6, rfl⟩, .inl rfl⟩
  · exact added_of_load inv d v d' hl

end

theorem frame_of_added (d d' : Dir) (h : Added d d') :
    (∀ name a, d.lookup name = some a → d'.lookup name = some a) ∧
    (∀ name ∈ d'.map (·.1), name ∈ d.map (·.1) ∨ name = "spike_clusters.npy" ∨ name = "whitening_mat_inv.npy") ∧
    ("spike_clusters.npy" ∉ d.map (·.1) → "spike_clusters.npy" ∈ d'.map (·.1) →
      findPath d ["spike_clusters.npy", "spikes.clusters*.npy"] = none ∧
      ∃ f, findPath d ["spike_templates.npy", "spikes.templates*.npy"] = some f ∧
        d'.lookup "spike_clusters.npy" = d.lookup f) ∧
    ("whitening_mat_inv.npy" ∉ d.map (·.1) ∨ d'.lookup "whitening_mat_inv.npy" = d.lookup "whitening_mat_inv.npy") ∧
    d'.length ≤ d.length +
      (if findPath d ["spike_clusters.npy", "spikes.clusters*.npy"] = none then 1 else 0) +
      (if d.lookup "whitening_mat_inv.npy" = none then 1 else 0) := by
  obtain ⟨e1, e2, rfl, he1, he2⟩ := h
  have hkeep : ∀ name a, d.lookup name = some a → (d ++ e1 ++ e2).lookup name = some a :=
    fun name x hx => by rw [List.lookup_append, List.lookup_append, hx]; rfl
  have h1 : (∀ n ∈ e1.map (·.1), n = "spike_clusters.npy") ∧
      e1.length ≤ if findPath d ["spike_clusters.npy", "spikes.clusters*.npy"] = none then 1 else 0 := by
    rcases he1 with rfl | ⟨hn, f, a, -, -, rfl⟩
    · exact ⟨nofun, Nat.zero_le _⟩
    · exact ⟨fun n hm => List.mem_singleton.1 hm, by rw [if_pos hn]; exact Nat.le_refl 1⟩
  have h2 : (∀ n ∈ e2.map (·.1), n = "whitening_mat_inv.npy") ∧
      e2.length ≤ if d.lookup "whitening_mat_inv.npy" = none then 1 else 0 := by
    rcases he2 with rfl | ⟨hn, w, rfl⟩
    · exact ⟨nofun, Nat.zero_le _⟩
    · exact ⟨fun n hm => List.mem_singleton.1 hm, by rw [if_pos hn]; exact Nat.le_refl 1⟩
  refine ⟨hkeep, ?_, ?_, ?_, ?_⟩
  · intro name hname
    simp only [List.map_append, List.mem_append] at hname
    rcases hname with (hname | hname) | hname
    · exact .inl hname
    · exact .inr (.inl (h1.1 _ hname))
    · exact .inr (.inr (h2.1 _ hname))
  · intro hnm hm
    simp only [List.map_append, List.mem_append] at hm
    rcases he1 with rfl | ⟨hn, f, a, hf, ha, rfl⟩
    · rcases hm with (hm | hm) | hm
      · exact absurd hm hnm
      · cases hm
      · exact absurd (h2.1 _ hm) (by simp only [String.reduceEq, not_false_eq_true])
    · refine ⟨hn, f, hf, ?_⟩
      rw [ha, List.lookup_append, List.lookup_append, lookup_none_of_not_mem d _ hnm, List.lookup_cons_self]
      rfl
  · cases hl : d.lookup "whitening_mat_inv.npy" with
    | none => exact .inl (not_mem_of_lookup_none d _ hl)
    | some y => exact .inr (hkeep _ y hl)
  · rw [List.length_append, List.length_append]
    exact Nat.add_le_add (Nat.add_le_add_left h1.2 _) h2.2

theorem uniqueIds_spec (a : Arr) :
    C07.IsSortedSetOf (uniqueIds a) (fun v => ∃ c ∈ a.data, cellInt c = (v : Int)) := by
  obtain ⟨h1, h2⟩ := C07.Lemmas.unique_spec (a.data.map cellInt)
  refine ⟨h1, fun v => ?_⟩
  rw [uniqueIds, h2 v]
  simp [List.mem_map]

theorem uniqueIds_idSet (a : Arr) (hnn : ∀ c ∈ a.data, 0 ≤ cellInt c) : IsIdSetOf (uniqueIds a) a.data := by
  obtain ⟨h1, h2⟩ := uniqueIds_spec a
  refine ⟨h1, fun z => ⟨?_, ?_⟩⟩
  · rintro ⟨v, hv, rfl⟩
    exact (h2 v).1 hv
  · rintro ⟨c, hc, rfl⟩
    have h0 := hnn c hc
    refine ⟨(cellInt c).toNat, (h2 _).2 ⟨c, hc, ?_⟩, ?_⟩ <;> omega

section
variable {β : Type} (inv : Arr → Arr) (bad : List String) (rate : Rat) (tden ncd : Nat) (one : Cell)
  (raw : Option (List (List (List β)))) (d : Dir) (fv : FullView β) (d' : Dir)

theorem loadFull_ids (h : loadFull inv rate tden ncd one raw d = .ok (fv, d'))
    (hnn : ∀ c ∈ fv.base.spikeTemplates.data ++ fv.base.spikeClusters.data ++ fv.channelProbes.data, 0 ≤ cellInt c) :
    IsIdSetOf fv.base.templateIds fv.base.spikeTemplates.data ∧
    IsIdSetOf fv.base.clusterIds fv.base.spikeClusters.data ∧
    fv.channelProbes = fv.base.channelProbes.getD (zerosVec (fv.base.channelMap.shape.headD 0)) ∧
    IsIdSetOf fv.probes fv.channelProbes.data := by
  have nf := loadFull_nf inv rate tden ncd one raw d fv d' h
  exact ⟨uniqueIds_idSet _ fun c hc => hnn c (List.mem_append_left _ (List.mem_append_left _ hc)),
    uniqueIds_idSet _ fun c hc => hnn c (List.mem_append_left _ (List.mem_append_right _ hc)),
    nf.nChannels ▸ nf.channelProbes, uniqueIds_idSet _ fun c hc => hnn c (List.mem_append_right _ hc)⟩

theorem loadFull_wmi (h : loadFull inv rate tden ncd one raw d = .ok (fv, d')) :
    (∀ a, d.lookup "whitening_mat_inv.npy" = some a →
      fv.wmi = atleast 2 (squeeze (scrub a)) ∧ d'.lookup "whitening_mat_inv.npy" = some a) ∧
    (d.lookup "whitening_mat_inv.npy" = none →
      fv.wmi = inv fv.wm ∧ d'.lookup "whitening_mat_inv.npy" = some (inv fv.wm)) := by
  have nf := loadFull_nf inv rate tden ncd one raw d fv d' h
  refine ⟨fun a ha => ?_, fun hn => ?_⟩
  · rw [nf.wmi, wmi_stored inv d fv.base d' nf.base a ha]
    exact ⟨rfl, (load_frame inv d fv.base d' nf.base).1 _ a ha⟩
  · obtain ⟨h1, h2⟩ := wmi_default inv d fv.base d' nf.base hn
    rw [← nf.nChannels, ← nf.wm] at h2
    rw [nf.wmi, h1]
    exact ⟨rfl, h2⟩

theorem loadFull_duration_last (h : loadFull inv rate tden ncd one none d = .ok (fv, d')) (hne : fv.spikeTimes ≠ []) :
    fv.duration = fv.spikeTimes.getLast hne := by
  have := (loadFull_duration inv rate tden ncd one none d fv d' h).2 rfl
  rw [this.2, List.getLast?_eq_some_getLast hne]
  rfl

theorem loadAny_nonempty_times (h : loadFull inv rate tden ncd one raw d = .ok (fv, d'))
    (hany : loadAny inv bad d one = (.ok fv.base, d'))
    (hwf : fv.base.times.arr.data.length = fv.base.spikeTemplates.data.length) : fv.spikeTimes ≠ [] := by
  have hne := (loadAny_ok inv bad d fv.base d' hany).2
  intro h0
  have hl := timesVal_length rate tden fv.base.times
  rw [← (loadFull_nf inv rate tden ncd one raw d fv d' h).spikeTimes, h0, hwf] at hl
  exact hne (List.length_eq_zero_iff.1 hl.symm)

end

end PhyVerif.C04.Lemmas
