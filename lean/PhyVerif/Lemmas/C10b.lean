import PhyVerif.Lemmas.C10
import PhyVerif.Lemmas.C03b
/-! About `Model/C10.lean`, second part: which file wins for a metadata field (any visiting order, foreign files anywhere),
the arrays no step writes, and the subset store through the C03 model; at the end the fixtures of the examples of
`Props/C10.lean`. -/
namespace PhyVerif.C10.Lemmas
open PhyVerif PhyVerif.C10
open PhyVerif.C18 (Cell)

variable {α : Type} [Zero α]

/-! ### the loader: the last visited file that says anything about a field wins -/

theorem lookup_foldl_upsert {β : Type} (k : String) (fields : List (String × β)) : ∀ (acc : List (String × β)),
    (fields.foldl (fun a fd => (a.filter fun q => q.1 != fd.1) ++ [fd]) acc).lookup k =
      (fields.reverse ++ acc).lookup k := by
  induction fields with
  | nil => exact fun _ => rfl
  | cons fd rest ih =>
    obtain ⟨s, x⟩ := fd
    intro acc
    rw [List.foldl_cons, ih, List.lookup_append, Np.Lemmas.lookup_upsert, ← List.lookup_append,
      List.reverse_cons, List.append_assoc]
    rfl

theorem lookup_viewStep (parse : String → Cell) (fnum : Nat → Option Int)
    (acc : List (String × List (Cell × Cell))) (p : FName × File) (field : String) :
    (viewStep parse fnum acc p).lookup field = (fileField parse fnum field p).or (acc.lookup field) := by
  unfold viewStep fileField
  split
  · simp
  · cases h : loadMetadata parse fnum p.2 with
    | none => simp
    | some fields => rw [lookup_foldl_upsert, List.lookup_append]; rfl

theorem lookup_foldl_viewStep (parse : String → Cell) (fnum : Nat → Option Int) (field : String)
    (visit : List (FName × File)) : ∀ (acc : List (String × List (Cell × Cell))),
      (visit.foldl (viewStep parse fnum) acc).lookup field =
        (visit.reverse.findSome? (fileField parse fnum field)).or (acc.lookup field) := by
  induction visit with
  | nil => simp
  | cons p rest ih =>
    intro acc
    rw [List.foldl_cons, ih, lookup_viewStep, List.reverse_cons,
      List.findSome?_append, Option.or_assoc, List.findSome?_singleton]

theorem view_field_eq_last (parse : String → Cell) (fnum : Nat → Option Int) (visit : List (FName × File))
    (field : String) :
    (metadataViewIn parse fnum visit).lookup field = visit.reverse.findSome? (fileField parse fnum field) := by
  rw [metadataViewIn, lookup_foldl_viewStep]
  simp [Option.or_none]

/-! ### the file a save writes stays the only file of its name -/

/-- the saved file is in the directory, and every entry of its name has its content -/
def HasSaved (files : List (FName × File)) (name : FName) (T : File) : Prop :=
  (name, T) ∈ files ∧ ∀ p ∈ files, p.1 = name → p.2 = T

theorem mem_putFile (files : List (FName × File)) (name : FName) (f : File) (p : FName × File) :
    p ∈ putFile files name f ↔ (p ∈ files ∧ p.1 ≠ name) ∨ p = (name, f) := by
  simp [putFile]

theorem hasSaved_putFile_self (files : List (FName × File)) (name : FName) (T : File) :
    HasSaved (putFile files name T) name T := by
  refine ⟨(mem_putFile _ _ _ _).2 (Or.inr rfl), fun p hp hn => ?_⟩
  rcases (mem_putFile _ _ _ _).1 hp with ⟨_, h⟩ | rfl
  · exact absurd hn h
  · rfl

theorem hasSaved_putFile_other (files : List (FName × File)) (name other : FName) (T U : File)
    (hne : other ≠ name) (h : HasSaved files name T) : HasSaved (putFile files other U) name T := by
  refine ⟨(mem_putFile _ _ _ _).2 (Or.inl ⟨h.1, fun e => hne e.symm⟩), fun p hp hn => ?_⟩
  rcases (mem_putFile _ _ _ _).1 hp with ⟨hp, _⟩ | rfl
  · exact h.2 p hp hn
  · exact absurd hn hne

theorem hasSaved_step (render : Cell → String) (scale : α → α) (field : String) (T : File) (d : Disk α) (op : Op)
    (hop : match op with
      | .saveMeta f _ => f ≠ field
      | .writeFile s _ => s ≠ ("cluster_" ++ field, true)
      | _ => True)
    (h : HasSaved d.files ("cluster_" ++ field, true) T) :
    HasSaved (step render scale d op).files ("cluster_" ++ field, true) T := by
  cases op with
  | saveMeta f m =>
    exact hasSaved_putFile_other _ _ _ _ _ (bne_iff_ne.1 ((name_bne f field).trans (bne_iff_ne.2 hop))) h
  | writeFile s f => exact hasSaved_putFile_other _ _ _ _ _ hop h
  | _ => rwa [step_files render scale d _ trivial]

theorem hasSaved_history (render : Cell → String) (scale : α → α) (d : Disk α) (pre post : List Op)
    (field : String) (m : List (Nat × Option Cell)) (hk : KeepsSaved field post) :
    HasSaved (run render scale d (pre ++ .saveMeta field m :: post)).files ("cluster_" ++ field, true)
      (simpleTable render field (cleanMeta m)) := by
  rw [run_append, run_cons]
  exact run_invariant render scale (fun d => HasSaved d.files _ _) _ (hasSaved_step render scale field _) post _ hk
    (hasSaved_putFile_self _ _ _)

/-- no `.tsv` file other than `cluster_<field>.tsv` says anything about `field`: written out, the hypothesis `hother` of
`metadata_last_saved_among_files` and `hinit` of `metadata_last_saved` -/
def OthersSilent (parse : String → Cell) (fnum : Nat → Option Int) (field : String) (files : List (FName × File)) :
    Prop :=
  ∀ p ∈ files, p.1.2 = true → p.1 ≠ ("cluster_" ++ field, true) → fileField parse fnum field p = none

theorem fileField_saved (render : Cell → String) (parse : String → Cell) (fnum : Nat → Option Int)
    (field : String) (hfield : field ≠ "cluster_id") (hinfo : field ≠ "info")
    (data : List (Nat × Cell)) (hrt : ∀ p ∈ data, parse (render p.2) = p.2) (hne : ∀ p ∈ data, render p.2 ≠ "")
    (hid : ∀ n : Nat, parse (toString n) = .int n) (hs : Sorted data) (hdata : data ≠ []) :
    fileField parse fnum field (("cluster_" ++ field, true), simpleTable render field data) =
      some (data.map fun p => (Cell.int p.1, p.2)) := by
  -- evaluated by the kernel: the elaborator's unifier is slow on string literals
  have e : "cluster_info" = "cluster_" ++ "info" := by decide +kernel
  unfold fileField
  rw [e, stem_beq, beq_false_of_ne hinfo, if_neg Bool.false_ne_true,
    loadMetadata_simpleTable render parse fnum field hfield data hrt hne hid hs,
    if_neg hdata, Option.bind_some, List.reverse_singleton, List.lookup_cons_self]

theorem findSome?_const {β γ : Type} (g : β → Option γ) (X : γ) (l : List β)
    (hall : ∀ p ∈ l, g p = none ∨ g p = some X) (hex : ∃ p ∈ l, g p = some X) : l.findSome? g = some X := by
  induction l with
  | nil => obtain ⟨p, hp, _⟩ := hex; cases hp
  | cons a l ih =>
    rcases hall a List.mem_cons_self with h | h
    · rw [List.findSome?_cons, h]
      apply ih (fun p hp => hall p (List.mem_cons_of_mem _ hp))
      obtain ⟨p, hp, hg⟩ := hex
      rcases List.mem_cons.1 hp with rfl | hp
      · rw [h] at hg; cases hg
      · exact ⟨p, hp, hg⟩
    · rw [List.findSome?_cons, h]

theorem metadata_last_saved_among_files (render : Cell → String) (parse : String → Cell) (fnum : Nat → Option Int)
    (scale : α → α)
    (d : Disk α) (pre post : List Op) (field : String) (m : List (Nat × Option Cell))
    (hrt : ∀ p ∈ cleanMeta m, parse (render p.2) = p.2) (hne : ∀ p ∈ cleanMeta m, render p.2 ≠ "")
    (hid : ∀ n : Nat, parse (toString n) = .int n)
    (hkeep : KeepsSaved field post)
    (hfield : field ≠ "cluster_id") (hinfo : field ≠ "info") (hvals : cleanMeta m ≠ [])
    (order : List (FName × File))
    (hperm : order.Perm (run render scale d (pre ++ .saveMeta field m :: post)).files)
    (hother : ∀ p ∈ (run render scale d (pre ++ .saveMeta field m :: post)).files,
      p.1.2 = true → p.1 ≠ ("cluster_" ++ field, true) → fileField parse fnum field p = none) :
    (metadataView parse fnum order).lookup field =
      some ((cleanMeta m).map fun p => (Cell.int p.1, p.2)) := by
  have hsaved := hasSaved_history render scale d pre post field m hkeep
  generalize (run render scale d (pre ++ .saveMeta field m :: post)).files = files at *
  have hX := fileField_saved render parse fnum field hfield hinfo (cleanMeta m) hrt hne hid
    (sorted_cleanMeta m) hvals
  rw [metadataView, view_field_eq_last, List.reverse_append, List.findSome?_append]
  have htsv : (order.filter fun p => p.1.2).reverse.findSome? (fileField parse fnum field) =
      some ((cleanMeta m).map fun p => (Cell.int p.1, p.2)) := by
    apply findSome?_const
    · intro p hp
      have hp' := List.mem_filter.1 (List.mem_reverse.1 hp)
      have hpf : p ∈ files := hperm.mem_iff.1 hp'.1
      by_cases hn : p.1 = ("cluster_" ++ field, true)
      · have e : p = (("cluster_" ++ field, true), simpleTable render field (cleanMeta m)) :=
          Prod.ext hn (hsaved.2 p hpf hn)
        exact Or.inr (e ▸ hX)
      · exact Or.inl (hother p hpf hp'.2 hn)
    · refine ⟨(("cluster_" ++ field, true), simpleTable render field (cleanMeta m)), ?_, hX⟩
      rw [List.mem_reverse, List.mem_filter]
      exact ⟨hperm.mem_iff.2 hsaved.1, rfl⟩
  rw [htsv, Option.some_or]

/-- a field of the abstract state was last written by one `saveMeta` of the history, after which the history leaves
its file alone -/
theorem last_save_split (field : String) (vals : List (Nat × Cell)) (ops : List Op) : ∀ (a : Abs), OwnOps ops →
    (absRun a ops).fields.lookup field = some vals →
    (∃ pre m post, ops = pre ++ .saveMeta field m :: post ∧ KeepsSaved field post ∧ vals = cleanMeta m ∧
      field ≠ "cluster_id") ∨
    (KeepsSaved field ops ∧ a.fields.lookup field = some vals) := by
  induction ops with
  | nil => exact fun _ _ h => Or.inr ⟨nofun, h⟩
  | cons op ops ih =>
    intro a hown h
    have hop := hown op List.mem_cons_self
    rcases ih (absStep a op) (fun o ho => hown o (List.mem_cons_of_mem _ ho)) h with
      ⟨pre, m, post, he, hk, hv, hc⟩ | ⟨hk, hl⟩
    · exact Or.inl ⟨op :: pre, m, post, by rw [he]; rfl, hk, hv, hc⟩
    · cases op with
      | saveMeta f m =>
        simp only [absStep] at hl
        by_cases hf : f = field
        · subst hf
          rw [Np.Lemmas.lookup_upsert, List.lookup_cons_self] at hl
          exact Or.inl ⟨[], m, ops, rfl, hk, (Option.some.inj hl).symm, hop⟩
        · rw [Np.Lemmas.lookup_upsert_ne _ _ _ _ (Ne.symm hf)] at hl
          exact Or.inr ⟨List.forall_mem_cons.2 ⟨hf, hk⟩, hl⟩
      | writeFile s f => exact hop.elim
      | _ => exact Or.inr ⟨List.forall_mem_cons.2 ⟨trivial, hk⟩, hl⟩

/-- a step of an `OwnOps` history keeps the other files silent: a save of another field writes a two-column file of
THAT field -/
theorem othersSilent_step (render : Cell → String) (parse : String → Cell) (fnum : Nat → Option Int)
    (scale : α → α) (field : String) (hfield : field ≠ "cluster_id") (d : Disk α) (op : Op)
    (hop : match op with
      | .writeFile _ _ => False
      | .saveMeta f _ => f ≠ "cluster_id"
      | _ => True)
    (h : OthersSilent parse fnum field d.files) : OthersSilent parse fnum field (step render scale d op).files := by
  cases op with
  | writeFile s f => exact hop.elim
  | saveMeta f m =>
    intro p hp htsv hn
    rcases (mem_putFile _ _ _ _).1 hp with ⟨hp, _⟩ | rfl
    · exact h p hp htsv hn
    · have hff : field ≠ f := fun e => hn (by rw [e])
      apply fileField_none_of_header
      simp only [List.mem_cons, List.mem_nil_iff, or_false, not_or]
      exact ⟨hfield, hff⟩
  | _ => rwa [step_files render scale d _ trivial]

theorem metadata_last_saved (render : Cell → String) (parse : String → Cell) (fnum : Nat → Option Int)
    (scale : α → α) (d : Disk α) (ops : List Op) (hown : OwnOps ops) (field : String) (vals : List (Nat × Cell))
    (hrt : ∀ p ∈ vals, parse (render p.2) = p.2) (hne : ∀ p ∈ vals, render p.2 ≠ "")
    (hid : ∀ n : Nat, parse (toString n) = .int n)
    (hinit : ∀ p ∈ d.files, p.1.2 = true → p.1 ≠ ("cluster_" ++ field, true) → fileField parse fnum field p = none)
    (hf : (absRun ⟨[], []⟩ ops).fields.lookup field = some vals)
    (hinfo : field ≠ "info") (hvals : vals ≠ []) :
    fieldView parse fnum (run render scale d ops) field =
      some (vals.map fun p => (Cell.int p.1, p.2)) := by
  rcases last_save_split field vals ops ⟨[], []⟩ hown hf with ⟨pre, m, post, rfl, hk, rfl, hc⟩ | ⟨_, hl⟩
  · exact metadata_last_saved_among_files render parse fnum scale d pre post field m hrt hne hid hk hc hinfo
      hvals _ (List.Perm.refl _)
      (run_invariant render scale (fun d => OthersSilent parse fnum field d.files) _
        (othersSilent_step render parse fnum scale field hc) _ d hown hinit)
  · cases hl

theorem fixed_run (render : Cell → String) (scale : α → α) (ops : List Op) (d : Disk α) :
    (run render scale d ops).fixed = d.fixed :=
  run_invariant render scale (fun d' => d'.fixed = d.fixed) (fun _ => True)
    (fun d' op _ h => (step_fixed render scale d' op).trans h) ops d (fun _ _ => trivial) rfl

theorem templates_times_unchanged (render : Cell → String) (scale : α → α) (d : Disk α) (ops : List Op) :
    (run render scale d ops).fixed.spikeTemplates = d.fixed.spikeTemplates ∧
    (run render scale d ops).fixed.spikeSamples = d.fixed.spikeSamples ∧
    (run render scale d ops).fixed = d.fixed := by
  have h := fixed_run render scale ops d
  exact ⟨by rw [h], by rw [h], h⟩

/-- kept by every step with an in-scope selection: the fixed arrays are `fx` and the subset files are those of an
in-scope export on them (`SubsetFromExport`) -/
theorem subInv_step (render : Cell → String) (scale : α → α) (fx : Fixed α) (d : Disk α) (op : Op)
    (hop : match op with
      | .saveSubset sel _ => sel.Pairwise (· < ·) ∧ ∀ i ∈ sel, i < fx.spikeSamples.length
      | _ => True)
    (h : d.fixed = fx ∧ SubsetFromExport scale fx d.subset) :
    (step render scale d op).fixed = fx ∧ SubsetFromExport scale fx (step render scale d op).subset := by
  refine ⟨(step_fixed render scale d op).trans h.1, ?_⟩
  cases op with
  | saveSubset sel maxN =>
    rw [step_saveSubset]
    split
    · exact Or.inr ⟨sel, maxN, hop.1, hop.2, by rw [h.1]⟩
    · exact h.2
  | _ => rw [step_subset render scale d _ trivial]; exact h.2

theorem subInv_run (render : Cell → String) (scale : α → α) (fx : Fixed α) (ops : List Op) (d : Disk α)
    (hsel : SelOK fx ops) (h : d.fixed = fx ∧ SubsetFromExport scale fx d.subset) :
    (run render scale d ops).fixed = fx ∧ SubsetFromExport scale fx (run render scale d ops).subset :=
  run_invariant render scale _ _ (subInv_step render scale fx) ops d hsel h

/-- no operation removes the subset files -/
theorem subset_isSome_run (render : Cell → String) (scale : α → α) (ops : List Op) (d : Disk α)
    (h : d.subset.isSome) : (run render scale d ops).subset.isSome := by
  refine run_invariant render scale (fun d => d.subset.isSome) (fun _ => True) (fun d op _ h => ?_) ops d
    (fun _ _ => trivial) h
  cases op with
  | saveSubset sel maxN =>
    rw [step_saveSubset]
    split
    · rfl
    · exact h
  | _ => rwa [step_subset render scale d _ trivial]

theorem store_eq_raw (scale : α → α) (nch : Nat) (fx : Fixed α) (hfx : FixedOK nch fx)
    (sub : Option (C03.SubsetFiles α)) (hinv : SubsetFromExport scale fx sub)
    (st : C03.Store α) (hst : sub.bind C03.loadSubset = some st)
    (query : List Nat) (hq : ∀ q ∈ query, q ∈ st.spikeIds) (chq : List Nat) (hchq : chq ≠ []) :
    C03.getSpikeWaveforms st query chq fx.nsw =
      some (query.map fun q =>
        C03.lookupSpec scale fx.raw (fx.spikeSamples.getD q 0) fx.nsw
          (st.spikeChannels.getD (st.spikeIds.idxOf q) []) chq) ∧
    ∃ nc, 0 < nc ∧ st.spikeChannels = st.spikeIds.map fun i =>
      C03.templateNChannels true (fx.orders.getD (fx.spikeTemplates.getD i 0) []) nc := by
  rcases hinv with rfl | ⟨sel, maxN, hs1, hs2, rfl⟩
  · cases hst
  · obtain ⟨w, hw⟩ := C03.Lemmas.subset_loads scale fx.raw nch fx.chunks hfx.tile
      fx.spikeSamples hfx.sorted hfx.inrange fx.spikeTemplates hfx.tlen fx.orders
      hfx.tbound hfx.ord sel hs1 hs2 fx.nsw (C03.subsetWidth maxN fx.nClosest)
    rw [Option.bind_some, hw] at hst
    cases hst
    have key := C03.Lemmas.subset_store_eq_raw scale fx.raw nch fx.chunks hfx.tile
      fx.spikeSamples hfx.sorted hfx.inrange fx.spikeTemplates hfx.tlen fx.orders
      hfx.tbound hfx.ord sel hs1 hs2 fx.nsw hfx.nsw (C03.subsetWidth maxN fx.nClosest)
      query hq chq hchq
    rw [hw] at key
    refine ⟨key.trans (congrArg some (List.map_congr_left fun q hqq => ?_)), _, ?_, rfl⟩
    · rw [Np.Lemmas.getD_map_idxOf _ [] sel q (hq q hqq)]
    · have := hfx.closest
      unfold C03.subsetWidth
      omega

theorem subset_eq_raw (render : Cell → String) (scale : α → α) (nch : Nat) (d : Disk α)
    (hfx : FixedOK nch d.fixed) (hinit : SubsetFromExport scale d.fixed d.subset) (ops : List Op)
    (hsel : SelOK d.fixed ops)
    (st : C03.Store α) (hst : storeView (run render scale d ops) = some st)
    (query : List Nat) (hq : ∀ q ∈ query, q ∈ st.spikeIds) (chq : List Nat) (hchq : chq ≠ []) :
    C03.getSpikeWaveforms st query chq d.fixed.nsw =
      some (query.map fun q =>
        C03.lookupSpec scale d.fixed.raw (d.fixed.spikeSamples.getD q 0) d.fixed.nsw
          (st.spikeChannels.getD (st.spikeIds.idxOf q) []) chq) ∧
    ∃ nc, 0 < nc ∧ st.spikeChannels = st.spikeIds.map fun i =>
      C03.templateNChannels true (d.fixed.orders.getD (d.fixed.spikeTemplates.getD i 0) []) nc :=
  store_eq_raw scale nch d.fixed hfx _
    (subInv_run render scale d.fixed ops d hsel ⟨rfl, hinit⟩).2 st hst query hq chq hchq

/-- after an export anywhere in the history — whatever subset files the directory held before — the files are there
and are those of an in-scope export -/
theorem subInv_after_export (render : Cell → String) (scale : α → α) (nch : Nat) (d : Disk α)
    (hfx : FixedOK nch d.fixed) (a b : List Op) (sel : List Nat) (maxN : Nat)
    (hsel : SelOK d.fixed (a ++ .saveSubset sel maxN :: b)) :
    SubsetFromExport scale d.fixed (run render scale d (a ++ .saveSubset sel maxN :: b)).subset ∧
    (run render scale d (a ++ .saveSubset sel maxN :: b)).subset.isSome := by
  have hb := List.forall_mem_cons.1 (List.forall_mem_append.1 hsel).2
  have hfa := fixed_run render scale a d
  have hmid : (step render scale (run render scale d a) (.saveSubset sel maxN)).subset =
      some (C03.saveSubset scale d.fixed.raw d.fixed.chunks d.fixed.spikeSamples d.fixed.spikeTemplates
        d.fixed.orders sel d.fixed.nsw (C03.subsetWidth maxN d.fixed.nClosest)) := by
    rw [step_saveSubset, hfa, hfx.raw]
    rfl
  rw [run_append, run_cons]
  exact ⟨(subInv_run render scale d.fixed b _ hb.2
      ⟨(step_fixed render scale _ _).trans hfa, Or.inr ⟨sel, maxN, hb.1.1, hb.1.2, hmid⟩⟩).2,
    subset_isSome_run render scale b _ (by rw [hmid]; rfl)⟩

theorem subset_present (render : Cell → String) (scale : α → α) (nch : Nat) (d : Disk α)
    (hfx : FixedOK nch d.fixed) (a b : List Op) (sel : List Nat) (maxN : Nat)
    (hsel : SelOK d.fixed (a ++ .saveSubset sel maxN :: b)) :
    (storeView (run render scale d (a ++ .saveSubset sel maxN :: b))).isSome := by
  obtain ⟨hinv, hsome⟩ := subInv_after_export render scale nch d hfx a b sel maxN hsel
  unfold storeView
  rcases hinv with hnone | ⟨sel', maxN', hs1, hs2, hsub⟩
  · rw [hnone] at hsome; cases hsome
  · obtain ⟨w, hw⟩ := C03.Lemmas.subset_loads scale d.fixed.raw nch d.fixed.chunks hfx.tile
      d.fixed.spikeSamples hfx.sorted hfx.inrange d.fixed.spikeTemplates hfx.tlen d.fixed.orders
      hfx.tbound hfx.ord sel' hs1 hs2 d.fixed.nsw (C03.subsetWidth maxN' d.fixed.nClosest)
    rw [hsub, Option.bind_some, hw]
    rfl

theorem subset_eq_raw_after_export (render : Cell → String) (scale : α → α) (nch : Nat) (d : Disk α)
    (hfx : FixedOK nch d.fixed) (a b : List Op) (sel : List Nat) (maxN : Nat)
    (hsel : SelOK d.fixed (a ++ .saveSubset sel maxN :: b))
    (st : C03.Store α) (hst : storeView (run render scale d (a ++ .saveSubset sel maxN :: b)) = some st)
    (query : List Nat) (hq : ∀ q ∈ query, q ∈ st.spikeIds) (chq : List Nat) (hchq : chq ≠ []) :
    C03.getSpikeWaveforms st query chq d.fixed.nsw =
      some (query.map fun q =>
        C03.lookupSpec scale d.fixed.raw (d.fixed.spikeSamples.getD q 0) d.fixed.nsw
          (st.spikeChannels.getD (st.spikeIds.idxOf q) []) chq) ∧
    ∃ nc, 0 < nc ∧ st.spikeChannels = st.spikeIds.map fun i =>
      C03.templateNChannels true (d.fixed.orders.getD (d.fixed.spikeTemplates.getD i 0) []) nc :=
  store_eq_raw scale nch d.fixed hfx _ (subInv_after_export render scale nch d hfx a b sel maxN hsel).1
    st hst query hq chq hchq

theorem export_needs_raw (render : Cell → String) (scale : α → α) : ∀ (ops : List Op) (d : Disk α),
    d.fixed.hasRaw = false → (run render scale d ops).subset = d.subset := by
  intro ops d h
  refine (run_invariant render scale (fun d' => d'.fixed = d.fixed ∧ d'.subset = d.subset) (fun _ => True)
    (fun d' op _ hI => ⟨(step_fixed render scale d' op).trans hI.1, ?_⟩) ops d (fun _ _ => trivial) ⟨rfl, rfl⟩).2
  cases op with
  | saveSubset sel maxN =>
    rw [step_saveSubset, hI.1, h]
    exact hI.2
  | _ => rw [step_subset render scale d' _ trivial]; exact hI.2

end PhyVerif.C10.Lemmas

/-! fixtures of the non-vacuity examples in `Props/C10.lean` -/
namespace PhyVerif.C10
open PhyVerif.C18 (Cell)
/-- a small dataset: 4 samples × 3 channels, 4 spikes of templates 1,0,1,0 -/
def exFixed : Fixed Int :=
  { spikeTemplates := [1, 0, 1, 0], spikeSamples := [0, 1, 3, 3],
    raw := [[1, 2, 3], [4, 5, 6], [7, 8, 9], [10, 11, 12]], chunks := [(0, 3), (3, 4)],
    orders := [[2, 0, 1], [1]], nsw := 2, nClosest := 2, hasRaw := true }
/-- `fnum` of a file without integral float ids -/
def noF : Nat → Option Int := fun _ => none
def exRender : Cell → String := fun c => match c with | .int i => toString i | .float t => s!"F{t}" | .text s => s
end PhyVerif.C10
