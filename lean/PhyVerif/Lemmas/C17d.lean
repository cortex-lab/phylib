import PhyVerif.Lemmas.C17
/-! C17, closed form of the selection: without an effective count the selector is deterministic and returns
exactly the eligible spikes of the requested clusters; with a count it returns a subset of them. -/
namespace PhyVerif.C17.Lemmas
open PhyVerif PhyVerif.C17

theorem allEligible_pairwise (x : Inp) : (allEligible x).Pairwise (· < ·) :=
  List.Pairwise.filter _ List.pairwise_lt_range

theorem mem_allEligible (x : Inp) (v : Nat) :
    v ∈ allEligible x ↔ ∃ c ∈ x.req, v ∈ eligibleSpec x c := by
  unfold allEligible eligibleSpec
  simp only [List.mem_filter, List.mem_range, Bool.and_eq_true, beq_iff_eq, List.contains_iff_mem]
  constructor
  · rintro ⟨hv, ⟨hr, hk⟩, hs⟩
    exact ⟨_, hr, hv, ⟨rfl, hk⟩, hs⟩
  · rintro ⟨c, hc, hv, ⟨he, hk⟩, hs⟩
    exact ⟨hv, ⟨he ▸ hc, hk⟩, hs⟩

theorem selectCluster_noCount (choose : List Nat → Nat → List Nat) (x : Inp) (hg : GridOK x.bounds)
    (hn : NoCount x) (c : Nat) : selectCluster choose x c = eligibleSpec x c := by
  rw [selectCluster_eq choose x hg c]
  unfold NoCount at hn
  cases hc : x.count with
  | none => rfl
  | some n =>
    rw [hc] at hn
    exact if_neg fun h => absurd h.1 (Int.not_lt.2 hn)

theorem selectWith_sub_allEligible (choose : List Nat → Nat → List Nat) (hch : ChooseOK choose) (x : Inp)
    (hg : GridOK x.bounds) (v : Nat) (h : v ∈ selectWith choose x) : v ∈ allEligible x := by
  obtain ⟨c, hc, hv⟩ := ((selectWith_spec choose x).2 v).1 h
  exact (mem_allEligible x v).2 ⟨c, hc, mem_selectCluster choose hch x hg c v hv⟩

theorem selectWith_noCount (choose : List Nat → Nat → List Nat) (x : Inp) (hg : GridOK x.bounds)
    (hn : NoCount x) : selectWith choose x = allEligible x := by
  obtain ⟨hpw, hmem⟩ := selectWith_spec choose x
  apply Np.Lemmas.eq_of_pairwise_lt_of_mem_iff _ _ hpw (allEligible_pairwise x)
  intro v
  rw [hmem v, mem_allEligible x v]
  simp only [selectCluster_noCount choose x hg hn]

theorem allEligible_plain (x : Inp) (hc : x.subsetChunks = false) (hs : x.subset = none) :
    allEligible x = C07.spikesInClusters x.clusters x.req := by
  unfold allEligible
  rw [C07.Lemmas.spikesInClusters_eq, hc, hs]
  simp only [Bool.not_false, Bool.true_or, Bool.and_true]

end PhyVerif.C17.Lemmas
