import PhyVerif.Lemmas.C11h
import PhyVerif.Lemmas.C11i
import PhyVerif.Lemmas.C11j
import PhyVerif.Lemmas.C11d
/-! The merge of `Model/C11e.lean` on loadable inputs of the domain `InDomain` in closed form (`merge_run`: the saves
are `mergerSaves`, then the final `load_model`; the registers end as the spike order and the offsets of the inputs);
with the inversion `merge_inv`: the merge returns exactly on these, and leaves the files of `expectedOut` (`merge_ok`;
Props: `merge_ok_contents`). -/
namespace PhyVerif.C11.Lemmas
open PhyVerif PhyVerif.C11

/-- the file system after the final `load_model` of the directory `out` -/
def loadModelFS (out : String) (fs : FS) : FS :=
  saveAll out fs (modelSaves (fs.read (out, "whitening_mat_inv.npy")) (fs.read (out, "whitening_mat.npy")))

theorem merge_run (fs : FS) (subdirs : List String) (out : String) (hout : out ∉ subdirs)
    (I : Inputs) (hL : Loaded fs subdirs I) (hD : InDomain subdirs I) :
    ∃ p, C12.mergeParams I.params = some p ∧
      merge fs subdirs out = ((loadModelFS out (saveAll out fs (mergerSaves subdirs I p)),
        ⟨spikeOrder I.times, I.clusters, templateOffsets I.templates (I.tmpl.map List.length),
          C12.chanIndexOffsets I.maps⟩), none) := by
  obtain ⟨l1, l3, l4, l5, l6, l7, l8, l9, l10, l11, l12, l13, l14, l15, l16, l17⟩ := hL
  obtain ⟨d0, dsc, dst, dmaps, dpos, k3, k4, k5, k6, n4, n5, n6, k12, k13, k14⟩ := hD
  have hsub : subdirs.isEmpty = false := by simpa using d0
  have hpos : 0 < subdirs.length := List.length_pos_iff.mpr d0
  have hscl := loadEach_length _ _ _ l6
  have hstl := loadEach_length _ _ _ l5
  have htl : (I.tmpl.map List.length).length = I.templates.length := by
    rw [List.length_map, loadEach_length _ _ _ l12, hstl]
  have hsc0 : I.clusters ≠ [] := List.ne_nil_of_length_pos (hscl ▸ hpos)
  obtain ⟨p, hp⟩ : ∃ p, C12.mergeParams I.params = some p :=
    match I.params, loadEach_length _ _ _ l1 with
    | [], h => absurd hpos (h ▸ Nat.lt_irrefl 0)
    | _ :: _, _ => ⟨_, rfl⟩
  refine ⟨p, hp, ?_⟩
  have ho := (spikeOrder_length I.times).symm
  unfold merge
  simp only [hsub, Bool.false_eq_true, if_false, computes, tsvNames, miscNames, List.map_cons, List.map_nil,
    List.cons_append, List.nil_append]
  -- `fs` is the file system after no saves
  show runSteps _ (saveAll out fs [], _) = _
  rw [step_run hout cParams_inputOnly (cParams_run l1 hp),
    step_run hout cProbeDesc_inputOnly rfl,
    step_run hout cSpikeTimes_inputOnly (cSpikeTimes_run l3 k3),
    step_run hout cAmplitudes_inputOnly
      (cAmplitudes_run (reg := { order := spikeOrder I.times }) l4 k4 (n4.trans ho)),
    step_run hout cSpikeTemplatesRaw_inputOnly
      (cSpikeTemplatesRaw_run (reg := { order := spikeOrder I.times }) l5 k5 (n5.trans ho)),
    step_run hout cSpikeClusters_inputOnly
      (cSpikeClusters_run (reg := { order := spikeOrder I.times }) l6 l5
        ((loadCount_iff fs subdirs _ _ _ _ hscl hstl l12).mpr ⟨dsc, dst, rfl⟩) k6 k5
        ((shiftIds_flatten_length _).trans (n6.trans ho))
        ((shiftBy_flatten_length _ _ (templateOffsets_length _ _ htl)).trans (n5.trans ho))
        (clusterProbes_length I.times I.clusters n6 dsc hsc0).1.symm),
    step_run hout cClusterData_inputOnly (cClusterData_run l7),
    step_run hout cClusterData_inputOnly (cClusterData_run l8),
    step_run hout cClusterData_inputOnly (cClusterData_run l9),
    step_run hout cChannelData_inputOnly (cChannelData_run l10 dmaps),
    step_run hout cChannelPositions_inputOnly (cChannelPositions_run l11 dpos),
    step_run hout cTemplates_inputOnly (cTemplates_run l12 k12),
    step_run hout cPcInd_inputOnly (cPcInd_run l13 k13),
    step_run hout cTfInd_inputOnly (cTfInd_run l14 k14),
    step_run hout cMisc_inputOnly (cMisc_run l15),
    step_run hout cMisc_inputOnly (cMisc_run l16),
    step_run hout cMisc_inputOnly (cMisc_run l17)]
  simp only [runSteps, saveStep, cLoadModel_eq]
  rfl

theorem merge_ok (fs : FS) (subdirs : List String) (out : String) (fs' : FS) (reg' : Reg)
    (h : merge fs subdirs out = ((fs', reg'), none)) (hout : out ∉ subdirs) :
    ∃ I, Loaded fs subdirs I ∧ InDomain subdirs I ∧
      ((∀ n, fs.read (out, n) = none) → ∀ name, fs'.read (out, name) = expectedOut subdirs I name) := by
  obtain ⟨I, hL, hD⟩ := merge_inv fs subdirs out hout (by rw [h])
  obtain ⟨p, m1, hm⟩ := merge_run fs subdirs out hout I hL hD
  refine ⟨I, hL, hD, fun hempty name => ?_⟩
  rw [show fs' = _ from congrArg (·.1.1) (h.symm.trans hm)]
  simp only [loadModelFS, saveAll_read_out, hempty]
  exact allSaves_last subdirs I p m1 name

theorem merge_returns_iff (fs : FS) (subdirs : List String) (out : String) (hout : out ∉ subdirs) :
    (merge fs subdirs out).2 = none ↔ ∃ I, Loaded fs subdirs I ∧ InDomain subdirs I :=
  ⟨merge_inv fs subdirs out hout, fun ⟨I, hL, hD⟩ => by
    obtain ⟨_, _, hm⟩ := merge_run fs subdirs out hout I hL hD
    rw [hm]⟩

end PhyVerif.C11.Lemmas
