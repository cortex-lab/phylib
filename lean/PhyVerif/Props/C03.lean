import PhyVerif.Model.C03
import PhyVerif.Spec.C03
import PhyVerif.Lemmas.C03
import PhyVerif.Lemmas.C03b
import PhyVerif.Lemmas.C03c
/-!
# C03 — every route to a spike waveform yields the same zero-padded raw window
Only property theorems + non-vacuity examples; proofs in `Lemmas/C03.lean`, `C03b.lean` (composition,
`TemplateModel`) and `C03c.lean` (readers).
-/
namespace PhyVerif.C03
open PhyVerif PhyVerif.C16

variable {α : Type} [Zero α]

/-- Direct extraction: for every rectangular recording with `nch` channels, every spike inside it, every window
length (odd or even, also longer than the recording) and every channel list with or without −1 entries, the
extracted waveform is exactly the zero-padded window. (Domain: `Rect A nch` is what makes `ChOK nch ch` say "a valid
channel of THIS recording"; the proof does not use it because both sides read an absent cell as `0`, where the
real code raises IndexError for a channel ≥ nch and is outside the property. A spike sample outside `[0, dur)` is
outside the quantifier as well: the real code raises AssertionError (the stacked window has the wrong height).
`_hn`: the real code asserts `nsw > 0` (traces.py:601, 627); for `n = 0` both sides are the empty window.
Sample and window length are mathematical integers: the real code converts both with `int(…)` before the window
bounds are computed, whatever NumPy integer type (signed or unsigned, any width) the caller passes.) -/
theorem extract_eq_window (A : List (List α)) (nch : Nat) (_hrect : Rect A nch) (s : Int)
    (hs0 : 0 ≤ s) (hs : s < A.length) (n : Nat) (_hn : 0 < n) (ch : List Int) (hch : ChOK nch ch) :
    extractWaveform A s n ch = window A s n ch :=
  Lemmas.extract_eq_window A nch s hs0 hs n ch hch

/-- Chunk-by-chunk iteration: whenever the reader's chunk intervals tile `[0, dur)` in order
(the C16 theorems) and the spikes are sorted, the concatenated batches are exactly one window per
spike, in spike order, each spike once — wherever spikes fall relative to chunk boundaries. -/
theorem iter_concat_eq_map (A : List (List α)) (ivs : List (Nat × Nat))
    (hT : intervalsTile A.length ivs = true) (spikes : List Int) (chans : List (List Int))
    (_hlen : chans.length = spikes.length)     -- `assert spike_samples.shape[0] == spike_channels.shape[0]`
    (hsorted : spikes.Pairwise (· ≤ ·))
    (hb : ∀ s ∈ spikes, 0 ≤ s ∧ s < A.length) (n : Nat) :
    (iterWaveforms A ivs spikes chans n).flatten =
      (spikes.zip chans).map fun sc => extractWaveform A sc.1 n sc.2 :=
  Lemmas.iter_concat_eq_map A ivs hT spikes chans hsorted hb n

/-- Export: the written file loads as an array of the declared shape
`(n_spikes, n, n_channels_loc)` holding the windows times the unit factor, in spike order. -/
theorem export_loads_windows (scale : α → α) (A : List (List α)) (nch : Nat)
    (ivs : List (Nat × Nat)) (hT : intervalsTile A.length ivs = true) (spikes : List Int)
    (chans : List (List Int)) (hlen : chans.length = spikes.length)
    (hsorted : spikes.Pairwise (· ≤ ·)) (hb : ∀ s ∈ spikes, 0 ≤ s ∧ s < A.length) (n : Nat)
    (nloc : Nat) (hch : ∀ c ∈ chans, c.length = nloc ∧ ChOK nch c) :
    npLoad (exportWaveforms scale A ivs spikes chans n nloc) =
      some ((spikes.zip chans).map fun sc => (window A sc.1 n sc.2).map fun row => row.map scale) :=
  Lemmas.export_loads_windows scale A nch ivs hT spikes chans hlen hsorted hb n nloc hch

/-- Store lookup: for any query (any order, any subset of stored spikes), on every query channel
that the store holds for that spike the result is the stored window column, i.e. the raw window
on that channel; channels the store does not hold for the spike come back as zeros.
(Domain notes, both outside the generators: the query channels are distinct and the stored spike
ids are distinct — with a repeated query channel or id the real lookup fills only the LAST
occurrence, where this model fills every one; the hypotheses below make that restriction explicit
although the proof does not need them.) -/
theorem lookup_eq_window (st : Store α) (A : List (List α)) (samples : List Int) (n : Nat)
    (hl1 : st.spikeChannels.length = st.spikeIds.length) (hl2 : st.waveforms.length = st.spikeIds.length)
    (hstore : ∀ p, p < st.spikeIds.length →
      st.waveforms.getD p [] = window A (samples.getD p 0) n (st.spikeChannels.getD p []))
    (query : List Nat) (hq : ∀ q ∈ query, q ∈ st.spikeIds) (chq : List Nat)
    (hn : 0 < n) (hchq : chq ≠ [])      -- the real lookup asserts `nsw > 0` and `nc > 0`
    (_hchqd : chq.Nodup) (_hids : st.spikeIds.Nodup) :
    getSpikeWaveforms st query chq n = some (query.map fun q =>
      let p := st.spikeIds.idxOf q
      (List.range n).map fun r => chq.map fun (c : Nat) =>
        if (st.spikeChannels.getD p []).contains (Int.ofNat c)
        then ((window A (samples.getD p 0) n [Int.ofNat c]).getD r []).getD 0 0 else 0) :=
  Lemmas.lookup_eq_window st A samples n hl1 hl2 hstore query hq chq hn hchq

/-- **All three routes agree** (export → store files → load → lookup, composed). For every rectangular recording,
every chunking that tiles it, every sorted vector of in-range spike samples with one channel row (−1 allowed) per
spike, every window length `n > 0` and EVERY unit factor `scale`:
1. direct extraction of every spike on its channel row is the zero-padded window;
2. the file written chunk by chunk loads as an array of the declared shape whose entry per spike is the unit
   factor times that direct extraction, in spike order;
3. the store made of the three files (`ids`, channel rows, that very file), loaded and queried for any stored
   spikes in any order on any non-empty list of query channels, returns `lookupSpec`: on every query channel the
   store holds for the spike the unit factor times the cell `wcell` of the raw window, zeros elsewhere.
(`wcell A s n i c` is by `window_eq_wcell` the cell of `window`, i.e. by 1. of the direct extraction.)
Domain: the stored ids and the query channels are distinct (a repeated one is filled only at its LAST position by
the real `_index_of`; the model fills every position; neither is generated). -/
theorem routes_agree (scale : α → α) (A : List (List α)) (nch : Nat) (_hrect : Rect A nch)
    (ivs : List (Nat × Nat)) (hT : intervalsTile A.length ivs = true) (samples : List Int)
    (chans : List (List Int)) (hlen : chans.length = samples.length)
    (hsorted : samples.Pairwise (· ≤ ·)) (hb : ∀ s ∈ samples, 0 ≤ s ∧ s < A.length) (n : Nat) (hn : 0 < n)
    (nloc : Nat) (hch : ∀ c ∈ chans, c.length = nloc ∧ ChOK nch c)
    (ids : List Nat) (hids : ids.length = samples.length) (_hidsd : ids.Nodup)
    (query : List Nat) (hq : ∀ q ∈ query, q ∈ ids) (chq : List Nat) (hchq : chq ≠ []) (_hchqd : chq.Nodup) :
    (∀ sc ∈ samples.zip chans, extractWaveform A sc.1 n sc.2 = window A sc.1 n sc.2) ∧
    npLoad (exportWaveforms scale A ivs samples chans n nloc) =
      some ((samples.zip chans).map fun sc => scaleW scale (extractWaveform A sc.1 n sc.2)) ∧
    (loadSubset ⟨ids, chans, exportWaveforms scale A ivs samples chans n nloc⟩).bind
        (fun st => getSpikeWaveforms st query chq n) =
      some (query.map fun q =>
        lookupSpec scale A (samples.getD (ids.idxOf q) 0) n (chans.getD (ids.idxOf q) []) chq) :=
  Lemmas.routes_agree scale A nch ivs hT samples chans hlen hsorted hb n hn nloc hch ids hids query hq chq hchq

/-- The subset store of `TemplateModel` (`save_spikes_subset_waveforms` → `_load_spike_waveforms` →
`get_spike_waveforms`): for every dataset with sorted in-range spike samples, one template per spike, a channel
order per template (`get_template(t).channel_ids`), every selection `sel` of spikes that is strictly increasing
(what `SpikeSelector` returns: `np.sort` of disjoint per-template picks) and every store width `nc`, the store
loaded from the written files answers every query of stored spikes with the unit factor times the raw window of
THAT spike (its own sample `spikeSamples[q]`) on the first `nc` channels of ITS template, zeros elsewhere.
(`nc = 0` is rejected by the real code, `assert nc > 0`.) -/
theorem subset_store_eq_raw (scale : α → α) (A : List (List α)) (nch : Nat) (_hrect : Rect A nch)
    (ivs : List (Nat × Nat)) (hT : intervalsTile A.length ivs = true)
    (spikeSamples : List Int) (hss : spikeSamples.Pairwise (· ≤ ·))
    (hsb : ∀ s ∈ spikeSamples, 0 ≤ s ∧ s < A.length)
    (spikeTemplates : List Nat) (hst : spikeTemplates.length = spikeSamples.length)
    (orders : List (List Int)) (hto : ∀ t ∈ spikeTemplates, t < orders.length)
    (hord : ∀ o ∈ orders, ChOK nch o)
    (sel : List Nat) (hsel : sel.Pairwise (· < ·)) (hselb : ∀ i ∈ sel, i < spikeSamples.length)
    (n : Nat) (hn : 0 < n) (nc : Nat) (_hnc : 0 < nc)
    (query : List Nat) (hq : ∀ q ∈ query, q ∈ sel) (chq : List Nat) (hchq : chq ≠ []) (_hchqd : chq.Nodup) :
    (loadSubset (saveSubset scale A ivs spikeSamples spikeTemplates orders sel n nc)).bind
        (fun st => getSpikeWaveforms st query chq n) =
      some (query.map fun q =>
        lookupSpec scale A (spikeSamples.getD q 0) n
          (templateNChannels true (orders.getD (spikeTemplates.getD q 0) []) nc) chq) :=
  Lemmas.subset_store_eq_raw scale A nch ivs hT spikeSamples hss hsb spikeTemplates hst orders hto hord
    sel hsel hselb n hn nc query hq chq hchq

/-- … and the written files always load: the store a reload sees holds exactly the selected ids, per selected
spike the first `nc` channels of its template filled up with −1, and per selected spike the unit factor times the
raw window of ITS sample on ITS channel row (all three fields, no existential). -/
theorem subset_loads (scale : α → α) (A : List (List α)) (nch : Nat) (_hrect : Rect A nch)
    (ivs : List (Nat × Nat)) (hT : intervalsTile A.length ivs = true)
    (spikeSamples : List Int) (hss : spikeSamples.Pairwise (· ≤ ·))
    (hsb : ∀ s ∈ spikeSamples, 0 ≤ s ∧ s < A.length)
    (spikeTemplates : List Nat) (hst : spikeTemplates.length = spikeSamples.length)
    (orders : List (List Int)) (hto : ∀ t ∈ spikeTemplates, t < orders.length)
    (hord : ∀ o ∈ orders, ChOK nch o)
    (sel : List Nat) (hsel : sel.Pairwise (· < ·)) (hselb : ∀ i ∈ sel, i < spikeSamples.length)
    (n : Nat) (nc : Nat) :
    loadSubset (saveSubset scale A ivs spikeSamples spikeTemplates orders sel n nc) =
      some ⟨sel, sel.map fun i =>
        templateNChannels true (orders.getD (spikeTemplates.getD i 0) []) nc,
        sel.map fun i => scaleW scale (window A (spikeSamples.getD i 0) n
          (templateNChannels true (orders.getD (spikeTemplates.getD i 0) []) nc))⟩ :=
  Lemmas.subset_loads_eq scale A nch ivs hT spikeSamples hss hsb spikeTemplates hst orders hto hord
    sel hsel hselb n nc

/-- `TemplateModel.get_waveforms`, store route: when the lookup answers, its answer is returned — and then the
three assertions of the lookup hold (every requested spike stored, `n > 0`, a query channel). -/
theorem getWaveforms_stored (st : Store α) (A : List (List α)) (spikeSamples : List Int)
    (query chq : List Nat) (n : Nat) (W : List (List (List α)))
    (h : getSpikeWaveforms st query chq n = some W) :
    getWaveformsE (some st) A spikeSamples query chq n = some W ∧ lookupAsserts st query chq n = true :=
  ⟨Lemmas.getWaveforms_stored st A spikeSamples query chq n W h, Lemmas.asserts_of_lookup st query chq n W h⟩

/-- … only AssertionError is caught (model.py:1010): when the assertions hold and the lookup still raises (the
IndexError of a store whose arrays have different numbers of rows), `get_waveforms` raises too — no fallback. -/
theorem getWaveforms_propagates (st : Store α) (A : List (List α)) (spikeSamples : List Int)
    (query chq : List Nat) (n : Nat) (ha : lookupAsserts st query chq n = true)
    (h : getSpikeWaveforms st query chq n = none) :
    getWaveformsE (some st) A spikeSamples query chq n = none :=
  Lemmas.getWaveforms_propagates st A spikeSamples query chq n ha h

/-- `TemplateModel.get_waveforms`, fallback: as soon as ONE requested spike is not in the store, every requested
spike is read from the raw data and the result is exactly the zero-padded raw window on the query channels
(valid channels of the recording; in-range spike ids and samples; `n > 0`, `extract_waveforms` asserts it). -/
theorem getWaveforms_unstored (st : Store α) (A : List (List α)) (nch : Nat) (_hrect : Rect A nch)
    (spikeSamples : List Int) (query chq : List Nat) (n : Nat) (hn : 0 < n) (q : Nat) (hq : q ∈ query)
    (hns : q ∉ st.spikeIds) (hqb : ∀ q ∈ query, q < spikeSamples.length)
    (hsb : ∀ s ∈ spikeSamples, 0 ≤ s ∧ s < A.length) (hc : ∀ c ∈ chq, c < nch) :
    getWaveformsE (some st) A spikeSamples query chq n =
      some (query.map fun q => window A (spikeSamples.getD q 0) n (chq.map Int.ofNat)) :=
  Lemmas.getWaveforms_unstored st A nch spikeSamples query chq n hn q hq hns hqb hsb hc

/-- `TemplateModel.get_waveforms` without a store: the raw-data route. -/
theorem getWaveforms_raw (A : List (List α)) (nch : Nat) (_hrect : Rect A nch) (spikeSamples : List Int)
    (query chq : List Nat) (n : Nat) (hn : 0 < n) (hqb : ∀ q ∈ query, q < spikeSamples.length)
    (hsb : ∀ s ∈ spikeSamples, 0 ≤ s ∧ s < A.length) (hc : ∀ c ∈ chq, c < nch) :
    getWaveformsE none A spikeSamples query chq n =
      some (query.map fun q => window A (spikeSamples.getD q 0) n (chq.map Int.ofNat)) :=
  Lemmas.getWaveforms_raw A nch spikeSamples query chq n hn hqb hsb hc

/-- **`save_spikes_subset_waveforms`, then `get_waveforms`** (what the correspondence op `subset` compares, both
branches in one statement): on the model's own reloaded store, a request for spikes that were ALL selected is
answered by the store — the unit factor times the raw window of each spike on the first `nc` channels of its
template, zeros on the other query channels —, a request naming ONE spike that was not selected is answered from
the raw data for every spike (unscaled windows on the query channels). Queries in any order, with repetitions. -/
theorem getWaveforms_after_save (scale : α → α) (A : List (List α)) (nch : Nat) (_hrect : Rect A nch)
    (ivs : List (Nat × Nat)) (hT : intervalsTile A.length ivs = true)
    (spikeSamples : List Int) (hss : spikeSamples.Pairwise (· ≤ ·))
    (hsb : ∀ s ∈ spikeSamples, 0 ≤ s ∧ s < A.length)
    (spikeTemplates : List Nat) (hst : spikeTemplates.length = spikeSamples.length)
    (orders : List (List Int)) (hto : ∀ t ∈ spikeTemplates, t < orders.length)
    (hord : ∀ o ∈ orders, ChOK nch o)
    (sel : List Nat) (hsel : sel.Pairwise (· < ·)) (hselb : ∀ i ∈ sel, i < spikeSamples.length)
    (n : Nat) (hn : 0 < n) (nc : Nat) (_hnc : 0 < nc)
    (query : List Nat) (hqb : ∀ q ∈ query, q < spikeSamples.length)
    (chq : List Nat) (hchq : chq ≠ []) (_hchqd : chq.Nodup) (hc : ∀ c ∈ chq, c < nch) :
    getWaveformsE (loadSubset (saveSubset scale A ivs spikeSamples spikeTemplates orders sel n nc))
        A spikeSamples query chq n =
      some (if query.all sel.contains then
          query.map fun q => lookupSpec scale A (spikeSamples.getD q 0) n
            (templateNChannels true (orders.getD (spikeTemplates.getD q 0) []) nc) chq
        else query.map fun q => window A (spikeSamples.getD q 0) n (chq.map Int.ofNat)) :=
  Lemmas.getWaveforms_after_save scale A nch ivs hT spikeSamples hss hsb spikeTemplates hst orders hto hord
    sel hsel hselb n hn nc query hqb chq hchq hc

/-! ### The window read through a reader (composition with C01) -/

/-- The rows a READER returns for `traces[lo:hi]` with `0 ≤ lo < n_samples` and `lo < hi` — `hi` MAY EXCEED the
number of samples, which C01's own domain (`InDom`: slice bounds in `[-n, n]`) does not cover —: for every backend
(in-memory array, `.npy`, 1..k flat files, compressed file), every well-formed source and every chain of deferred
channel selections `reader[:, c1][:, c2]…` (`ops`; `TemplateModel.traces` is `reader[:, channel_map]`), exactly
`rowsSlice` of the concatenated recording — the expression the C03 model reads — with the selections applied to
every row. (The reader clamps the stop bound with `min(v, n)`, traces.py:70; a start bound `< -n` is reduced modulo
`n` instead — never issued here, `lo = max(0, t0)`.) -/
theorem reader_rows_slice {β : Type} (src : C01.Source (List β)) (h : C01.SrcOK src) (r : C01.Reader (List β))
    (hr : C01.build src = some r) (lo hi : Int) (hlo0 : 0 ≤ lo) (hlo : lo < src.concat.length) (hhi : lo < hi)
    (ops : List C01.ColSel) :
    C01.getItemOps r (.slice (some lo) (some hi)) ops =
      .ok ((rowsSlice src.concat lo hi).map (C01.applyCols ops)) :=
  Lemmas.reader_rows_slice src h r hr lo hi hlo0 hlo hhi ops

/-- **Position of the spike relative to FILE and RECORDING boundaries, on readers**: the single read of
`_extract_waveform` — `traces[max(0, t0):t1]` with `t0 = s − n//2`, `t1 = s + (n − n//2)` (traces.py:608-610) — for
every spike inside the recording and every window length `n > 0`, on every reader of C01 and every column-selected
derived reader, returns `rowsSlice A (max 0 t0) t1` of the concatenation `A` of the files: the very rows
`extractWaveform A s n ch` starts from (`Model/C03.lean`), whichever files the window spans and however far it
reaches beyond the last sample. With `extract_eq_window` (on `A`, after the column selections): the window
extracted through the reader is the zero-padded raw window of the concatenated recording. -/
theorem reader_window_rows {β : Type} (src : C01.Source (List β)) (h : C01.SrcOK src) (r : C01.Reader (List β))
    (hr : C01.build src = some r) (s : Int) (hs0 : 0 ≤ s) (hs : s < src.concat.length) (n : Nat) (hn : 0 < n)
    (ops : List C01.ColSel) :
    C01.getItemOps r (.slice (some (max 0 (s - (n : Int) / 2))) (some (s + ((n : Int) - (n : Int) / 2)))) ops =
      .ok ((rowsSlice src.concat (max 0 (s - (n : Int) / 2)) (s + ((n : Int) - (n : Int) / 2))).map
        (C01.applyCols ops)) :=
  Lemmas.reader_rows_slice src h r hr _ _ (Int.le_max_left 0 _) (by omega) (by omega) ops

/-! Non-vacuity (cells are integers) -/
example : extractWaveform [[1, 2], [3, 4], [5, 6]] 1 8 [1, -1, 0] =
    [[0,0,0],[0,0,0],[0,0,0],[2,0,1],[4,0,3],[6,0,5],[0,0,0],[0,0,0]] := by decide +kernel
example : window [[1, 2], [3, 4], [5, 6]] 1 8 [1, -1, 0] =
    [[0,0,0],[0,0,0],[0,0,0],[2,0,1],[4,0,3],[6,0,5],[0,0,0],[0,0,0]] := by decide +kernel
example : (iterWaveforms [[1], [2], [3], [4], [5]] [(0, 2), (2, 2), (2, 5)] [0, 2, 4] [[0], [0], [0]] 3).flatten
    = [[[0], [1], [2]], [[2], [3], [4]], [[4], [5], [0]]] := by decide +kernel
example : intervalsTile 5 [(0, 2), (2, 2), (2, 5)] = true := by decide +kernel

-- the composed route on a concrete store: two chunks, factor 2, spikes 9 and 4 stored with rows [1,-1] and [0,1],
-- queried in reverse order on channels [1, 0, 2]
example :
    (loadSubset (α := Int) ⟨[9, 4], [[1, -1], [0, 1]],
        exportWaveforms (fun x => 2 * x) [[1, 2], [3, 4], [5, 6]] [(0, 2), (2, 3)] [0, 2] [[1, -1], [0, 1]] 2 2⟩).bind
      (fun st => getSpikeWaveforms st [4, 9] [1, 0, 2] 2) =
    some [[[8, 6, 0], [12, 10, 0]], [[0, 0, 0], [4, 0, 0]]] := by decide +kernel
example : lookupSpec (fun x => 2 * x) [[1, 2], [3, 4], [5, 6]] (2 : Int) 2 [0, 1] [1, 0, 2] =
    [[8, 6, 0], [12, 10, 0]] := by decide +kernel
example : Rect (α := Int) [[1, 2], [3, 4], [5, 6]] 2 := by
  unfold Rect
  decide +kernel
-- the TemplateModel subset store: 4 spikes of templates 1,0,1,0; template 1 has no third channel
example :
    (saveSubset (α := Int) (fun x => x) [[1, 2, 3], [4, 5, 6], [7, 8, 9], [10, 11, 12]] [(0, 4)]
      [0, 1, 3, 3] [1, 0, 1, 0] [[2, 0, 1], [1]] [1, 2] 2 2).channels = [[2, 0], [1, -1]] := by decide +kernel
example :
    (loadSubset (saveSubset (α := Int) (fun x => x) [[1, 2, 3], [4, 5, 6], [7, 8, 9], [10, 11, 12]] [(0, 4)]
      [0, 1, 3, 3] [1, 0, 1, 0] [[2, 0, 1], [1]] [1, 2] 2 2)).bind
      (fun st => getSpikeWaveforms st [2, 1] [1, 2] 2) =
    some [[[8, 0], [11, 0]], [[0, 3], [0, 6]]] := by decide +kernel
example : templateNChannels true [2, 0, 1] 2 = [2, 0] ∧ templateNChannels true [1] 3 = [1, -1, -1] ∧
    templateNChannels false [1] 2 = [-1, -1] ∧ subsetWidth 0 12 = 12 ∧ subsetWidth 3 12 = 12 ∧
    subsetWidth 14 12 = 14 := by decide +kernel
-- get_waveforms falls back to the raw data when a requested spike is not stored
example : getWaveformsE (α := Int) (some ⟨[1], [[0]], [[[5]]]⟩) [[1, 2], [3, 4]] [0, 1] [0, 1] [1] 1 =
    some [[[2]], [[4]]] := by decide +kernel
-- … answers from the store when all are (channel 1 is not held for spike 1: zero) …
example : getWaveformsE (α := Int) (some ⟨[1], [[0]], [[[5]]]⟩) [[1, 2], [3, 4]] [0, 1] [1] [1, 0] 1 =
    some [[[0, 5]]] := by decide +kernel
-- … and does NOT catch the IndexError of a store with fewer channel rows than ids (assertions hold, lookup raises)
example : lookupAsserts (α := Int) ⟨[1, 2], [[0]], [[[5]], [[6]]]⟩ [2] [0] 1 = true ∧
    getSpikeWaveforms (α := Int) ⟨[1, 2], [[0]], [[[5]], [[6]]]⟩ [2] [0] 1 = none ∧
    getWaveformsE (α := Int) (some ⟨[1, 2], [[0]], [[[5]], [[6]]]⟩) [[1, 2], [3, 4]] [0, 1, 1] [2] [0] 1 = none := by
  decide +kernel
-- the reloaded subset store, all three fields (spikes 1 and 2 selected, factor 2)
example :
    loadSubset (saveSubset (α := Int) (fun x => 2 * x) [[1, 2, 3], [4, 5, 6], [7, 8, 9], [10, 11, 12]] [(0, 4)]
      [0, 1, 3, 3] [1, 0, 1, 0] [[2, 0, 1], [1]] [1, 2] 2 2) =
    some ⟨[1, 2], [[2, 0], [1, -1]], [[[6, 2], [12, 8]], [[16, 0], [22, 0]]]⟩ := by decide +kernel
-- save, then get_waveforms: spike 2 then spike 1 (both selected, reverse order); spike 0 was not selected
example :
    getWaveformsE (loadSubset (saveSubset (α := Int) (fun x => 2 * x)
      [[1, 2, 3], [4, 5, 6], [7, 8, 9], [10, 11, 12]] [(0, 4)] [0, 1, 3, 3] [1, 0, 1, 0] [[2, 0, 1], [1]] [1, 2] 2 2))
      [[1, 2, 3], [4, 5, 6], [7, 8, 9], [10, 11, 12]] [0, 1, 3, 3] [2, 1] [1, 2] 2 =
    some [[[16, 0], [22, 0]], [[0, 6], [0, 12]]] ∧
    getWaveformsE (loadSubset (saveSubset (α := Int) (fun x => 2 * x)
      [[1, 2, 3], [4, 5, 6], [7, 8, 9], [10, 11, 12]] [(0, 4)] [0, 1, 3, 3] [1, 0, 1, 0] [[2, 0, 1], [1]] [1, 2] 2 2))
      [[1, 2, 3], [4, 5, 6], [7, 8, 9], [10, 11, 12]] [0, 1, 3, 3] [1, 0] [1, 2] 2 =
    some [[[2, 3], [5, 6]], [[0, 0], [2, 3]]] := by decide +kernel
-- a window that crosses the file boundary AND the end of the recording, read through the reader of two flat files
-- (rows 2 + 1, `C01.exFlat`) and through `reader[:, [1, 0]]`: spike at the last sample 2, n = 4: rows [0, 4) ∩ [0, 3)
example : (C01.build C01.exFlat).map (fun r => C01.getItemOps r (.slice (some (max 0 (2 - (4 : Int) / 2)))
      (some (2 + ((4 : Int) - (4 : Int) / 2)))) [.idx [1, 0]]) =
    some (.ok ((rowsSlice C01.exFlat.concat 0 4).map (C01.applyCols [.idx [1, 0]]))) := by decide +kernel
example : (rowsSlice C01.exFlat.concat 0 4).map (C01.applyCols [.idx [1, 0]]) = [[2, 1], [4, 3], [6, 5]] := by
  decide +kernel

end PhyVerif.C03
