import PhyVerif.Model.C13
import PhyVerif.Model.C13b
import PhyVerif.Lemmas.C13
import PhyVerif.Model.C08
import PhyVerif.Lemmas.C08
import PhyVerif.Model.C13c
import PhyVerif.Spec.C13c
import PhyVerif.Lemmas.C13c
import PhyVerif.Model.C13d
import PhyVerif.Lemmas.C13d
import PhyVerif.Lemmas.C13x
import PhyVerif.Model.C14
/-!
# C13 — ALF export writes consistent object tables that load back to the same spikes
Only property theorems + non-vacuity examples, about `Model/C13` (the file table), `C13b` (the exported arrays read back
by C04's loader), `C13c` (the conversion on directories) and `C13d` (the loader on its output).  Proofs: `Lemmas/C13*.lean`,
read in the order `C13`, `C13cDir`, `C13cNames`, `C13c`, `C13d`; `C13x` is the examples' dataset.
-/
namespace PhyVerif.C13

/-- Every object file written has, as first dimension, the number of spikes / clusters / templates
/ channels of its family — with or without a label. -/
theorem export_row_counts (src out label : String) (s : Sizes) (files : List (Name × Nat))
    (h : convert src out label s = some files) :
    ∀ f ∈ files, expectedRows s f.1 = some f.2 :=
  Lemmas.export_row_counts src out label s files h

/-- The label is inserted before the extension of every such file (and of no other part). -/
theorem label_before_extension (label : String) (stem : List String) (ext : String) :
    withLabel label (stem ++ [ext]) = stem ++ [label, ext] :=
  Lemmas.label_before_extension label stem ext

/-- With a non-empty label every object file carries it as its last-but-one part; with an empty
label names are unchanged. -/
theorem labels_applied (src out label : String) (s : Sizes) (files : List (Name × Nat))
    (h : convert src out label s = some files) :
    (label = "" → files = objectTables s) ∧
    (label ≠ "" → ∀ f ∈ files, f.1.reverse.tail.head? = some label ∧ f.1.length = 4) :=
  Lemmas.labels_applied src out label s files h

/-- Conversion refuses to write into the source directory. -/
theorem refuses_same_dir (src label : String) (s : Sizes) : convert src src label s = none :=
  Lemmas.refuses_same_dir src label s

/-- One cluster identifier row per cluster. -/
theorem uuid_rows (src out label : String) (s : Sizes) (files : List (Name × Nat))
    (h : convert src out label s = some files) (n : Name) (k : Nat) (hm : (n, k) ∈ files)
    (hu : n.take 2 = ["clusters", "uuids"]) : k = s.nClusters :=
  Lemmas.uuid_rows src out label s files h n k hm hu

example : withLabel "probe00" ["spikes", "times", "npy"] = ["spikes", "times", "probe00", "npy"] := rfl
example : (convert "a" "b" "p0" ⟨5, 3, 2, 4⟩).map (·.length) = some 18 := by decide +kernel

-- `C04` is opened for the next three statements only: C13 has a `View` and a `roundHalfEven` of its own
section
open PhyVerif.C04

/-- The number of rows of every `clusters.*` table is the number of cluster waveform blocks of the
source model (C08's `loadClusters`): one per id up to the highest when anything was curated, one per
template otherwise. -/
theorem cluster_count_rule (W : List C09.Mat) (chans : List (List Nat)) (st sc : List Nat) (ns nc : Nat) :
    (C08.loadClusters W chans st sc ns nc).1.length = (C08.loadClusters W chans st sc ns nc).2 ∧
    (C08.loadClusters W chans st sc ns nc).2 = if sc = st then W.length else sc.foldl max 0 + 1 :=
  C08.Lemmas.cluster_count_rule W chans st sc ns nc

/-- Round trip (composition with the loader model of C04): loading the directory written by the
export — with ANY label, even one containing `*` or `.npy` — succeeds and shows the source's spike times, samples, clusters,
templates, amplitudes, channel map and positions. -/
theorem reload_eq_source (inv : Arr → Arr) (label : String) (s : Source) (h : SourceOK s) :
    ∃ v d', load inv (exportDir label s) = .ok (v, d') ∧
      v.times = .stored (vec s.times) ∧ v.samples = .file (vec s.samples) ∧
      v.spikeClusters = vec s.clusters ∧ v.spikeTemplates = vec s.templates ∧
      v.amplitudes = some (vec s.amps) ∧ v.channelMap = vec s.channelMap ∧
      v.channelPositions = ⟨[s.channelMap.length, 2], s.positions.map Cell.num⟩ :=
  Lemmas.reload_eq_source inv label s h

/-- … and the reloaded template waveforms are the exported ones (all-NaN templates zeroed, as the
loader does) on the exported per-template channel lists, again for any label: the labelled
`templates.waveforms` file is found by the dotted wildcard, never confused with
`templates.waveformsChannels`. -/
theorem reload_templates (inv : Arr → Arr) (label : String) (s : Source) (h : SourceOK s) :
    ∃ v d', load inv (exportDir label s) = .ok (v, d') ∧
      v.templates = some (zeroNanTemplates (atleast 3 (squeeze s.waveforms))) ∧
      v.templateCols = some (squeeze (scrub s.waveformChannels)) :=
  Lemmas.reload_templates inv label s h

example : labelled "probe00" "spikes.times" = "spikes.times.probe00.npy" := by decide +kernel
example : globMatch "spikes.times*.npy" (labelled "probe00" "spikes.times") = true := by decide +kernel
example : globMatch "templates.waveforms.*.npy" (labelled "p" "templates.waveformsChannels") = false := by
  decide +kernel

end

/-! ## The conversion as a function on directories (`Model/C13c.lean`)

`convertFS cfg v gen ⟨src, out⟩` mirrors `EphysAlfCreator.convert` (alf.py:112-147) step by step on the pair
(source directory, output directory); every array it writes is computed from the source view `v`.  The theorems
below are about ALL views, directories, labels, generators. -/

/-- FIRST DIMENSIONS, every file of every object, with or without label.  For every source view whose
per-spike / per-channel vectors have one length (`ViewOK`: asserted by the loader, model.py:351-403), every
source directory whose copied tables have the model's row counts (`SrcOK`: asserted by the loader for
`spike_clusters.npy`, `spike_templates.npy`, `channel_positions.npy`; the optional `channel_probe.npy`,
`channel_labels.npy`, `cluster_probes.npy`, `cluster_shanks.npy` are copied verbatim, so an inconsistent one is
exported inconsistent) and every output directory that is consistent beforehand (e.g. empty): whatever `convert`
does (return or raise), every `spikes.* / clusters.* / templates.* / channels.*` file of the output directory has
as first dimension `len(spike_samples)` / `n_clusters v` (one per id up to the highest, or one per template when
nothing was curated) / `n_templates` / `len(channel_mapping)`.  The counts are COMPUTED by the model from `v`
(`sizesOf`), the rows of each file are the rows of the array the step writes. -/
theorem export_first_dims (cfg : Cfg) (v : View) (gen : Nat → String) (fs : FS)
    (hv : ViewOK v) (hs : SrcOK v fs.src) (ho : RowsOK v fs.out) :
    RowsOK v (convertFS cfg v gen fs).fs.out :=
  Lemmas.export_first_dims cfg v gen fs hv hs ho

/-- A conversion in the domain (`Convertible`: target ≠ source, a Kilosort/phy source without ALF cluster
tables) returns normally.  Outside: target = source raises IOError (`refusal_frame`); a source that already
holds `clusters.channels.npy` makes the real code raise FileNotFoundError at alf.py:224 (reproduced,
see the harness tally `out-of-domain`), which the model mirrors as `Err.noClusterChannels`; a label containing
`/` makes `Path.with_suffix` raise ValueError at alf.py:306 (reproduced; `Err.badLabel`). -/
theorem export_succeeds (cfg : Cfg) (v : View) (gen : Nat → String) (fs : FS) (h : Convertible cfg fs) :
    (convertFS cfg v gen fs).err = none :=
  Lemmas.export_succeeds cfg v gen fs h

/-- The file table of `Model/C13.lean` (`convert`, 18 tables) is written by the directory-level model: every
row `(name, k)` of it is a file of the output directory whose first dimension is `k`, the sizes being those
computed from the source view. -/
theorem export_table_written (cfg : Cfg) (v : View) (gen : Nat → String) (fs : FS) (hc : Convertible cfg fs)
    (hv : ViewOK v) (hs : SrcOK v fs.src) (ho : RowsOK v fs.out) (src out : String)
    (files : List (Name × Nat)) (h : convert src out cfg.label (sizesOf v) = some files) :
    ∀ f ∈ files, ∃ e, (f.1, e) ∈ (convertFS cfg v gen fs).fs.out ∧ firstDim f.1 e = f.2 :=
  Lemmas.export_table_written cfg v gen fs hc hv hs ho src out files h

/-- The count of clusters the export uses is the number of cluster waveform blocks of C08's loader model. -/
theorem nClusters_eq_loadClusters (v : View) (W : List C09.Mat) (chans : List (List Nat)) (ns nc : Nat)
    (hW : W.length = v.nTemplates) :
    nClusters v = (C08.loadClusters W chans v.spikeTemplates v.spikeClusters ns nc).2 :=
  Lemmas.nClusters_eq_loadClusters v W chans ns nc hW

/-- ONE UNIQUE IDENTIFIER PER CLUSTER.  The generator is a parameter (`gen k` = value of the k-th `uuid4()`
call); under its contract — the first `n_clusters` calls return distinct values — the identifier file, under
its labelled name, holds the header line followed by exactly `n_clusters v` pairwise distinct identifiers. -/
theorem export_uuids (cfg : Cfg) (v : View) (gen : Nat → String) (fs : FS) (h : Convertible cfg fs)
    (hg : GenDistinct gen (nClusters v)) :
    ∃ lines, (convertFS cfg v gen fs).fs.out.lookup (labelled' cfg.label ["clusters", "uuids", "csv"]) =
        some (fresh (lines.map Row.s)) ∧ UuidOK (nClusters v) lines :=
  Lemmas.export_uuids cfg v gen fs h hg

/-- the executable check the driver applies to the lines of the REAL identifier file decides `UuidOK` -/
theorem uuid_check_sound (n : Nat) (lines : List String) : uuidOKb n lines = true ↔ UuidOK n lines :=
  Lemmas.uuidOKb_iff n lines

/-- FRAME, for the whole conversion and every outcome (return or raise): every source file other than the
temporary whitened-data file and the three spike-waveform subset files is the same entry (same bytes) before
and after, and no other file appears; after a normal return `temp_wh.dat` is gone; without raw data nothing
but `temp_wh.dat` changes at all; with raw data (and a target ≠ source) the three subset files exist. -/
theorem export_frame (cfg : Cfg) (v : View) (gen : Nat → String) (fs : FS) :
    (∀ n, n ∉ subsetFiles → n ≠ ["temp_wh", "dat"] →
        (convertFS cfg v gen fs).fs.src.lookup n = fs.src.lookup n) ∧
    ((convertFS cfg v gen fs).err = none → (convertFS cfg v gen fs).fs.src.has ["temp_wh", "dat"] = false) ∧
    (cfg.hasTraces = false → ∀ n, n ≠ ["temp_wh", "dat"] →
        (convertFS cfg v gen fs).fs.src.lookup n = fs.src.lookup n) ∧
    (cfg.hasTraces = true → cfg.sameDir = false → ∀ n ∈ subsetFiles, (convertFS cfg v gen fs).fs.src.has n = true) :=
  Lemmas.export_frame cfg v gen fs

/-- the same clause as the decidable predicate the driver evaluates on two REAL listings of the source
directory (`frameOKb`): it holds between the source before and after every conversion that returns -/
theorem export_frame_decided (cfg : Cfg) (v : View) (gen : Nat → String) (fs : FS) (hn : fs.src.keys.Nodup)
    (he : (convertFS cfg v gen fs).err = none) :
    frameOKb fs.src (convertFS cfg v gen fs).fs.src = true :=
  Lemmas.export_frame_decided cfg v gen fs hn he

/-- REFUSAL: when the target resolves to the source directory the conversion raises before touching anything:
both directories are exactly what they were. -/
theorem refusal_frame (cfg : Cfg) (v : View) (gen : Nat → String) (fs : FS) (h : cfg.sameDir = true) :
    convertFS cfg v gen fs = ⟨fs, some .sameDir⟩ :=
  Lemmas.refusal_frame cfg v gen fs h

/-- TIMES IN SECONDS: `times = samples / rate` over the rationals: as many times as samples, and each time
multiplied by the sampling rate is the sample.  (`rate ≠ 0`: the loader reads `sample_rate` from params.py;
a zero rate makes the real division produce inf/nan with a RuntimeWarning.) -/
theorem times_in_seconds (rate : Rat) (samples : List Int) (hr : rate ≠ 0) :
    (timesOf rate samples).length = samples.length ∧
    ∀ (i : Nat) (_ : i < samples.length),
      (timesOf rate samples).getD i 0 * rate = (samples.getD i 0 : Int) :=
  Lemmas.times_in_seconds rate samples hr

/-- THE TWO LAYOUTS of the source's spike times (`_load_spike_samples`, model.py:647-668).  From `spike_times.npy`
(in samples) the view's times are `samples / rate`; from `spikes.times*.npy` (in seconds) the view's times are the
file's values VERBATIM — never recomputed from the samples — and the samples are the stored ones or, when there is
no `spikes.samples*.npy`, `round(times * rate)` to the nearest integer with ties to even. -/
theorem load_layouts (rate : Rat) :
    (∀ s, loadSpikeSamples rate (.inSamples s) = (s, timesOf rate s)) ∧
    (∀ t s, (loadSpikeSamples rate (.inSeconds t s)).2 = t) ∧
    (∀ t s, (loadSpikeSamples rate (.inSeconds t (some s))).1 = s) ∧
    (∀ t, (loadSpikeSamples rate (.inSeconds t none)).1 = t.map fun x => roundHalfEven (x * rate)) :=
  Lemmas.load_layouts rate

/-- `np.round`: within half a unit of its argument, and even at an exact tie -/
theorem roundHalfEven_spec (q : Rat) :
    ((roundHalfEven q : Int) : Rat) - q ≤ 1 / 2 ∧ q - ((roundHalfEven q : Int) : Rat) ≤ 1 / 2 ∧
    (q - (q.floor : Rat) = 1 / 2 → roundHalfEven q % 2 = 0) :=
  Lemmas.roundHalfEven_spec q

/-- … and the view's times (seconds) and samples are the arrays the conversion leaves in
`spikes.times[.label].npy` and `spikes.samples[.label].npy`: the export writes `model.spike_times` itself, it does
not recompute the times from the samples (for a source given in seconds with sub-sample precision the two differ). -/
theorem export_times_samples (cfg : Cfg) (v : View) (gen : Nat → String) (fs : FS) (h : Convertible cfg fs) :
    (convertFS cfg v gen fs).fs.out.lookup (labelled' cfg.label ["spikes", "times", "npy"]) =
      some (fresh (v.times.map Row.q)) ∧
    (convertFS cfg v gen fs).fs.out.lookup (labelled' cfg.label ["spikes", "samples", "npy"]) =
      some (fresh (v.samples.map Row.z)) :=
  Lemmas.export_times_samples cfg v gen fs h

/-- THE ID TABLES: for a conversion into an empty output directory, `spikes.clusters[.label].npy` and
`spikes.templates[.label].npy` — copied from `spike_clusters.npy` / `spike_templates.npy` (squeezed when stored as
`(n,1)`), relabelled, then cast to uint16 by `compress_spikes_dtypes` — hold exactly the rows of the source file
when every id is below 65536 (the bound in the property's quantifier; a larger id wraps modulo 2^16 in the model
as in the code).  The two globs of `compress_spikes_dtypes` match no other file of the output directory. -/
theorem export_ids (cfg : Cfg) (v : View) (gen : Nat → String) (src : FDir) (h : Convertible cfg ⟨src, []⟩)
    (attr : String) (srcName : Name)
    (hattr : (attr = "clusters" ∧ srcName = ["spike_clusters", "npy"]) ∨
             (attr = "templates" ∧ srcName = ["spike_templates", "npy"]))
    (e : Entry) (he : src.lookup srcName = some e)
    (hrows : ∀ r ∈ e.rows, ∃ z, r = Row.z z ∧ 0 ≤ z ∧ z < 65536) :
    ∃ e', (convertFS cfg v gen ⟨src, []⟩).fs.out.lookup (labelled' cfg.label ["spikes", attr, "npy"]) = some e' ∧
      e'.rows = e.rows :=
  Lemmas.export_ids cfg v gen src h attr srcName hattr e he hrows

/-- THE VIEW OF A SOURCE GIVEN IN SAMPLES HAS ITS TIMES IN SECONDS, AND THESE ARE WHAT IS EXPORTED.  The view the
loader builds from `spike_times.npy` is `viewOfFile rate (.inSamples s) rest` (samples and times both come out of
`_load_spike_samples`).  The first two conjuncts only UNFOLD that definition (`samples = s`,
`times = timesOf rate s = s / rate`; both hold by `rfl` — they record what the model says, their tie to the real loader
is the correspondence run of C04/C13 on sources given in samples, not this theorem).  The content is in the other three:
the conversion of that view leaves exactly these in `spikes.samples[.label].npy` and `spikes.times[.label].npy`, and every
exported time multiplied by the sampling rate is the exported sample.  `0 < rate`: the sampling rate of params.py is a
positive number (a zero rate makes the real division produce inf/nan with a RuntimeWarning; a negative one would
turn non-decreasing samples into DEcreasing times, which the loader's monotonicity assertion rejects). -/
theorem source_in_samples_exports_seconds (cfg : Cfg) (rate : Rat) (s : List Int) (rest : View) (gen : Nat → String)
    (fs : FS) (h : Convertible cfg fs) (hr : 0 < rate) :
    (viewOfFile rate (.inSamples s) rest).samples = s ∧
    (viewOfFile rate (.inSamples s) rest).times = timesOf rate s ∧
    (convertFS cfg (viewOfFile rate (.inSamples s) rest) gen fs).fs.out.lookup
        (labelled' cfg.label ["spikes", "times", "npy"]) = some (fresh ((timesOf rate s).map Row.q)) ∧
    (convertFS cfg (viewOfFile rate (.inSamples s) rest) gen fs).fs.out.lookup
        (labelled' cfg.label ["spikes", "samples", "npy"]) = some (fresh (s.map Row.z)) ∧
    ∀ (i : Nat) (_ : i < s.length), (timesOf rate s).getD i 0 * rate = (s.getD i 0 : Int) :=
  Lemmas.source_in_samples_exports_seconds cfg rate s rest gen fs h hr

/-- … and for a source given in SECONDS the exported times are the file's values verbatim (not recomputed). -/
theorem source_in_seconds_exports_verbatim (cfg : Cfg) (rate : Rat) (t : List Rat) (s : Option (List Int)) (rest : View)
    (gen : Nat → String) (fs : FS) (h : Convertible cfg fs) :
    (convertFS cfg (viewOfFile rate (.inSeconds t s) rest) gen fs).fs.out.lookup
        (labelled' cfg.label ["spikes", "times", "npy"]) = some (fresh (t.map Row.q)) :=
  Lemmas.source_in_seconds_exports_verbatim cfg rate t s rest gen fs h

/-- LOADING THE OUTPUT DIRECTORY OF THE CONVERSION.  `project I out` is the WHOLE output directory of `convertFS` as the
loader model of C04 sees it (every file kept: names joined by dots, rows turned into shaped arrays; `I` says what the
rows of quantities owned by C09/C14 hold and how a time in seconds is written as a cell).  `I` is WELL-FORMED (`hI`: a
row holds as many cells as its trailing dimensions say — an `I` with empty rows would "load" a channel map of shape
`[n]` without data) and reads row `i` of `channels.rawInd` as the one cell that `make_channel_objects` writes there
(`hraw`: `C14.exportRawInd` of the view's channel map and probe labels, alf.py:204-213).  For every convertible source
directory (`Convertible`, conversion into an empty target), label, configuration, identifier generator and view that
satisfies what the loader asserts (`ViewOK`, non-decreasing spike times — as cells: `hmono`), with at least two spikes (a
first dimension of 1 is squeezed away by the loader), whose `spike_clusters.npy` / `spike_templates.npy` hold the view's
ids (they are what the view was loaded from) below 65536 (the quantifier's bound), C04's `load` on the projected output
SUCCEEDS and shows: the view's spike times (seconds, verbatim), samples, spike clusters and spike templates; as CHANNEL
MAP the 1-D vector `C14.exportRawInd v.channelMap v.channelProbes` (the view's channel map re-expressed per probe; for a
single probe it is the view's channel map itself by `C14.rawInd_inverts_merge`); as channel
positions the source's `channel_positions.npy` (read exactly as the loader reads it in the source: `atleast 2 ∘ squeeze ∘
scrub`); as amplitudes, templates and template channels the FILES the conversion computed (`spikes.amps`,
`templates.waveforms`, `templates.waveformsChannels`, as arrays of `I`-cells: their VALUES are C09/C14's and are not
interpreted here — for these three the theorem says which file is found and how it is reshaped, no more).  None of the
other files of the output (up to 22: `clusters.*`, `spikes.depths`, `templates.amps`, `channels.probes/labels`,
`params.py`, `_kilosort_whitening.matrix.npy`, `_phy_spikes_subset.*`, `drift*`, `cluster_KSLabel.tsv`) is picked up by
any of these searches, for ANY label (`Lemmas.noOther_spec`: the literal prefix of every loader pattern departs from the
stem of every other possible output name; `Lemmas.S_inj`: the names on disk are pairwise different).
The driver's `Interp` (`Driver/C13.lean: drvInterp`) meets `hI` and `hraw`, and the harness compares the channel map of
this loader model with the channel map of the REAL reload of the REAL output directory. -/
theorem convert_output_loads (inv : C04.Arr → C04.Arr) (I : Interp) (cfg : Cfg) (v : View) (gen : Nat → String) (src : FDir)
    (h : Convertible cfg ⟨src, []⟩) (hv : ViewOK v) (h2 : 2 ≤ v.samples.length)
    (hmono : C04.monotone ((v.times.map I.encQ).map C04.Cell.num) = true)
    (hI : ∀ w i, (I.cells w i).length = (I.trail w).prod)
    (hraw : ∀ i, i < v.channelProbes.length →
      I.cells "rawInd" i = [.num ((C14.exportRawInd v.channelMap v.channelProbes).getD i 0)])
    (esc est epos : Entry)
    (hsc : src.lookup ["spike_clusters", "npy"] = some esc)
    (hscr : esc.rows = (v.spikeClusters.map Int.ofNat).map Row.z)
    (hst : src.lookup ["spike_templates", "npy"] = some est)
    (hstr : est.rows = (v.spikeTemplates.map Int.ofNat).map Row.z)
    (hpos : src.lookup ["channel_positions", "npy"] = some epos)
    (hidc : ∀ c ∈ v.spikeClusters, c < 65536) (hidt : ∀ c ∈ v.spikeTemplates, c < 65536) :
    ∃ lv d', C04.load inv (project I (convertFS cfg v gen ⟨src, []⟩).fs.out) = .ok (lv, d') ∧
      lv.times = .stored (vec (v.times.map I.encQ)) ∧
      lv.samples = .file (vec v.samples) ∧
      lv.spikeClusters = vec (v.spikeClusters.map Int.ofNat) ∧
      lv.spikeTemplates = vec (v.spikeTemplates.map Int.ofNat) ∧
      lv.amplitudes = some (C04.squeeze (C04.scrub (arrOf I (fresh (spikeAmps v))))) ∧
      lv.channelMap = vec (C14.exportRawInd v.channelMap v.channelProbes) ∧
      lv.channelPositions = C04.atleast 2 (C04.squeeze (C04.scrub (arrOf I epos))) ∧
      lv.templates = some (C04.zeroNanTemplates (C04.atleast 3 (C04.squeeze
        (arrOf I (fresh (tokRows "templates.waveforms" v.nTemplates)))))) ∧
      lv.templateCols = some (C04.squeeze (C04.scrub
        (arrOf I (fresh (tokRows "templates.waveformsChannels" v.nTemplates))))) :=
  Lemmas.convert_output_loads inv I cfg v gen src h hv h2 hmono hI hraw esc est epos hsc hscr hst hstr hpos hidc hidt

/-! Non-vacuity: a curated 3-spike source with a temporary file and raw data, label `p0` (the dataset of
`Lemmas/C13x.lean`). -/
example : ViewOK exView := by
  unfold ViewOK
  decide +kernel
-- features for 2 of the 3 spikes: `get_depths()` gives nothing, spikes.depths are the cluster depths of the 3 spikes
example : getDepthsRows exView = none ∧
    spikesDepths exView (tokRows "clusters.depths" 3) = [.tok "clusters.depths" 0, .tok "clusters.depths" 2, .tok "clusters.depths" 2] :=
  ⟨rfl, rfl⟩
example : spikesDepths { exView with featRows := some 3 } (tokRows "clusters.depths" 3) = tokRows "get_depths" 3 := rfl
example : SrcOK exView exSrc := by
  unfold SrcOK
  decide +kernel
example : RowsOK exView [] := by intro f hf; cases hf
example : GenDistinct exGen 3 := by
  have h : ∀ i < 3, ∀ j < 3, exGen i = exGen j → i = j := by decide +kernel
  exact fun i j hi hj => h i hi j hj
example : Convertible exCfg ⟨exSrc, []⟩ := exConvertible
example : (convertFS exCfg exView exGen ⟨exSrc, []⟩).err = none := by
  rw [exConvert_eq]
  rfl
example : (convertFS exCfg exView exGen ⟨exSrc, []⟩).fs.src.keys =
    [["params", "py"], ["spike_clusters", "npy"], ["spike_templates", "npy"], ["channel_positions", "npy"],
     ["_phy_spikes_subset", "spikes", "npy"], ["_phy_spikes_subset", "channels", "npy"],
     ["_phy_spikes_subset", "waveforms", "npy"]] := by
  rw [exConvert_eq]
  rfl
example : nClusters exView = 3 := by decide +kernel
example : ((convertFS exCfg exView exGen ⟨exSrc, []⟩).fs.out.filter (fun f => isObj f.1)).map
      (fun f => (".".intercalate f.1, firstDim f.1 f.2)) =
    [("clusters.channels.p0.npy", 3), ("clusters.peakToTrough.p0.npy", 3), ("clusters.uuids.p0.csv", 3),
     ("channels.rawInd.p0.npy", 2), ("spikes.times.p0.npy", 3), ("spikes.samples.p0.npy", 3),
     ("spikes.amps.p0.npy", 3), ("templates.amps.p0.npy", 2), ("templates.waveforms.p0.npy", 2),
     ("templates.waveformsChannels.p0.npy", 2), ("clusters.waveforms.p0.npy", 3),
     ("clusters.waveformsChannels.p0.npy", 3), ("clusters.amps.p0.npy", 3), ("spikes.depths.p0.npy", 3),
     ("clusters.depths.p0.npy", 3), ("spikes.clusters.p0.npy", 3), ("spikes.templates.p0.npy", 3),
     ("channels.localCoordinates.p0.npy", 2)] := by
  rw [exConvert_eq]
  decide +kernel
example : ((convertFS exCfg exView exGen ⟨exSrc, []⟩).fs.out.lookup ["spikes", "clusters", "p0", "npy"]).map (·.tag) =
    some "u16:squeeze:h1" := by
  rw [exConvert_eq]
  decide +kernel
example : ((convertFS exCfg exView exGen ⟨exSrc, []⟩).fs.out.lookup ["spikes", "clusters", "p0", "npy"]).map (·.rows) =
    some [.z 0, .z 2, .z 2] := by
  rw [exConvert_eq]
  decide +kernel
example : wrap16 (.z 65537) = .z 1 := rfl
example : timesOf 30000 [0, 15000, 45000] = [0, 1/2, 3/2] := by decide +kernel
example : loadSpikeSamples 4 (.inSeconds [1/16, 3/8, 5/8, 7/8] none) = ([0, 2, 2, 4], [1/16, 3/8, 5/8, 7/8]) := by
  decide +kernel
example : uuidOKb 2 ["uuids", "a", "b"] = true ∧ uuidOKb 2 ["uuids", "a", "a"] = false := by decide +kernel
-- `exI` is well-formed and reads `channels.rawInd` as the raw indices of the view (hypotheses `hI`, `hraw`)
example : ∀ w i, (exI.cells w i).length = (exI.trail w).prod := by
  intro w i
  simp only [exI]
  split <;> rfl
example : C14.exportRawInd exView.channelMap exView.channelProbes = [0, 1] := by decide +kernel
example : ∀ i, i < exView.channelProbes.length →
    exI.cells "rawInd" i = [.num ((C14.exportRawInd exView.channelMap exView.channelProbes).getD i 0)] := by
  decide +kernel
-- two probes: the second probe's raw indices restart at 0
example : C14.exportRawInd [0, 1, 2, 3] [0, 0, 1, 1] = [0, 1, 0, 1] := by decide +kernel
example : (viewOfFile 30000 (.inSamples [0, 15000, 45000]) exView).times = exView.times := by decide +kernel
example : (0 : Rat) < exView.rate := by decide +kernel
example : C04.monotone ((exView.times.map exI.encQ).map C04.Cell.num) = true := by decide +kernel
-- the whole 22-file output directory, loaded: the loader finds the labelled files among all the others
example : (project exI (convertFS exCfg exView exGen ⟨exSrc, []⟩).fs.out).length = 22 := by
  rw [exConvert_eq]
  rfl
example : (match C04.load id (project exI (convertFS exCfg exView exGen ⟨exSrc, []⟩).fs.out) with
    | .ok (lv, _) => lv.times == .stored (vec [0, 1, 3]) && lv.samples == .file (vec [0, 15000, 45000]) &&
        lv.spikeClusters == vec [0, 2, 2] && lv.channelMap == vec [0, 1] && lv.channelPositions == ⟨[2, 2], [.num 0, .num 1, .num 10, .num 11]⟩
    | .error _ => false) = true := by
  obtain ⟨lv, d', hl, e1, e2, e3, -, -, e6, e7, -⟩ := convert_output_loads id exI exCfg exView exGen exSrc
    exConvertible (by unfold ViewOK; decide +kernel) (by decide) (by decide +kernel)
    (fun w i => by simp only [exI]; split <;> rfl) (by decide +kernel) _ _ _ rfl rfl rfl rfl rfl (by decide) (by decide)
  rw [hl]
  simp only [e1, e2, e3, e6, e7]
  decide +kernel

end PhyVerif.C13
