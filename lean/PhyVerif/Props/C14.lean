import PhyVerif.Model.C14
import PhyVerif.Spec.C14
import PhyVerif.Lemmas.C14
import PhyVerif.Lemmas.C14b
import PhyVerif.Lemmas.C14c
import PhyVerif.Lemmas.C14d
import PhyVerif.Lemmas.C14e
/-!
# C14 — exported ALF values equal the physical quantities they name
Only property theorems + non-vacuity examples; proofs in `Lemmas/C14*.lean` (raw indices: `C14d`; listed
channels: `C14`, `C14c`; waveforms, depths, durations: `C14b`, `C14c`; amplitude files: `C14b`, `C14e`).
(The amplitude / rescaling / duration / feature-depth formulas are the C09 theorems; here: the
composition with the merge of C12, the listed channels, and the column/depth bookkeeping.)
-/
namespace PhyVerif.C14
open PhyVerif PhyVerif.C09 PhyVerif.C12

/-- Composition theorem: exporting the raw channel indices of a dataset merged from ANY number of
probes gives back each probe's original channel map — for ANY non-empty channel maps (arbitrary
naturals, gaps and duplicates allowed; not only permutations).  An empty map followed by a
non-empty one breaks it (`[[], [0]]` exports `[1]`). -/
theorem rawInd_inverts_merge (maps : List (List Nat)) (h : ∀ m ∈ maps, m ≠ []) :
    exportRawInd (mergeChannelMaps maps) (channelProbes maps) = (maps.flatten).map Int.ofNat :=
  Lemmas.rawInd_inverts_merge maps h

/-- "Raw channel indices are RE-EXPRESSED PER PROBE", for ANY probe table with one label per channel (single dataset
or merged; labels arbitrary naturals, not necessarily 0-based or contiguous; the real loader refuses a
`channel_probe.npy` whose length is not the number of channels: `assert self.channel_probes.shape == (nc,)`,
model.py:404): entry `i` of `channels.rawInd` is the raw index of
channel `i` itself when `i` lies on the first probe (smallest label in use), and otherwise the raw index MINUS (largest
raw index of the previous probe + 1), the previous probe being the largest label in use below the channel's
(`perProbeRawInd`, Spec/C14).  No ordering hypothesis: this is what `make_channel_objects` computes on every table. -/
theorem rawInd_per_probe (cm probes : List Nat) (hlen : probes.length = cm.length) :
    exportRawInd cm probes = perProbeRawInd cm probes :=
  Lemmas.rawInd_per_probe cm probes hlen

/-- … "the largest raw index of probe `q`" IS the raw index of one of the channels labelled `q`, and no channel
labelled `q` has a larger one (for a label in use; `probeMaxRaw` is not a default there). -/
theorem probeMaxRaw_spec (cm probes : List Nat) (hlen : probes.length = cm.length) (q : Nat) (hq : q ∈ probes) :
    (∃ j, j < cm.length ∧ probes.getD j 0 = q ∧ cm.getD j 0 = probeMaxRaw cm probes q) ∧
    ∀ j, j < cm.length → probes.getD j 0 = q → cm.getD j 0 ≤ probeMaxRaw cm probes q :=
  Lemmas.probeMaxRaw_spec cm probes hlen q hq

/-- On every probe table whose labels follow the channel map (a channel with a smaller label has a strictly smaller raw
index, `probesOrdered`), EVERY exported raw index is ≥ 0 — for all channel maps and probe tables, not checked at run
time. -/
theorem rawInd_nonneg_of_ordered (cm probes : List Nat) (hlen : probes.length = cm.length)
    (ho : probesOrdered cm probes = true) : ∀ x ∈ exportRawInd cm probes, 0 ≤ x :=
  Lemmas.rawInd_nonneg_of_ordered cm probes hlen ho

/-- … and ONLY there: a table that is not in channel-map order exports a negative raw index (the open finding
`pf_c14f`; channel map `[0,1,2,3]`, probes `[1,1,0,0]` below). -/
theorem rawInd_nonneg_iff_ordered (cm probes : List Nat) (hlen : probes.length = cm.length) :
    (∀ x ∈ exportRawInd cm probes, 0 ≤ x) ↔ probesOrdered cm probes = true :=
  ⟨Lemmas.ordered_of_rawInd_nonneg cm probes hlen, Lemmas.rawInd_nonneg_of_ordered cm probes hlen⟩

/-- The tie to `rawInd_inverts_merge`: the table a merge of non-empty channel maps produces IS in channel-map order
(blocks labelled 0..k-1 on strictly increasing raw ranges), so the two theorems above speak about every merged dataset,
and on it the per-probe re-expression `perProbeRawInd` is each probe's original channel map. -/
theorem merged_probes_ordered (maps : List (List Nat)) (h : ∀ m ∈ maps, m ≠ []) :
    probesOrdered (mergeChannelMaps maps) (channelProbes maps) = true ∧
    perProbeRawInd (mergeChannelMaps maps) (channelProbes maps) = (maps.flatten).map Int.ofNat := by
  have hlen : (channelProbes maps).length = (mergeChannelMaps maps).length := by
    rw [C12.Lemmas.channelProbes_length, C12.Lemmas.mergeChannelMaps_length]
  refine ⟨(rawInd_nonneg_iff_ordered _ _ hlen).1 ?_, ?_⟩
  · rw [rawInd_inverts_merge maps h]
    exact List.forall_mem_map.2 fun a _ => Int.natCast_nonneg a
  · rw [← rawInd_per_probe _ _ hlen, rawInd_inverts_merge maps h]

-- `hpr`: the domain (one probe label per channel); the proof does not need it
set_option linter.unusedVariables false in
/-- Listed channels: nearest channels on the same probe as the peak channel, peak first.  WHICH channel `peak` is:
`listed_channels_of_waveform` below.  `hp`, `hpr`: the peak is a channel and every channel has a probe label (no
position / label is read as a default). -/
theorem nearest_ok (pos : List (Rat × Rat)) (probes : List Nat) (peak ncw : Nat)
    (hp : peak < pos.length) (hpr : probes.length = pos.length) :
    nearestOK pos probes peak ncw (nearestSameProbe pos probes peak ncw) = true :=
  Lemmas.nearest_ok pos probes peak ncw hp

/-- … where "the peak channel" of template / cluster `t` is THE peak channel (first channel of largest peak-to-peak,
C09 `IsPeakChannel`) of the STORED waveform `wfs[t]` — `model.templates_channels` / `model.clusters_channels`
(`_channels`, model.py:1307-1317, on `sparse_templates.data` / `sparse_clusters.data`, i.e. the WHITENED template), the
source the property's anchors name — and the listed row is row `t` of the EXPORTED table `exportListedChannels` (the
model of `templates.waveformsChannels` / `clusters.waveformsChannels`, one row per template / cluster), not a row
computed beside the export.  `hpos`, `hpr`: one position and one probe label per channel of the waveform (model.py:404;
no position / label is read as a default).  The statement does not say "of the exported waveform", and under a whitening
matrix that is far from a multiple of the identity the two differ (`wmi = diag(1, 8)`, stored template
`[[2, 1], [-2, -1], [0, 0]]`: listed channels `[0, 1]`, depth of channel 0, while the exported unwhitened waveform
`[[2, 8], [-2, -8], [0, 0]]` and `templates.amps` peak on channel 1).  Reading adopted here: the model's own peak
channel, as for C09; `clusters.channels`, `clusters.depths` and `clusters.peakToTrough` use the same channel. -/
theorem listed_channels_of_waveform (wfs : List Mat) (pos : List (Rat × Rat)) (probes : List Nat)
    (ncw t ns nc : Nat) (ht : t < wfs.length) (hrect : Rect (wfs.getD t []) ns nc) (hns : 0 < ns) (hnc : 0 < nc)
    (hpos : pos.length = nc) (hpr : probes.length = pos.length) :
    IsPeakChannel (wfs.getD t []) nc ((peakChannels wfs).getD t 0) ∧
    nearestOK pos probes ((peakChannels wfs).getD t 0) ncw
      ((exportListedChannels wfs pos probes ncw).getD t []) = true ∧
    (exportListedChannels wfs pos probes ncw).length = wfs.length :=
  Lemmas.listed_channels_of_waveform wfs pos probes ncw t ns nc ht hrect hns hnc hpos hpr

-- `ht hs hc`: the domain; the equation holds without them (both sides would then read defaults)
set_option linter.unusedVariables false in
/-- Exported waveforms are the (unwhitened, amplitude-rescaled) waveforms on the listed channels: column `j` of the
exported block is column `inds[t][j]` of the waveform.  Hypotheses = the real domain (`t` an id with a waveform and a row
of listed channels, `s` a sample of it, the listed channel a channel of the waveform — the real gather raises
`IndexError` otherwise): under them no `getD` on either side reads a default. -/
theorem waveforms_eq (wfs : List Mat) (inds : List (List Nat))
    (t s j : Nat) (ht : t < wfs.length)
    (hj : j < (inds.getD t []).length) (hs : s < (wfs.getD t []).length)
    (hc : (inds.getD t []).getD j 0 < ((wfs.getD t []).getD s []).length) :
    (((exportWaveforms wfs inds).getD t []).getD s []).getD j 0 =
      ((wfs.getD t []).getD s []).getD ((inds.getD t []).getD j 0) 0 :=
  Lemmas.waveforms_eq wfs inds t s j hj

/-- Membership in the blanked list, by unfolding `spikelessIds` (a `filter` over `range n`): the ids `clusters.depths`
blanks are exactly the ids below the number of clusters that NO SPIKE is assigned to — the list is computed from the
spike assignment, not handed in. -/
theorem mem_spikelessIds (n : Nat) (sc : List Nat) (c : Nat) :
    c ∈ spikelessIds n sc ↔ c < n ∧ c ∉ sc :=
  Lemmas.mem_spikelessIds n sc c

/-- … and for a CURATED dataset (`hcur`: the cluster assignment differs from the template assignment; then `n_clusters`
= highest id + 1, C13 `cluster_count_rule`) with at least one spike (`hne`: the loader takes the maximum of the ids)
that list IS the model's `nan_idx` (`modelNanIdx`, model.py:421-430: C08 `nanIdx` of the merge map, characterised by
C08 `nanIdx_spec`): the composition with C08.  Both hypotheses are needed for the sentence to be true of
`model.nan_idx`: for an UN-curated dataset `model.nan_idx` is `[]` (model.py:428) whatever the templates without
spikes (`st = sc = [0,2,2,0]`: ids without spikes `[1]`, `modelNanIdx = []`) — `make_depths` must not (and, repaired,
does not) take its list from there; for no spike at all the left side would be `[0]`. -/
theorem blanked_ids_eq_nanIdx (st sc : List Nat) (hlen : st.length = sc.length) (hcur : sc ≠ st) (hne : sc ≠ []) :
    spikelessIds (sc.foldl max 0 + 1) sc = modelNanIdx st sc :=
  Lemmas.blanked_ids_eq_nanIdx st sc hlen hcur hne

set_option linter.unusedVariables false in
/-- Cluster depths are the depth of the cluster's peak channel, NaN EXACTLY for the ids without spikes (curated or
not); one entry per cluster.  `peaks` is the exported `clusters.channels` table (`make_depths` reads it back), `sc`
the spike assignment.  `hp`: EVERY peak channel is a channel — `channel_positions[cluster_channels, 1]` (alf.py:228) is
one batch gather and raises `IndexError` as soon as ONE entry is out of range (`ys = [10, 20]`, `peaks = [1, 7]`: no
file, while the model's `getD` gives `[some 20, some 0]`), so under `hp` every depth is a stored coordinate, not a
default.  `hsc`: every spike's cluster id is below the number of clusters (`n_clusters` = highest id + 1 or the number
of templates; without features `clusters_depths[spike_clusters]`, alf.py:238, raises otherwise and neither file is
written).  The proof uses neither. -/
theorem cluster_depth_eq (ys : List Rat) (peaks sc : List Nat)
    (hp : ∀ c, c < peaks.length → peaks.getD c 0 < ys.length) (hsc : ∀ s ∈ sc, s < peaks.length)
    (c : Nat) (hc : c < peaks.length) :
    (exportClusterDepths ys peaks sc).getD c none =
      (if c ∈ sc then some (ys.getD (peaks.getD c 0) 0) else none) ∧
    (exportClusterDepths ys peaks sc).length = peaks.length :=
  ⟨Lemmas.export_cluster_depth_eq ys peaks sc c hc, Lemmas.exportClusterDepths_length ys peaks sc⟩

/-! ## Second part: unit factor, exported waveforms of the RETURNED templates, spike depths without features,
durations in milliseconds (the amplitude chain, the peak channel and the duration are the C09 models/theorems — this is
the composition). -/

/-- "Exported spike, template and cluster amplitudes carry the unit factor", ENTRY BY ENTRY ON THE STORED ARRAYS — one
statement per exported amplitude file, with `P(W) = listMax (chAmps (W · wmi))` the largest channel peak-to-peak of the
UNWHITENED stored waveform `W`:
* `spikes.amps[i] = amplitudes[i] · P(templates[spike_templates[i]]) · f`;
* `templates.amps[t] = mean(amplitudes over the spikes of template t) · P(templates[t]) · f`, NaN EXACTLY when no
  spike carries template `t`;
* `clusters.amps[c] = mean(amplitudes over the spikes of cluster c) · P(cluster_waveforms[c]) · f`, NaN EXACTLY when no
  spike is assigned to cluster `c`;
and the three files have one entry per spike / template / cluster.  Composition of C09 `spikeAmpUnit_eq` and
`ampsVUnit_eq_mean` (a member spike of `t` has template `t`, so the peak-to-peak factors out of the mean).
Hypotheses = the real domain, in front of the WHOLE conjunction: one stored amplitude per spike (`ValueError`
otherwise), EVERY spike id below the number of waveforms, for both calls (`hsT`, `hsC`: `get_amplitudes_true` indexes
`templates_amps_au[spikes]` as one batch, model.py:1181, and raises `IndexError` as soon as ONE id is out of range —
one waveform and spike ids `[0, 5]`: no file at all, while the model's `getD` would still give `templates.amps = [2]`).
The proofs of the templates / clusters / length conjuncts do not use them. -/
theorem amp_files_entries (dT dC : Data) (f : Rat) (indsT indsC : List (List Nat))
    (haT : dT.amplitudes.length = dT.spikes.length) (haC : dC.amplitudes.length = dC.spikes.length)
    (hsT : ∀ s ∈ dT.spikes, s < dT.wfsW.length) (hsC : ∀ s ∈ dC.spikes, s < dC.wfsW.length) :
    (∀ i, i < dT.spikes.length →
      (exportAmpFiles dT dC f indsT indsC).spikesAmps.getD i 0 =
        dT.amplitudes.getD i 0 * listMax (chAmps (matMul (dT.wfsW.getD (dT.spikes.getD i 0) []) dT.wmi)) * f) ∧
    (∀ t, t < dT.wfsW.length →
      (exportAmpFiles dT dC f indsT indsC).templatesAmps.getD t none =
        (meanOver dT.spikes dT.amplitudes t).map
          (· * (listMax (chAmps (matMul (dT.wfsW.getD t []) dT.wmi)) * f)) ∧
      ((exportAmpFiles dT dC f indsT indsC).templatesAmps.getD t none = none ↔ t ∉ dT.spikes)) ∧
    (∀ c, c < dC.wfsW.length →
      (exportAmpFiles dT dC f indsT indsC).clustersAmps.getD c none =
        (meanOver dC.spikes dC.amplitudes c).map
          (· * (listMax (chAmps (matMul (dC.wfsW.getD c []) dC.wmi)) * f)) ∧
      ((exportAmpFiles dT dC f indsT indsC).clustersAmps.getD c none = none ↔ c ∉ dC.spikes)) ∧
    (exportAmpFiles dT dC f indsT indsC).spikesAmps.length = dT.spikes.length ∧
    (exportAmpFiles dT dC f indsT indsC).templatesAmps.length = dT.wfsW.length ∧
    (exportAmpFiles dT dC f indsT indsC).clustersAmps.length = dC.wfsW.length :=
  Lemmas.amp_files_entries dT dC f indsT indsC haT haC hsT hsC

/-- What the driver evaluates is the export model, BY `rfl`: the op `amp_files` runs `exportAmpFilesOnce`
(`templates_amps_au` and the unwhitened waveforms `let`-bound once, in the order of model.py:1171-1181; needed for
recordings of tens of thousands of spikes), which unfolds to `exportAmpFiles` definitionally.  This is bookkeeping about
the two Lean definitions (no content about the real code): it only transfers the theorems about `exportAmpFiles` to
the values the driver prints. -/
theorem amp_files_once_eq (dT dC : Data) (f : Rat) (indsT indsC : List (List Nat)) :
    exportAmpFilesOnce dT dC f indsT indsC = exportAmpFiles dT dC f indsT indsC :=
  exportAmpFilesOnce_eq dT dC f indsT indsC

/-- Complement (homogeneity, also for the two WAVEFORM files): every file written with `ampfactor = f` is, entry by
entry, the file written with `ampfactor = 1` times `f` (NaN stays NaN).  By itself this only restates the last step of
`amplitudesTrue`; the content of the amplitude files is `amp_files_entries` above, that of the waveform files
`exported_waveform_rescaled` below.  No hypothesis: any data, any factor, any listed-channel tables. -/
theorem amps_carry_factor (dT dC : Data) (f : Rat) (indsT indsC : List (List Nat)) :
    let e := exportAmpFiles dT dC f indsT indsC
    let e1 := exportAmpFiles dT dC 1 indsT indsC
    e.spikesAmps = e1.spikesAmps.map (· * f) ∧
    e.templatesAmps = e1.templatesAmps.map (fun o => o.map (· * f)) ∧
    e.clustersAmps = e1.clustersAmps.map (fun o => o.map (· * f)) ∧
    e.templatesWaveforms = e1.templatesWaveforms.map (fun o => o.map fun W => scaleMat W f) ∧
    e.clustersWaveforms = e1.clustersWaveforms.map (fun o => o.map fun W => scaleMat W f) :=
  Lemmas.amps_carry_factor dT dC f indsT indsC

/-- `spikes.amps[i]` = stored amplitude × largest channel peak-to-peak of the spike's unwhitened template × unit
factor (C09 `spikeAmpUnit_eq`; hypotheses as there: the real export raises `IndexError` for a spike whose template id
is not below the number of templates). -/
theorem spike_amps_eq (dT dC : Data) (f : Rat) (indsT indsC : List (List Nat)) (i : Nat)
    (hi : i < dT.spikes.length) (ha : dT.amplitudes.length = dT.spikes.length)
    (hs : dT.spikes.getD i 0 < dT.wfsW.length) :
    (exportAmpFiles dT dC f indsT indsC).spikesAmps.getD i 0 =
      dT.amplitudes.getD i 0 *
        listMax (chAmps (matMul (dT.wfsW.getD (dT.spikes.getD i 0) []) dT.wmi)) * f :=
  Lemmas.spike_amps_eq dT dC f indsT indsC i hi ha hs

/-- `templates.amps[t]` / `clusters.amps[c]` = mean of the exported (unit-carrying) spike amplitudes over the member
spikes of the template / cluster, NaN for ids without spikes; for clusters the spike amplitudes are those computed
with the cluster waveforms (`use='clusters'`), which the export does not write.  `hsT`, `hsC`: every spike id is below
the number of waveforms (the real call raises `IndexError` otherwise, as for `amp_files_entries`; not used by the proof). -/
theorem template_cluster_amps_eq_mean (dT dC : Data) (f : Rat) (indsT indsC : List (List Nat))
    (haT : dT.amplitudes.length = dT.spikes.length) (haC : dC.amplitudes.length = dC.spikes.length)
    (hsT : ∀ s ∈ dT.spikes, s < dT.wfsW.length) (hsC : ∀ s ∈ dC.spikes, s < dC.wfsW.length) :
    (∀ t, t < dT.wfsW.length →
      (exportAmpFiles dT dC f indsT indsC).templatesAmps.getD t none =
        meanOver dT.spikes (exportAmpFiles dT dC f indsT indsC).spikesAmps t) ∧
    (∀ c, c < dC.wfsW.length →
      (exportAmpFiles dT dC f indsT indsC).clustersAmps.getD c none =
        meanOver dC.spikes (spikeAmpsUnit dC f) c) ∧
    (exportAmpFiles dT dC f indsT indsC).templatesAmps.length = dT.wfsW.length ∧
    (exportAmpFiles dT dC f indsT indsC).clustersAmps.length = dC.wfsW.length :=
  Lemmas.template_cluster_amps_eq_mean dT dC f indsT indsC haT haC hsT hsC

set_option linter.unusedVariables false in
/-- Exported waveforms ARE the unwhitened, amplitude-rescaled (unit-carrying) waveforms on the listed channels: for
an id `t` with spikes (returned amplitude `v`), non-flat, rectangular `(ns, nc)`, amplitudes and factor ≥ 0, the
exported block `E` has `ns` rows and `E[s][j] = U[s][inds[t][j]] · v / au` with `U` the unwhitened waveform and `au`
its arbitrary-unit amplitude — and the full returned waveform `W` has `v` as its peak amplitude.  `hin`: every listed
channel is a channel of the waveform (the real gather raises `IndexError` otherwise; `nearestOK` bounds only the entries
of a row on the peak's probe, not its other-probe tail), so no entry on the right is a `getD` default. -/
theorem exported_waveform_rescaled (d : Data) (f : Rat) (inds : List (List Nat))
    (hnn : ∀ a ∈ d.amplitudes, 0 ≤ a) (hf : 0 ≤ f) (t : Nat) (ht : t < d.wfsW.length)
    (hti : t < inds.length) (v : Rat) (hv : (ampsVUnit d f).getD t none = some v)
    (hau : 0 < (ampsAu d).getD t 0) (ns nc : Nat) (hns : 0 < ns) (hnc : 0 < nc)
    (hrect : Rect ((unwhitened d).getD t []) ns nc) (hin : ∀ c ∈ inds.getD t [], c < nc) :
    ∃ W E, (rescaledUnit d f).getD t none = some W ∧ IsPeakAmp W nc v ∧
      (exportWaveformsOpt (rescaledUnit d f) inds).getD t none = some E ∧ E.length = ns ∧
      ∀ s j, s < ns → j < (inds.getD t []).length →
        entry E s j = entry ((unwhitened d).getD t []) s ((inds.getD t []).getD j 0) *
          (v / (ampsAu d).getD t 0) :=
  Lemmas.exported_waveform_rescaled d f inds hnn hf t ht hti v hv hau ns nc hns hnc hrect

/-- … and the block of an id WITHOUT spikes (NaN amplitude) is NaN. -/
theorem exported_waveform_nan (d : Data) (f : Rat) (inds : List (List Nat)) (t : Nat) (ht : t < d.wfsW.length)
    (hv : (ampsVUnit d f).getD t none = none) :
    (exportWaveformsOpt (rescaledUnit d f) inds).getD t none = none :=
  Lemmas.exported_waveform_nan d f inds t ht hv

set_option linter.unusedVariables false in
/-- "or the cluster depth when no features exist": whenever `get_depths()` gives nothing — no feature file, or
features stored for a SUBSET of the spikes (`pc_feature_spike_ids.npy`, model.py:1124) — a spike's depth is the depth
(y) of its cluster's peak channel, and it is NEVER NaN (the spike's own cluster has a spike); one entry per spike.
Hypotheses = the domain of the two BATCH gathers of `make_depths`, for ALL entries (one out-of-range entry anywhere
raises `IndexError` and nothing is written): `hp` every cluster's peak channel is a channel (alf.py:228), `hsc` every
spike's cluster id is below the number of clusters (alf.py:238).  Outside `hsc` the model's `getD` would give NaN
(`exportSpikeDepths none [10,20] [1,0] [0,9] [0,9] = [some 20, none]`): excluded here, the real export raises there. -/
theorem spike_depth_eq (fe : Option Feats) (ys : List Rat) (peaks st sc : List Nat)
    (hno : ∀ f, fe = some f → f.feat0.length ≠ st.length)
    (hp : ∀ c, c < peaks.length → peaks.getD c 0 < ys.length) (hsc : ∀ s ∈ sc, s < peaks.length)
    (i : Nat) (hi : i < sc.length) :
    (exportSpikeDepths fe ys peaks st sc).getD i none = some (ys.getD (peaks.getD (sc.getD i 0) 0) 0) ∧
    (exportSpikeDepths fe ys peaks st sc).length = sc.length :=
  ⟨Lemmas.export_spike_depth_eq fe ys peaks st sc ((Lemmas.getDepths_none_iff fe ys st).2 hno) i hi
    (hsc _ (Np.Lemmas.getD_mem sc i 0 hi)),
   Lemmas.exportSpikeDepths_length_fallback fe ys peaks st sc ((Lemmas.getDepths_none_iff fe ys st).2 hno)⟩

set_option linter.unusedVariables false in
/-- "spike depths are feature-weighted channel depths", as explicit finite sums: with a feature row for every spike,
`nloc` local channels per spike / template, the exported depth of spike `i` is
`Σ_{k<nloc} y_k · w_k / Σ_{k<nloc} w_k` with `w_k = max(features[i, k, 0], 0)²` and `y_k` the depth (y) of channel
`cols[spike_templates[i], k]` — NaN when no weight is positive; one entry per spike (composition of the export with
C09 `depth_direct`).  Hypotheses = the domain of the BATCH gathers of `get_depths` (model.py:1129-1134), for EVERY
spike, not only spike `i` (one spike whose template has no feature-channel row raises `IndexError` for the whole batch:
features `[[1,1],[1,1]]`, `cols = [[0,1]]`, `spike_templates = [0, 4]` — nothing is returned, while the model's `getD`
gives `[some 15, some 0]`): `hf` the feature array is `(n_spikes, nloc)`, `hst` every spike's template has a row of
feature channels, `hc` that row has `nloc` entries (broadcast `ValueError` otherwise), `hb` all of them are channels.
Under them no read on the right is a default and no sum is truncated.  The proof needs them at `i` only. -/
theorem spike_depth_features_eq (f : Feats) (ys : List Rat) (peaks st sc : List Nat) (nloc : Nat)
    (hl : f.feat0.length = st.length)
    (hf : ∀ i, i < st.length → (f.feat0.getD i []).length = nloc)
    (hst : ∀ i, i < st.length → st.getD i 0 < f.cols.length)
    (hc : ∀ i, i < st.length → (f.cols.getD (st.getD i 0) []).length = nloc)
    (hb : ∀ i, i < st.length → ∀ c ∈ f.cols.getD (st.getD i 0) [], c < ys.length)
    (i : Nat) (hi : i < st.length) :
    (exportSpikeDepths (some f) ys peaks st sc).getD i none =
      (let w := fun k => max ((f.feat0.getD i []).getD k 0) 0 * max ((f.feat0.getD i []).getD k 0) 0
       let y := fun k => ys.getD ((f.cols.getD (st.getD i 0) []).getD k 0) 0
       if sumTo nloc w = 0 then none else some (sumTo nloc (fun k => y k * w k) / sumTo nloc w)) ∧
    (exportSpikeDepths (some f) ys peaks st sc).length = st.length :=
  Lemmas.spike_depth_features_eq f ys peaks st sc nloc hl hf hst hc hb i hi

-- `hr`: the domain (a sampling rate); the equation does not need it
set_option linter.unusedVariables false in
/-- `clusters.peakToTrough[c]` in MILLISECONDS: `(iM − im) · 1000 / rate` for THE peak channel `p` of the cluster
waveform and THE first arg-max `iM` / arg-min `im` along time on it (direct formula of C09 `duration_ms_spec`; objects
exist by C09 `duration_objects_exist`); one entry per cluster.  NaN exactly for the ids without spikes of a CURATED
dataset (`model.nan_idx`, the C08 model, composed through C08 `nanIdx_spec`; their cluster waveform is all zero).  When
nothing was curated every template — also one without spikes — has the duration of its own waveform: the statement
attaches its NaN clause to depths, and upstream `test_alf.py::test_creator` pins a number there.  `hn`: a curated
dataset has one cluster per id up to the highest (C13 `cluster_count_rule`). -/
theorem peakToTrough_eq (wfs : List Mat) (rate : Rat) (hr : 0 < rate) (st sc : List Nat)
    (hlen : st.length = sc.length) (hn : sc ≠ st → wfs.length = sc.foldl max 0 + 1) (ns nc : Nat)
    (hns : 0 < ns) (hnc : 0 < nc) (hrect : ∀ W ∈ wfs, Rect W ns nc) (c : Nat) (hc : c < wfs.length)
    (p iM im : Nat) (hp : IsPeakChannel (wfs.getD c []) nc p) (hM : IsFirstMax (chan (wfs.getD c []) p) iM)
    (hm : IsFirstMin (chan (wfs.getD c []) p) im) :
    (exportDurations wfs rate st sc).getD c none =
      (if sc ≠ st ∧ c ∉ sc then none else some ((((iM : Int) - (im : Int) : Int) : Rat) * 1000 / rate)) ∧
    (exportDurations wfs rate st sc).length = wfs.length :=
  ⟨Lemmas.durations_eq wfs rate st sc hlen hn ns nc hns hnc hrect c hc p iM im hp hM hm,
   Lemmas.exportDurations_length wfs rate st sc⟩

/-- "Peak channel FIRST", literally: when no other channel sits at the peak channel's position (the loader replaces
non-distinct positions, model.py:393-396, so every exported dataset satisfies this) and at least one channel is
listed, EVERY row the acceptance predicate `nearestOK` admits — in particular the real export's row, whatever the
tie-breaking of its unstable `argsort` — starts with the peak channel itself.  With two co-located channels the clause
is not determined: positions `[(0,0),(0,0)]`, peak 1 admits the row `[0, 1]`. -/
theorem nearestOK_peak_first (pos : List (Rat × Rat)) (probes : List Nat) (peak ncw : Nat) (row : List Nat)
    (hp : peak < pos.length) (hn : 0 < ncw)
    (hd : ∀ c, c < pos.length → c ≠ peak → pos.getD c (0, 0) ≠ pos.getD peak (0, 0))
    (h : nearestOK pos probes peak ncw row = true) : row.head? = some peak :=
  Lemmas.nearestOK_peak_first pos probes peak ncw row hp hn hd h

/-- … and so does the model's row. -/
theorem nearest_peak_first (pos : List (Rat × Rat)) (probes : List Nat) (peak ncw : Nat)
    (hp : peak < pos.length) (hn : 0 < ncw)
    (hd : ∀ c, c < pos.length → c ≠ peak → pos.getD c (0, 0) ≠ pos.getD peak (0, 0)) :
    (nearestSameProbe pos probes peak ncw).head? = some peak :=
  Lemmas.nearest_peak_first pos probes peak ncw hp hn hd

/-! Non-vacuity -/
example : (nearestSameProbe [(0, 0), (0, 20), (10, 10), (0, 40), (5, 5)] [0, 0, 1, 0, 1] 1 4).head? = some 1 :=
  nearest_peak_first _ _ 1 4 (by decide) (by decide) (by decide +kernel)
example : nearestOK [(0, 0), (0, 0)] [0, 0] 1 2 [0, 1] = true := by decide +kernel   -- co-located: not determined
-- the whitened template of `listed_channels_of_waveform`: peak channel 0 on the stored waveform, listed channels [0, 1]
example : nearestSameProbe [(0, 0), (0, 20)] [0, 0] ((peakChannels [[[2, 1], [-2, -1], [0, 0]]]).getD 0 0) 2 = [0, 1] := by
  decide +kernel
example : IsPeakChannel ([[[2, 1], [-2, -1], [0, 0]]].getD 0 []) 2 ((peakChannels [[[2, 1], [-2, -1], [0, 0]]]).getD 0 0) :=
  (listed_channels_of_waveform _ [(0, 0), (0, 20)] [0, 0] 2 0 3 2 (by decide)
    ⟨by decide, by decide⟩ (by decide) (by decide) (by decide) (by decide)).1
-- the exported table for two waveforms on a two-probe layout: one row per waveform, each on its peak's probe first
example : exportListedChannels [[[2, 1, 0], [-2, -1, 0]], [[0, 1, 5], [0, 0, -5]]] [(0, 0), (0, 20), (10, 10)] [0, 0, 1] 2 =
    [[0, 1], [2, 0]] := by decide +kernel
section Instances
def exT : Data := ⟨[[[1, 0], [-1, 2]], [[0, 3], [0, -3]], [[5, 5], [1, 1]]], [[2, 0], [0, 1/2]], [1, 2, 1/2], [0, 0, 1]⟩
def exC : Data := ⟨[[[1, 0], [-1, 2]], [[0, 3], [0, -3]]], [[2, 0], [0, 1/2]], [1, 2, 1/2], [1, 0, 1]⟩

/-- the five files for factor 5/2 (template 2 has no spikes: NaN amplitude, NaN waveform; channels listed in reverse
order for template 1) -/
example : exportAmpFiles exT exC (5/2) [[0, 1], [1, 0], [0, 1]] [[1], [1]] =
    { spikesAmps := [10, 20, 15/4], templatesAmps := [some 15, some (15/4), none],
      templatesWaveforms := [some [[15/2, 0], [-15/2, 15/4]], some [[15/8, 0], [-15/8, 0]], none],
      clustersAmps := [some 20, some (45/8)], clustersWaveforms := [some [[0], [5]], some [[45/16], [-45/16]]] } := by
  decide +kernel
-- the driver's evaluation order gives the same five files (computed independently here, then `amp_files_once_eq`)
example : (exportAmpFilesOnce exT exC (5/2) [[0, 1], [1, 0], [0, 1]] [[1], [1]]).templatesAmps = [some 15, some (15/4), none] := by
  decide +kernel
example : exportAmpFilesOnce exT exC (5/2) [[0, 1], [1, 0], [0, 1]] [[1], [1]] =
    exportAmpFiles exT exC (5/2) [[0, 1], [1, 0], [0, 1]] [[1], [1]] := amp_files_once_eq _ _ _ _ _
example : (exportAmpFiles exT exC (5/2) [] []).spikesAmps = (exportAmpFiles exT exC 1 [] []).spikesAmps.map (· * (5/2)) :=
  (amps_carry_factor exT exC (5/2) [] []).1
example : (exportAmpFiles exT exC (5/2) [] []).spikesAmps.getD 1 0 = 2 * 4 * (5/2) := by
  have h := spike_amps_eq exT exC (5/2) [] [] 1 (by decide) (by decide) (by decide)
  rwa [show listMax (chAmps (matMul (exT.wfsW.getD (exT.spikes.getD 1 0) []) exT.wmi)) = 4 by decide +kernel,
    show exT.amplitudes.getD 1 0 = 2 by decide +kernel] at h
-- templates.amps[0]: spikes 0 and 1 (stored amplitudes 1 and 2, mean 3/2), unwhitened peak-to-peak 4, factor 5/2;
-- template 2 has no spike: NaN
example : (exportAmpFiles exT exC (5/2) [] []).templatesAmps.getD 0 none = some (3/2 * (4 * (5/2))) := by
  rw [((amp_files_entries exT exC (5/2) [] [] (by decide) (by decide) (by decide) (by decide)).2.1 0 (by decide)).1]
  decide +kernel
example : (exportAmpFiles exT exC (5/2) [] []).templatesAmps.getD 2 none = none :=
  ((amp_files_entries exT exC (5/2) [] [] (by decide) (by decide) (by decide) (by decide)).2.1 2 (by decide)).2.2 (by decide)
example : (exportAmpFiles exT exC (5/2) [] []).clustersAmps.getD 1 none =
    (meanOver exC.spikes exC.amplitudes 1).map (· * (listMax (chAmps (matMul (exC.wfsW.getD 1 []) exC.wmi)) * (5/2))) :=
  ((amp_files_entries exT exC (5/2) [] [] (by decide) (by decide) (by decide) (by decide)).2.2.1 1 (by decide)).1
example : (exportAmpFiles exT exC (5/2) [] []).clustersAmps.getD 1 none = meanOver exC.spikes (spikeAmpsUnit exC (5/2)) 1 :=
  (template_cluster_amps_eq_mean exT exC (5/2) [] [] (by decide) (by decide) (by decide) (by decide)).2.1 1 (by decide)
example : ∃ W E, (rescaledUnit exT (5/2)).getD 1 none = some W ∧ IsPeakAmp W 2 (15/4) ∧
    (exportWaveformsOpt (rescaledUnit exT (5/2)) [[0, 1], [1, 0], [0, 1]]).getD 1 none = some E ∧ E.length = 2 ∧
    ∀ s j, s < 2 → j < ([[0, 1], [1, 0], [0, 1]].getD 1 []).length →
      entry E s j = entry ((unwhitened exT).getD 1 []) s (([[0, 1], [1, 0], [0, 1]].getD 1 []).getD j 0) *
        (15/4 / (ampsAu exT).getD 1 0) :=
  exported_waveform_rescaled exT (5/2) _ (by decide +kernel) (by decide +kernel) 1 (by decide)
    (by decide) (15/4) (by decide +kernel) (by decide +kernel) 2 2 (by decide) (by decide) (by decide +kernel) (by decide)
example : (exportWaveformsOpt (rescaledUnit exT (5/2)) [[0, 1], [1, 0], [0, 1]]).getD 2 none = none :=
  exported_waveform_nan exT (5/2) _ 2 (by decide) (by decide +kernel)
-- an UN-CURATED assignment whose template 1 has no spike: id 1 is blanked (before the repair it was not)
example : spikelessIds 3 [0, 2, 2, 0] = [1] := by decide +kernel
example : exportClusterDepths [10, 20, 40] [2, 0, 1] [0, 2, 2, 0] = [some 40, none, some 20] := by decide +kernel
example : (exportClusterDepths [10, 20, 40] [2, 0, 1] [0, 2, 2, 0]).getD 1 none = none := by
  refine (cluster_depth_eq _ _ _ (by decide) (by decide) 1 (by decide)).1.trans ?_
  decide +kernel
example : spikelessIds ([4, 0, 4, 2, 2, 4].foldl max 0 + 1) [4, 0, 4, 2, 2, 4] = [1, 3] := by
  refine (blanked_ids_eq_nanIdx [0, 0, 1, 2, 2, 1] _ (by decide) (by decide) (by decide)).trans ?_
  decide +kernel
-- outside `hcur` the two lists differ: nothing curated, template 1 without spikes
example : spikelessIds ([0, 2, 2, 0].foldl max 0 + 1) [0, 2, 2, 0] = [1] ∧ modelNanIdx [0, 2, 2, 0] [0, 2, 2, 0] = [] := by decide +kernel
-- no features / features for 2 of 4 spikes: the cluster depth, never NaN
example : exportSpikeDepths none [10, 20, 40] [2, 0, 1] [0, 2, 2, 0] [0, 2, 2, 0] =
    [some 40, some 20, some 20, some 40] := by decide +kernel
example : exportSpikeDepths (some ⟨[[1, 2], [0, 1]], [[0, 1], [0, 1], [0, 1]]⟩) [10, 20, 40] [2, 0, 1] [0, 2, 2, 0]
    [0, 2, 2, 0] = [some 40, some 20, some 20, some 40] := by decide +kernel
example : (exportSpikeDepths (some ⟨[[1, 2], [0, 1]], [[0, 1], [0, 1], [0, 1]]⟩) [10, 20, 40] [2, 0, 1] [0, 2, 2, 0]
    [0, 2, 2, 0]).getD 1 none = some 20 := by
  refine (spike_depth_eq _ _ _ _ _ (by intro f hf; cases hf; decide) (by decide) (by decide) 1 (by decide)).1.trans ?_
  decide +kernel
-- features for every spike: the feature-weighted depths (spike 1: weights 0 and 1 -> depth of channel 1; spike 2: no
-- positive weight -> NaN)
example : exportSpikeDepths (some ⟨[[1, 1], [-1, 1], [-1, 0]], [[0, 1], [0, 1], [1, 2]]⟩) [10, 20, 40] [2, 0, 1] [0, 2, 1]
    [0, 2, 1] = [some 15, some 40, none] := by decide +kernel
example : (exportSpikeDepths (some ⟨[[1, 1], [-1, 1], [-1, 0]], [[0, 1], [0, 1], [1, 2]]⟩) [10, 20, 40] [2, 0, 1] [0, 2, 1]
    [0, 2, 1]).getD 1 none = some 40 := by
  refine (spike_depth_features_eq _ _ _ _ _ 2 (by decide) (by decide) (by decide) (by decide) (by decide) 1
    (by decide)).1.trans ?_
  decide +kernel
-- curated (ids 0..2, id 1 without spikes): NaN; nothing curated (template 2 without spikes): the template's own duration
example : exportDurations [[[1, 0, 4], [-1, 2, 0], [3, 1, 2]], [[0, 0, 0], [0, 0, 0], [0, 0, 0]],
    [[0, 0, 1], [0, 5, 0], [0, -1, 0]]] 30000 [0, 0, 1] [0, 2, 2] = [some (1/30), none, some (-1/30)] := by
  decide +kernel
example : exportDurations [[[1, 0, 4], [-1, 2, 0], [3, 1, 2]], [[0, 0, 1], [0, 5, 0], [0, -1, 0]],
    [[0, 1, 0], [0, 0, 0], [0, -1, 0]]] 30000 [0, 1, 1] [0, 1, 1] = [some (1/30), some (-1/30), some (-1/15)] := by
  decide +kernel
example : (exportDurations [[[1, 0, 4], [-1, 2, 0], [3, 1, 2]]] 30000 [0, 0] [0, 0]).getD 0 none =
    some (((((2 : Nat) : Int) - ((1 : Nat) : Int) : Int) : Rat) * 1000 / 30000) := by
  -- the peak channel is channel 0 (the first of the two with peak-to-peak 4); its maximum is at sample 2, its minimum at 1
  refine (peakToTrough_eq _ 30000 (by decide +kernel) _ _ (by decide) (by decide) 3 3 (by decide) (by decide)
    (by decide) 0 (by decide) _ 2 1
    (C09.Lemmas.peakChannels_spec _ 0 3 3 (by decide) ⟨by decide, by decide⟩ (by decide) (by decide)).1
    (by unfold IsFirstMax; decide +kernel) (by unfold IsFirstMin; decide +kernel)).1.trans ?_
  decide +kernel
end Instances

-- a SINGLE dataset whose probe labels are not in channel-map order: negative raw indices (open finding, see
-- known_findings.json) — the converse of `rawInd_nonneg_of_ordered` on one table; in channel-map order:
-- per-probe indices, none negative
example : probesOrdered [0, 1, 2, 3] [1, 1, 0, 0] = false ∧ exportRawInd [0, 1, 2, 3] [1, 1, 0, 0] = [-4, -3, 2, 3] := by decide +kernel
example : ¬ ∀ x ∈ exportRawInd [0, 1, 2, 3] [1, 1, 0, 0], 0 ≤ x :=
  fun h => absurd ((rawInd_nonneg_iff_ordered [0, 1, 2, 3] [1, 1, 0, 0] rfl).1 h) (by decide +kernel)
example : probesOrdered [3, 0, 5, 4] [0, 0, 1, 1] = true ∧ exportRawInd [3, 0, 5, 4] [0, 0, 1, 1] = [3, 0, 1, 0] := by decide +kernel
example : ∀ x ∈ exportRawInd [3, 0, 5, 4] [0, 0, 1, 1], 0 ≤ x :=
  rawInd_nonneg_of_ordered [3, 0, 5, 4] [0, 0, 1, 1] rfl (by decide +kernel)
-- two channels of DIFFERENT probes with the same raw index: not ordered (strict), and indeed -1
example : probesOrdered [0, 0] [0, 1] = false ∧ exportRawInd [0, 0] [0, 1] = [0, -1] := by decide +kernel
-- labels 5 < 7 < 9 (not 0-based, interleaved, out of map order): entry = raw − (largest raw of the previous label + 1)
example : perProbeRawInd [10, 3, 7, 0, 12, 5] [7, 5, 9, 5, 7, 9] = [10 - 4, 3, 7 - 13, 0, 12 - 4, 5 - 13] := by decide +kernel
example : exportRawInd [10, 3, 7, 0, 12, 5] [7, 5, 9, 5, 7, 9] = [6, 3, -6, 0, 8, -8] := by
  refine (rawInd_per_probe _ _ (by rfl)).trans ?_
  decide +kernel
example : probeMaxRaw [10, 3, 7, 0, 12, 5] [7, 5, 9, 5, 7, 9] 7 = 12 ∧
    ∃ j, j < 6 ∧ [7, 5, 9, 5, 7, 9].getD j 0 = 7 ∧ [10, 3, 7, 0, 12, 5].getD j 0 = 12 := ⟨by decide +kernel, 4, by decide +kernel⟩
example : probesOrdered (mergeChannelMaps [[2, 0, 3, 1], [1, 0], [0, 2, 1]]) (channelProbes [[2, 0, 3, 1], [1, 0], [0, 2, 1]]) = true :=
  (merged_probes_ordered _ (by decide)).1
-- waveform gather inside its domain
example : (((exportWaveforms [[[1, 2, 3], [4, 5, 6]]] [[2, 0]]).getD 0 []).getD 1 []).getD 0 0 = 6 := by
  refine (waveforms_eq _ _ 0 1 0 (by decide) (by decide) (by decide) (by decide)).trans ?_
  decide +kernel
example : nearestOK [(0, 0), (0, 20), (10, 10)] [0, 0, 1] 1 2 (nearestSameProbe [(0, 0), (0, 20), (10, 10)] [0, 0, 1] 1 2) = true :=
  nearest_ok _ _ 1 2 (by decide) (by decide)
example : exportRawInd (mergeChannelMaps [[2, 0, 3, 1], [1, 0], [0, 2, 1]]) (channelProbes [[2, 0, 3, 1], [1, 0], [0, 2, 1]])
    = [2, 0, 3, 1, 1, 0, 0, 2, 1] := by decide +kernel
example : nearestSameProbe [(0, 0), (0, 20), (10, 10), (0, 40), (5, 5)] [0, 0, 1, 0, 1] 1 4 = [1, 0, 3, 2] := by
  decide +kernel
example : nearestOK [(0, 0), (0, 20), (10, 10), (0, 40), (5, 5)] [0, 0, 1, 0, 1] 1 4 [1, 3, 0, 4] = true := by
  decide +kernel     -- equal distances: either order is accepted; the other-probe tail is free

end PhyVerif.C14
