import PhyVerif.Lemmas.C11k
import PhyVerif.Lemmas.C11l
import PhyVerif.Lemmas.C11x
/-!
# C11 — merging probes conserves every spike and renumbers ids disjointly
Only property theorems + non-vacuity examples; proofs in `Lemmas/C11*.lean`.
-/
namespace PhyVerif.C11
open PhyVerif

/-- The merged dataset contains each input spike exactly once: the merged origins are a
permutation of all (probe, index) pairs — for any number of probes and spikes. -/
theorem merged_perm (times : List (List Int)) :
    (mergedOrigins times).Perm (origins times) :=
  Lemmas.merged_perm times

/-- Merged spike times are non-decreasing. -/
theorem merged_sorted (times : List (List Int)) :
    (mergedTimes times).Pairwise (· ≤ ·) :=
  Lemmas.merged_sorted times

/-- Each merged spike keeps its time (and, by the same gather, its amplitude). -/
theorem merged_keeps_time (times : List (List Int)) :
    mergedTimes times = (mergedOrigins times).map (timeOf times) :=
  Lemmas.merged_keeps_time times

/-- Stability: among simultaneous spikes the original order is kept within a probe and spikes of
different probes are ordered by probe — i.e. the merged origins are sorted lexicographically by
(time, probe, index). -/
theorem merged_stable (times : List (List Int)) :
    (mergedOrigins times).Pairwise fun a b =>
      timeOf times a < timeOf times b ∨ (timeOf times a = timeOf times b ∧ originLt a b) :=
  Lemmas.merged_stable times

/-- Any per-spike array (amplitudes, shifted ids) is gathered with the same order: the merged
value of a spike is the value it had in its probe. -/
theorem gather_by_origin {α : Type} (times : List (List Int)) (arrays : List (List α))
    (hs : SameShape times arrays) (d : α) :
    gather arrays (spikeOrder times) =
      (mergedOrigins times).map fun o => (arrays.getD o.1 []).getD o.2 d :=
  Lemmas.gather_by_origin times arrays hs d

/-- Ids are shifted by a per-probe offset … -/
theorem ids_shifted (ids : List (List Nat)) (k i : Nat)
    (hi : i < (ids.getD k []).length) :
    ((shiftIds ids).getD k []).getD i 0 = (ids.getD k []).getD i 0 + (idOffsets ids).getD k 0 :=
  Lemmas.ids_shifted ids k i hi

/-- … such that ids of different probes never collide: every shifted id of probe k is below every shifted id
of a later probe l. -/
theorem ids_disjoint (ids : List (List Nat)) (k l : Nat) (hkl : k < l) :
    ∀ a ∈ (shiftIds ids).getD k [], ∀ b ∈ (shiftIds ids).getD l [], a < b :=
  Lemmas.ids_disjoint ids k l hkl

/-- Template ids use offsets that count each probe's templates (rows of templates.npy, at least
max id + 1): the merged template id of a spike is its original id plus the probe's offset … -/
theorem template_ids_shifted (ids : List (List Nat)) (counts : List Nat) (hlen : counts.length = ids.length)
    (k i : Nat) (hi : i < (ids.getD k []).length) :
    ((shiftBy ids (templateOffsets ids counts)).getD k []).getD i 0 =
      (ids.getD k []).getD i 0 + (templateOffsets ids counts).getD k 0 :=
  Lemmas.shiftBy_getD ids _ (Lemmas.templateOffsets_length ids counts hlen) k i hi

/-- … ids of different probes never collide … -/
theorem template_ids_disjoint (ids : List (List Nat)) (counts : List Nat)
    (k l : Nat) (hkl : k < l) :
    ∀ a ∈ (shiftBy ids (templateOffsets ids counts)).getD k [],
      ∀ b ∈ (shiftBy ids (templateOffsets ids counts)).getD l [], a < b :=
  Lemmas.template_ids_disjoint ids counts k l hkl

/-- … and when every template id is below its probe's template count the offsets are the summed
template counts of the previous probes, i.e. the row offsets of the merged templates (C12). -/
theorem templateOffsets_eq_counts (ids : List (List Nat)) (counts : List Nat) (hlen : counts.length = ids.length)
    (hlt : ∀ k, ∀ a ∈ ids.getD k [], a < counts.getD k 0) (hpos : ∀ c ∈ counts, 0 < c)
    (k : Nat) (hk : k < ids.length) :
    (templateOffsets ids counts).getD k 0 = (counts.take k).sum :=
  Lemmas.templateOffsets_eq_counts ids counts hlen hlt hpos k hk

/-- The per-cluster probe table points back to the originating probe: entry `c + offset_k` is k for every id c
of probe k's range (the converse is `clusterProbes_cover`, the length `clusterProbes_length`). -/
theorem clusterProbes_ok (ids : List (List Nat)) (k : Nat) (hk : k < ids.length) (c : Nat)
    (hc : c ≤ (ids.getD k []).foldl max 0) :
    (clusterProbes ids).getD (c + (idOffsets ids).getD k 0) (ids.length) = k :=
  Lemmas.clusterProbes_ok ids k hk c hc

/-- Size of the probe table: it has exactly one row per merged cluster id — `Σ_k (max(spike_clusters_k) + 1)`
rows, which is the largest merged cluster id plus one (the equality the code asserts at merge.py:168).
Hypotheses: the cluster arrays have as many entries in total as there are spikes (the code asserts it,
merge.py:55), there is at least one probe (`assert subdirs`), and `hne`: every probe has a spike. For a probe
WITHOUT spikes the real code raises `ValueError` at `np.max(sc)` (merge.py:152; run: 2 probes, the second or the
first one spike-less → "zero-size array to reduction operation maximum which has no identity", inputs
untouched, no merged dataset) while the model totalises that maximum as 0: without `hne` the first equality is
false in the model (second example below). -/
theorem clusterProbes_length (times : List (List Int)) (ids : List (List Nat))
    (hlen : ids.flatten.length = times.flatten.length) (hne : NonEmpty ids) (h0 : ids ≠ []) :
    (clusterProbes ids).length = (mergedIds times ids).foldl max 0 + 1 ∧
    (clusterProbes ids).length = (ids.map fun a => a.foldl max 0 + 1).sum :=
  Lemmas.clusterProbes_length times ids hlen hne h0

/-- … and every row of the table belongs to exactly one probe's id range: row K is `c + offset_k` for an
original id `c ≤ max(spike_clusters_k)` of the probe `k` the row names (with `clusterProbes_ok` and
`ids_disjoint`: the table is completely determined). -/
theorem clusterProbes_cover (ids : List (List Nat)) (K : Nat) (hK : K < (clusterProbes ids).length) :
    ∃ k c, k < ids.length ∧ c ≤ (ids.getD k []).foldl max 0 ∧ K = c + (idOffsets ids).getD k 0 ∧
      (clusterProbes ids).getD K ids.length = k :=
  Lemmas.clusterProbes_cover ids K hK

/-- Renumbered metadata: the entry of original cluster c of probe k is found under key
c + offset_k, with its value unchanged. -/
theorem metadata_renumbered {β : Type} (md : List (Option (List (Nat × β)))) (offsets : List Nat)
    (k : Nat) (l : List (Nat × β)) (hk : md[k]? = some (some l)) (hlen : offsets.length = md.length)
    (c : Nat) (v : β) (hcv : (c, v) ∈ l) :
    (c + offsets.getD k 0, v) ∈ mergeMetadata md offsets :=
  Lemmas.metadata_renumbered md offsets k l hk hlen c v hcv

/-- Renumbered per-cluster metadata with the merger's own offsets point back to the originating
probe and original id: every merged row (K, v) comes from exactly one probe k and original id c
with K = c + offset_k, the probe table sends K to k, every row of an id in the probe's range is
kept with its value, and — when each probe's file has one row per id — no two merged rows share a
key (nothing is overwritten in the merged dictionary). -/
theorem metadata_points_back {β : Type} (md : List (Option (List (Nat × β)))) (ids : List (List Nat))
    (hlen : md.length = ids.length) :
    (∀ K v, (K, v) ∈ mergeClusterData md ids →
      ∃ k c l, md[k]? = some (some l) ∧ (c, v) ∈ l ∧ c ≤ (ids.getD k []).foldl max 0 ∧
        K = c + (idOffsets ids).getD k 0 ∧ (clusterProbes ids).getD K ids.length = k) ∧
    (∀ k l c v, md[k]? = some (some l) → (c, v) ∈ l → c ≤ (ids.getD k []).foldl max 0 →
      (c + (idOffsets ids).getD k 0, v) ∈ mergeClusterData md ids) ∧
    ((∀ l, some l ∈ md → (l.map (·.1)).Nodup) → ((mergeClusterData md ids).map (·.1)).Nodup) :=
  Lemmas.metadata_points_back md ids hlen

/-! Non-vacuity -/
example : mergeClusterData [some [(0, "good"), (2, "mua")], some [(0, "good")]] [[0, 1, 1], [0, 0]]
    = [(0, "good"), (2, "good")] := by decide +kernel     -- row 2 of probe 0 (no spike, beyond its id range) is not renumbered onto probe 1's id 0
example : spikeOrder [[3, 5, 5], [1, 5], [5, 9]] = [3, 0, 1, 2, 4, 5, 6] := by decide +kernel
example : mergedOrigins [[3, 5, 5], [1, 5], [5, 9]] = [(1,0), (0,0), (0,1), (0,2), (1,1), (2,0), (2,1)] := by decide +kernel
example : mergedIds [[3, 5, 5], [1, 5], [5, 9]] [[0, 2, 2], [4, 0], [1, 1]] = [7, 0, 2, 2, 3, 9, 9] := by decide +kernel
example : templateOffsets [[0, 1, 1], [0, 0]] [3, 2] = [0, 3] := by decide +kernel   -- last template of probe 0 has no spike
example : clusterProbes [[0, 2, 2], [4, 0], [1, 1]] = [0, 0, 0, 1, 1, 1, 1, 1, 2, 2] := by decide +kernel

/-- Composition with the loader model of C04 (the last step of `merge()` is to load what it wrote):
for ANY probes the merged directory loads — its spike times are non-decreasing by `merged_sorted`, so
the loader's monotonicity check never rejects a merge — and the loaded model shows exactly the merged
samples, amplitudes, cluster and template ids (C11) and the merged channel map, probe labels and
positions (C12). -/
theorem merged_dataset_loads (inv : C04.Arr → C04.Arr) (p : Probes) (h : ProbesOK p) :
    ∃ v d', C04.load inv (mergedDir p) = .ok (v, d') ∧
      v.samples = .file (intVec (mergedTimes p.times)) ∧
      v.amplitudes = some (intVec (gather p.amps (spikeOrder p.times))) ∧
      v.spikeClusters = natVec (mergedIds p.times p.clusters) ∧
      v.spikeTemplates = natVec (mergedTemplateIds p.times p.templates p.ntemplates) ∧
      v.channelMap = natVec (C12.mergeChannelMaps p.maps) ∧
      v.channelProbes = some (natVec (C12.channelProbes p.maps)) ∧
      v.channelPositions = posArr (C12.mergePositions p.positions) :=
  Lemmas.merged_dataset_loads inv p h

/-! ## The merge as a function on directories (`Model/C11e.lean`) -/

/-- The input directories are left byte-identical: whatever `Merger(subdirs, out).merge()` does — return or
raise, at any step — every file of every probe directory reads as before and no file appears in a probe
directory; indeed no path outside the output directory changes, and inside the output directory only the
merger's own file names (`outputNames`). Hypothesis `hout`: the output directory is not one of the probe
directories. The real constructor does not check it: with `out = subdirs[0]` the real merge overwrites
`spike_times.npy`, `amplitudes.npy`, `spike_templates.npy`, `params.py` of that probe and then fails with
`AssertionError` (merge.py:55) — as the model does (`example` below). What `load_model` may create
(`spike_clusters.npy`, `whitening_mat_inv.npy`, C04 `load_frame`) is created in the OUTPUT directory only: the
merger never loads a probe directory as a model, it reads single files (`np.load`, `read_python`,
`_read_tsv_simple`). -/
theorem inputs_untouched (fs : FS) (subdirs : List String) (out : String) (hout : out ∉ subdirs) :
    (∀ d ∈ subdirs, ∀ name, (merge fs subdirs out).1.1.read (d, name) = fs.read (d, name)) ∧
    (∀ d name, d ≠ out → (merge fs subdirs out).1.1.read (d, name) = fs.read (d, name)) ∧
    (∀ name, name ∉ outputNames → (merge fs subdirs out).1.1.read (out, name) = fs.read (out, name)) :=
  Lemmas.inputs_untouched fs subdirs out hout

/-- A merge that returns (no exception) has read `I` from the probe directories, `I` is in the domain where
the real code does not raise (`InDomain`: ≥ 1 probe, every probe has spikes — `Spec.NonEmpty` — and not exactly
one, every probe has channels, per-spike arrays of equal total length, templates of one waveform length, index tables
of one row width per family — `sameWidth`), and — merging into an empty output
directory — the output directory then holds exactly the files of the table `expectedOut`, i.e. the values of
the pure functions all other C11 / C12 theorems are about (the spike order and the offsets the merger keeps on
`self` between its `write_*` methods are those functions of the inputs; `spike_templates.npy`, written twice,
ends shifted; the per-cluster TSVs appear exactly when a row is kept; an optional matrix exactly when every
probe has it; `whitening_mat_inv.npy` always: merged, or computed by the final `load_model`). -/
theorem merge_ok_contents (fs : FS) (subdirs : List String) (out : String) (fs' : FS) (reg' : Reg)
    (h : merge fs subdirs out = ((fs', reg'), none)) (hout : out ∉ subdirs) :
    ∃ I, Loaded fs subdirs I ∧ InDomain subdirs I ∧
      ((∀ n, fs.read (out, n) = none) → ∀ name, fs'.read (out, name) = expectedOut subdirs I name) :=
  Lemmas.merge_ok fs subdirs out fs' reg' h hout

/-- Conversely, probe directories in that domain are merged without any exception: the merger's own
assertions (merge.py:55 equal lengths, merge.py:168 "largest merged cluster id + 1 = size of the probe table" —
which is `clusterProbes_length`) can never fire on them. With `merge_ok_contents`: among the file systems whose
output directory is not a probe directory, the merge returns EXACTLY on the loadable inputs of `InDomain`. -/
theorem merge_returns_iff (fs : FS) (subdirs : List String) (out : String) (hout : out ∉ subdirs) :
    (merge fs subdirs out).2 = none ↔ ∃ I, Loaded fs subdirs I ∧ InDomain subdirs I :=
  Lemmas.merge_returns_iff fs subdirs out hout

/-- Probes whose `pc_feature_ind.npy` (or `template_feature_ind.npy`) tables have different row widths — e.g. a probe with
2 channels next to one with 4 when the sorter lists `min(3, n)` channels per template — make the merge raise: the
model of the `ValueError` of `np.concatenate` in `_concat` (merge.py:34, called at merge.py:295; run: tables 2 and 3 wide →
"all the input array dimensions except for the concatenation axis must match exactly"), after every other file has been
written; by `inputs_untouched` nothing outside the output directory has changed. With `merge_returns_iff`: `sameWidth`
of both families is part of `InDomain`, i.e. NECESSARY for the merge to return. (The real code refuses these probes
although the property quantifies over any channel and template counts: open known finding of C12.)
`hne`: EVERY PROBE'S TABLE HAS A ROW.  A `.table` of the model is a list of rows and cannot carry the width of a table
WITHOUT rows: `sameWidth` reads an empty FIRST table as width 0 (`sameWidth [[], [[0,1]]] = false`, but
`sameWidth [[[0,1]], []] = true`), whereas the real `np.concatenate([zeros((0,2)), zeros((1,2))])` succeeds in either
order.  On a probe with an empty index table (a probe without templates — outside the property's quantifier, which has
every probe sorted into at least one template) the model's verdict may therefore differ from the code's and depends on
the probe order; the theorem claims the raise only where every table has a row, where `sameWidth` is exactly the
condition of `np.concatenate` (all rows of all tables equally long). -/
theorem merge_raises_of_ragged_tables (fs : FS) (subdirs : List String) (out : String) (hout : out ∉ subdirs)
    (name : String) (hname : name = "pc_feature_ind.npy" ∨ name = "template_feature_ind.npy")
    (tables : List (List (List Nat))) (hl : loadEach (readTable fs name) subdirs = .ok tables)
    (hne : ∀ t ∈ tables, t ≠ [])
    (hr : sameWidth tables = false) : (merge fs subdirs out).2 ≠ none :=
  Lemmas.merge_raises_of_ragged_tables fs subdirs out hout name hname tables hl hne hr

/-- A probe without spikes (or with exactly one) makes the merge raise — the model of the `ValueError`s of
`np.max` (merge.py:152) and of `np.concatenate` on a squeezed one-element array (merge.py:34) — and by
`inputs_untouched` nothing outside the output directory has changed. -/
theorem merge_raises_of_few_spikes (fs : FS) (subdirs : List String) (out : String) (hout : out ∉ subdirs)
    (d : String) (hd : d ∈ subdirs) (v : List Nat) (hv : fs.read (d, "spike_clusters.npy") = some (.nats v))
    (hfew : v.length ≤ 1) : (merge fs subdirs out).2 ≠ none :=
  Lemmas.merge_raises_of_few_spikes fs subdirs out hout d hd v hv hfew

/-- A `Merger` that has been used before merges as a fresh one: whatever its registers (`spike_order`,
`cluster_offsets` / `cluster_counts`, `template_offsets`, `channel_index_offsets`) hold when `merge()` starts — the
complete lists of an earlier merge, or the half-filled lists left by a `merge()` that RAISED inside a per-probe
loop (e.g. `templates.npy` of a later probe not there yet, merge.py:154) — the call writes the same files and
raises the same exception as `Merger(subdirs, out).merge()` of a new object on the same directories. Hence a
merge retried on the same object after the input was repaired satisfies every other theorem of C11 / C12
(`merge_ok_contents`, `inputs_untouched`, …) as the first merge of a new object does. No hypothesis on `reg0`,
`fs`, `subdirs`, `out`. (The proof uses that `write_spike_clusters` and `write_channel_data` re-create their lists,
merge.py:144-146, 203-207: `Lemmas.cSpikeClusters_sim`, `Lemmas.cChannelData_sim`.)
WHAT THIS RESTS ON.  The statement is true because every step of the MODEL that uses a register first replaces it
(`merge = mergeFrom {}` is `rfl`): it is a faithful reading of merge.py:144-146, 203-207, and says no more than that
reading.  That the REAL `Merger` object behaves so on its second `merge()` is not proved here; it is what the
correspondence run of the harness checks (driver op `mergeRetry`: a real `Merger` whose first `merge()` raised is called
again after the input was repaired, and its output is compared file by file with the model's). -/
theorem merge_again_as_fresh (reg0 : Reg) (fs : FS) (subdirs : List String) (out : String) :
    (mergeFrom reg0 fs subdirs out).1.1 = (merge fs subdirs out).1.1 ∧
    (mergeFrom reg0 fs subdirs out).2 = (merge fs subdirs out).2 :=
  Lemmas.mergeFrom_as_fresh reg0 fs subdirs out

/-! Non-vacuity of the later theorems -/
example : (clusterProbes [[0, 2, 2], [4, 0], [1, 1]]).length = 10 ∧
    (mergedIds [[3, 5, 5], [1, 5], [5, 9]] [[0, 2, 2], [4, 0], [1, 1]]).foldl max 0 + 1 = 10 := by decide +kernel
-- `hne` of `clusterProbes_length` cannot be dropped: a spike-less last probe still takes a row of the model's table
example : (clusterProbes [[2], []]).length = 4 ∧ (mergedIds [[7], []] [[2], []]).foldl max 0 + 1 = 3 := by decide +kernel

example : (merge exampleFS ["a", "b"] "out").2 = none ∧
    (merge exampleFS ["a", "b"] "out").1.1.names "out" =
      ["whitening_mat_inv.npy", "template_feature_ind.npy", "pc_feature_ind.npy", "templates.npy",
       "channel_positions.npy", "channel_probe.npy", "channel_map.npy", "cluster_KSLabel.tsv", "cluster_probes.npy",
       "spike_templates.npy", "spike_clusters.npy", "amplitudes.npy", "spike_times.npy", "probes.description.tsv",
       "params.py"] ∧
    (merge exampleFS ["a", "b"] "out").1.1.read ("out", "spike_clusters.npy") = some (.nats [1, 3, 0, 2]) ∧
    (merge exampleFS ["a", "b"] "out").1.1.read ("out", "whitening_mat_inv.npy") = some (.computedInv none) ∧
    (merge exampleFS ["a", "b"] "out").1.1.names "a" = exampleFS.names "a" := Lemmas.merge_examples.2.1
-- the output directory is one of the probe directories (`hout` fails): the probe's files are overwritten and
-- the merge raises the assertion of merge.py:55, as the real code does
example : (merge exampleFS ["a", "b"] "a").2 = some (.shape "spike_templates.npy") ∧
    (merge exampleFS ["a", "b"] "a").1.1.read ("a", "spike_times.npy") = some (.ints [3, 4, 5, 5]) := Lemmas.merge_examples.2.2.1
-- `templates.npy` of probe "b" is not there yet: the merge raises inside the loop of `write_spike_clusters`; the file is
-- copied in and the SAME Merger merges again: the files of a fresh merge of the repaired directories
example :
    let broken := exampleFS.filter fun e => !(e.1 == ("b", "templates.npy"))
    let r := mergeRetry broken [(("b", "templates.npy"), .tmpl [[[5, 6]]])] ["a", "b"] "out"
    r.1.2 = some (.notFound "b" "templates.npy") ∧
    r.1.1.1.names "out" = ["spike_templates.npy", "amplitudes.npy", "spike_times.npy", "probes.description.tsv", "params.py"] ∧
    r.2.2 = none ∧
    (∀ n ∈ outputNames, r.2.1.1.read ("out", n) = (merge exampleFS ["a", "b"] "out").1.1.read ("out", n)) ∧
    r.2.1.1.read ("out", "cluster_KSLabel.tsv") = some (.tsv [(0, 7)]) := Lemmas.merge_examples.2.2.2.1
-- stale registers of any shape (here: probe lists of another length) are dropped
example : (mergeFrom { order := [9, 9], clusters := [[5], [5], [5]], templateOffsets := [7, 7, 7], chanIndexOffsets := [3] }
      exampleFS ["a", "b"] "out").1.1.read ("out", "template_feature_ind.npy") = some (.table [[0], [1]]) := by
  rw [(Lemmas.mergeFrom_as_fresh _ _ _ _).1]
  exact Lemmas.merge_examples.1
-- index tables of different widths: `ValueError` of `np.concatenate`, after templates.npy was written
example : (merge (exampleFS.write ("b", "pc_feature_ind.npy") (.table [[0]])) ["a", "b"] "out").2 = some (.ragged "pc_feature_ind.npy") ∧
    ((merge (exampleFS.write ("b", "pc_feature_ind.npy") (.table [[0]])) ["a", "b"] "out").1.1.read ("out", "templates.npy")).isSome ∧
    sameWidth [[[0, 1]], [[0]]] = false ∧ (∀ t ∈ [[[0, 1]], [[0]]], t ≠ ([] : List (List Nat))) := Lemmas.merge_examples.2.2.2.2.1
-- why `hne`: a table without rows has no width in the model; the verdict of `sameWidth` then depends on the probe order
example : sameWidth [[], [[0, 1]]] = false ∧ sameWidth [[[0, 1]], []] = true := by decide +kernel
-- a spike-less probe: `ValueError` of `np.max`
example : (merge (exampleProbe "a" [3, 5] [] ++ [(("b", "params.py"), .params 30000 2), (("b", "spike_times.npy"), .ints []),
      (("b", "amplitudes.npy"), .ints []), (("b", "spike_templates.npy"), .nats []), (("b", "spike_clusters.npy"), .nats [])])
    ["a", "b"] "out").2 = some (.emptyMax "spike_clusters.npy") := Lemmas.merge_examples.2.2.2.2.2

end PhyVerif.C11
