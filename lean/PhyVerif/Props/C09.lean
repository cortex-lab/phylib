import PhyVerif.Model.C09
import PhyVerif.Spec.C09
import PhyVerif.Lemmas.C09
import PhyVerif.Lemmas.C09b
import PhyVerif.Lemmas.C09c
/-!
# C09 — amplitude, depth, duration and peak-channel summaries follow their definitions
Only property theorems + non-vacuity examples; proofs in `Lemmas/C09.lean`, `C09b.lean`, `C09c.lean`.  Exact arithmetic.
-/
namespace PhyVerif.C09
open PhyVerif

/-- Scaled spike amplitude = stored amplitude × largest channel peak-to-peak of the spike's
unwhitened template. -/
theorem spikeAmp_eq (d : Data) (i : Nat) (hi : i < d.spikes.length) (ha : d.amplitudes.length = d.spikes.length) :
    (spikeAmps d).getD i 0 =
      listMax (chAmps (matMul (d.wfsW.getD (d.spikes.getD i 0) []) d.wmi)) * d.amplitudes.getD i 0 ∨
    d.wfsW.length ≤ d.spikes.getD i 0 :=
  Lemmas.spikeAmp_eq d i hi ha

/-- Per-id amplitude = mean of the scaled spike amplitudes over the member spikes, NaN for ids
without spikes — for EVERY id below the number of waveforms, including the highest. -/
theorem ampsV_eq_mean (d : Data) (ha : d.amplitudes.length = d.spikes.length) (t : Nat)
    (ht : t < d.wfsW.length) :
    (ampsV d).getD t none = meanOver d.spikes (spikeAmps d) t ∧ (ampsV d).length = d.wfsW.length :=
  Lemmas.ampsV_eq_mean d ha t ht

/-- `np.max`/`np.min` by folding: the fold result is an element of a non-empty list and bounds
every element. -/
theorem listMax_spec (l : List Rat) (h : l ≠ []) : listMax l ∈ l ∧ ∀ x ∈ l, x ≤ listMax l :=
  Lemmas.listMax_spec l h
theorem listMin_spec (l : List Rat) (h : l ≠ []) : listMin l ∈ l ∧ ∀ x ∈ l, listMin l ≤ x :=
  Lemmas.listMin_spec l h

/-- Scaling a sample vector by a non-negative factor scales its peak-to-peak amplitude. -/
theorem ptp_scale (v : List Rat) (c : Rat) (hc : 0 ≤ c) : ptp (v.map (· * c)) = ptp v * c :=
  Lemmas.ptp_scale v c hc

/-- The rescaled waveform of an id with spikes has exactly its mean spike amplitude as peak
amplitude (amplitudes ≥ 0, non-flat waveform, rectangular with ≥ 1 channel). -/
theorem rescaled_peak (d : Data) (ha : d.amplitudes.length = d.spikes.length)
    (hnn : ∀ a ∈ d.amplitudes, 0 ≤ a) (t : Nat) (ht : t < d.wfsW.length) (v : Rat)
    (hv : (ampsV d).getD t none = some v) (hau : 0 < (ampsAu d).getD t 0)
    (hrect : ∀ row ∈ (unwhitened d).getD t [], row.length = ncols ((unwhitened d).getD t []))
    (hcols : 0 < ncols ((unwhitened d).getD t [])) :
    ∃ W, (rescaled d).getD t none = some W ∧ listMax (chAmps W) = v :=
  Lemmas.rescaled_peak d ha hnn t ht v hv hau hrect hcols

/-- `_amplitudes`: one entry per id present, in increasing order, holding the mean stored
amplitude of its spikes. -/
theorem meanAmps_eq (ids : List Nat) (amps : List Rat) (h : amps.length = ids.length) :
    meanAmps ids amps = (Np.unique (ids.map Int.ofNat)).map fun t =>
      (t, ((membersOf ids t).map fun i => amps.getD i 0).sum / ((membersOf ids t).length : Nat)) :=
  Lemmas.meanAmps_eq ids amps h

/-- `np.argmax` / `np.argmin` as used for peak channels and peak/trough samples: the first
position of the maximum / minimum. -/
theorem argmaxFirst_spec (l : List Rat) (h : l ≠ []) : IsFirstMax l (argmaxFirst l) :=
  Lemmas.argmaxFirst_spec l h
theorem argminFirst_spec (l : List Rat) (h : l ≠ []) : IsFirstMin l (argminFirst l) :=
  Lemmas.argminFirst_spec l h

/-- Depth of a spike: feature-weighted mean of the depths of its template's channels (weights =
squared positive part of the first component), NaN when the positive part vanishes. -/
theorem depths_eq (feat0 : List (List Rat)) (cols : List (List Nat)) (ys : List Rat)
    (st : List Nat) (i : Nat) (hi : i < feat0.length) (hl : st.length = feat0.length) :
    (depths feat0 cols ys st).getD i none =
      (let f := (feat0.getD i []).map fun x => (max x 0) * (max x 0)
       let y := (cols.getD (st.getD i 0) []).map fun c => ys.getD c 0
       if f.sum = 0 then none else some (dot y f / f.sum)) :=
  Lemmas.depths_eq feat0 cols ys st i hi hl

/-! ## Second part: the unit factor, peak channels, durations in milliseconds, explicit sums
(model: `Model/C09b.lean`, entry-level specification: `Spec/C09b.lean`, proofs: `Lemmas/C09b.lean`) -/

/-- RETURNED spike amplitude (`get_amplitudes_true(...)[0]`) = stored amplitude × largest channel
peak-to-peak of the spike's unwhitened template × unit factor, for every spike whose id is below the number
of waveforms (otherwise the real code raises `IndexError` at model.py:1181; with amplitudes and spikes of
different length it raises `ValueError`).  What "largest channel peak-to-peak" and the matrix product are in
terms of entries: `peakAmp_spec`, `matMul_entry`. -/
theorem spikeAmpUnit_eq (d : Data) (f : Rat) (i : Nat) (hi : i < d.spikes.length)
    (ha : d.amplitudes.length = d.spikes.length) (hs : d.spikes.getD i 0 < d.wfsW.length) :
    (spikeAmpsUnit d f).getD i 0 =
      d.amplitudes.getD i 0 *
        listMax (chAmps (matMul (d.wfsW.getD (d.spikes.getD i 0) []) d.wmi)) * f ∧
    (spikeAmpsUnit d f).length = d.spikes.length :=
  Lemmas.spikeAmpUnit_eq d f i hi ha hs

/-- `listMax (chAmps W)` IS the largest channel peak-to-peak of a rectangular `(ns, nc)` waveform with at
least one sample and one channel, stated on entries only: some channel has it as (largest sample − smallest
sample), and no channel has more.  (Zero samples / zero channels: the real code raises `ValueError`, reduction
over an empty axis.) -/
theorem peakAmp_spec (W : Mat) (ns nc : Nat) (h : Rect W ns nc) (hns : 0 < ns) (hnc : 0 < nc) :
    IsPeakAmp W nc (listMax (chAmps W)) :=
  Lemmas.peakAmp_spec W ns nc h hns hnc

/-- Entry of the unwhitened waveform `np.matmul(W, wmi)`: `Σ_k W[s,k] · M[k,j]` (row of `W` as long as `M` has
rows; a shape mismatch makes the real `matmul` raise). -/
theorem matMul_entry (W M : Mat) (s j : Nat) (hs : s < W.length) (hj : j < ncols M)
    (hrow : (W.getD s []).length = M.length) :
    entry (matMul W M) s j = sumTo M.length fun k => entry W s k * entry M k j :=
  Lemmas.matMul_entry W M s j hs hj hrow

/-- RETURNED per-id amplitude (`[2]`) = mean of the RETURNED spike amplitudes (`[0]`) over the member spikes,
NaN for ids without spikes — for every id below the number of waveforms, any unit factor. -/
theorem ampsVUnit_eq_mean (d : Data) (f : Rat) (ha : d.amplitudes.length = d.spikes.length) (t : Nat)
    (ht : t < d.wfsW.length) :
    (ampsVUnit d f).getD t none = meanOver d.spikes (spikeAmpsUnit d f) t ∧
    (ampsVUnit d f).length = d.wfsW.length :=
  Lemmas.ampsVUnit_eq_mean d f ha t ht

/-- Scaling a sample vector by ANY factor scales its peak-to-peak amplitude by the absolute value. -/
theorem ptp_scale_abs (v : List Rat) (c : Rat) : ptp (v.map (· * c)) = ptp v * |c| :=
  Lemmas.ptp_scale_abs v c

/-- The RETURNED waveform (`[1]`) of an id with spikes has exactly the RETURNED per-id amplitude `v` (`[2]`) as
its peak amplitude (largest channel peak-to-peak, on entries), for stored amplitudes ≥ 0 and a unit factor
≥ 0; non-flat unwhitened waveform (`hau`; a flat one divides by zero: NaN/inf in the real code, `none` here),
rectangular with ≥ 1 sample and ≥ 1 channel.  Entry by entry it is the unwhitened waveform × (returned amplitude /
arbitrary-unit amplitude). -/
theorem rescaledUnit_peak (d : Data) (f : Rat) (hnn : ∀ a ∈ d.amplitudes, 0 ≤ a) (hf : 0 ≤ f)
    (t : Nat) (ht : t < d.wfsW.length) (v : Rat)
    (hv : (ampsVUnit d f).getD t none = some v) (hau : 0 < (ampsAu d).getD t 0) (ns nc : Nat)
    (hns : 0 < ns) (hnc : 0 < nc) (hrect : Rect ((unwhitened d).getD t []) ns nc) :
    ∃ W, (rescaledUnit d f).getD t none = some W ∧ Rect W ns nc ∧ IsPeakAmp W nc v ∧
      ∀ s j, entry W s j = entry ((unwhitened d).getD t []) s j * (v / (ampsAu d).getD t 0) :=
  Lemmas.rescaledUnit_peak_nonneg d f hnn hf t ht v hv hau ns nc hns hnc hrect

/-- What holds WITHOUT any sign condition (negative stored amplitudes, negative unit factor): the peak amplitude
of the returned waveform is the ABSOLUTE VALUE of the returned per-id amplitude.  So for a negative factor (or a
negative mean amplitude) the clause "exactly that peak amplitude" is false in the real code by a sign — a
peak-to-peak is never negative (real code run with factor −2.5: returned amplitudes [−21.875, −28.125], peak
amplitudes of the returned waveforms [+21.875, +28.125]). -/
theorem rescaledUnit_peak_abs (d : Data) (f : Rat) (t : Nat) (ht : t < d.wfsW.length) (v : Rat)
    (hv : (ampsVUnit d f).getD t none = some v) (hau : 0 < (ampsAu d).getD t 0) (ns nc : Nat)
    (hns : 0 < ns) (hnc : 0 < nc) (hrect : Rect ((unwhitened d).getD t []) ns nc) :
    ∃ W, (rescaledUnit d f).getD t none = some W ∧ Rect W ns nc ∧ IsPeakAmp W nc |v| ∧
      ∀ s j, entry W s j = entry ((unwhitened d).getD t []) s j * (v / (ampsAu d).getD t 0) :=
  Lemmas.rescaledUnit_peak_full d f t ht v hv hau ns nc hns hnc hrect

/-- Factor ≤ 0 with stored amplitudes ≥ 0: the peak amplitude is MINUS the returned per-id amplitude. -/
theorem rescaledUnit_peak_neg (d : Data) (f : Rat) (hnn : ∀ a ∈ d.amplitudes, 0 ≤ a) (hf : f ≤ 0)
    (t : Nat) (ht : t < d.wfsW.length) (v : Rat)
    (hv : (ampsVUnit d f).getD t none = some v) (hau : 0 < (ampsAu d).getD t 0) (ns nc : Nat)
    (hns : 0 < ns) (hnc : 0 < nc) (hrect : Rect ((unwhitened d).getD t []) ns nc) :
    ∃ W, (rescaledUnit d f).getD t none = some W ∧ Rect W ns nc ∧ IsPeakAmp W nc (-v) ∧
      ∀ s j, entry W s j = entry ((unwhitened d).getD t []) s j * (v / (ampsAu d).getD t 0) :=
  abs_of_nonpos (Lemmas.ampsVUnit_nonpos d f hnn hf t ht v hv) ▸
    Lemmas.rescaledUnit_peak_full d f t ht v hv hau ns nc hns hnc hrect

/-- `_channels` (dense) / `templates_channels` / `clusters_channels`: entry `t` is THE peak channel of waveform
`t` — the FIRST channel attaining the largest peak-to-peak (largest − smallest sample) — for a rectangular
waveform with ≥ 1 sample and ≥ 1 channel; one entry per waveform. -/
theorem peakChannels_spec (wfs : List Mat) (t ns nc : Nat) (ht : t < wfs.length)
    (hrect : Rect (wfs.getD t []) ns nc) (hns : 0 < ns) (hnc : 0 < nc) :
    IsPeakChannel (wfs.getD t []) nc ((peakChannels wfs).getD t 0) ∧
    (peakChannels wfs).length = wfs.length :=
  Lemmas.peakChannels_spec wfs t ns nc ht hrect hns hnc

/-- `_waveform_durations` in MILLISECONDS, direct formula: for THE peak channel `p` of waveform `t`, THE first
position `iM` of the maximum and THE first position `im` of the minimum along time on that channel, entry `t`
is `(iM − im) · 1000 / rate`, i.e. entry × rate = samples × 1000 (this second form is FALSE at rate 0, where the
model's `x / 0 = 0` would make the first one hold for the wrong reason: `hr` is needed); one entry per waveform.
All waveforms are `(ns, nc)` slices of one array, ≥ 1 sample, ≥ 1 channel.  `hr : 0 < rate` is the real domain:
`TemplateModel.__init__` asserts `self.sample_rate > 0` (model.py:341), a dataset with rate ≤ 0 does not load.
That `p`, `iM`, `im` exist (and are unique): `duration_objects_exist`. -/
theorem duration_ms_spec (wfs : List Mat) (rate : Rat) (hr : 0 < rate) (ns nc : Nat) (hns : 0 < ns)
    (hnc : 0 < nc) (hrect : ∀ W ∈ wfs, Rect W ns nc) (t : Nat) (ht : t < wfs.length) (p iM im : Nat)
    (hp : IsPeakChannel (wfs.getD t []) nc p) (hM : IsFirstMax (chan (wfs.getD t []) p) iM)
    (hm : IsFirstMin (chan (wfs.getD t []) p) im) :
    (waveformDurations wfs rate).getD t 0 = (((iM : Int) - (im : Int) : Int) : Rat) * 1000 / rate ∧
    (waveformDurations wfs rate).getD t 0 * rate = (((iM : Int) - (im : Int) : Int) : Rat) * 1000 ∧
    (waveformDurations wfs rate).length = wfs.length :=
  have h := Lemmas.duration_ms_spec wfs rate ns nc hns hnc hrect t ht p iM im hp hM hm
  ⟨h, Lemmas.duration_times_rate _ _ rate hr h, Lemmas.waveformDurations_length wfs rate⟩

/-- The peak channel and the first arg-max / arg-min along time that `duration_ms_spec` quantifies over exist. -/
theorem duration_objects_exist (W : Mat) (ns nc : Nat) (h : Rect W ns nc) (hns : 0 < ns) (hnc : 0 < nc) :
    ∃ p iM im, IsPeakChannel W nc p ∧ IsFirstMax (chan W p) iM ∧ IsFirstMin (chan W p) im :=
  Lemmas.duration_objects_exist W ns nc h hns hnc

/-- `get_depths` entry `i` as an explicit finite sum over the `nloc` local channels `c_k` of the spike's
template: `Σ_k y(c_k)·w_k / Σ_k w_k` with `w_k = max(feature_k, 0)²`, NaN when all weights vanish.  Index bounds
as in the real arrays (a template id beyond the channel table or a channel beyond the positions raises
`IndexError`; `-1` padding in `pc_feature_ind` does too — outside the quantifier). -/
theorem depth_direct (feat0 : List (List Rat)) (cols : List (List Nat)) (ys : List Rat) (st : List Nat)
    (i nloc : Nat) (hi : i < feat0.length) (hl : st.length = feat0.length)
    (hf : (feat0.getD i []).length = nloc) (hst : st.getD i 0 < cols.length)
    (hc : (cols.getD (st.getD i 0) []).length = nloc)
    (hb : ∀ c ∈ cols.getD (st.getD i 0) [], c < ys.length) :
    (depths feat0 cols ys st).getD i none =
      (let w := fun k => max ((feat0.getD i []).getD k 0) 0 * max ((feat0.getD i []).getD k 0) 0
       let y := fun k => ys.getD ((cols.getD (st.getD i 0) []).getD k 0) 0
       if sumTo nloc w = 0 then none else some (sumTo nloc (fun k => y k * w k) / sumTo nloc w)) :=
  Lemmas.depth_direct feat0 cols ys st i nloc hi hl hf hst hc hb

/-! ## Third part: WHICH stored arrays each summary is computed from (model: `Model/C09c.lean`,
specification: `Spec/C09c.lean`, proofs: `Lemmas/C09c.lean`).  `Stored` holds the files of the dataset; nothing is
read back from a loaded model. -/

/-- The id space of `get_amplitudes_true(use=…)`, `*_channels`, `*_waveforms_durations`: the per-cluster summaries
(`clusters = true`) are indexed by `spike_clusters` and have one entry per id from 0 to the HIGHEST cluster id once
anything was curated, one entry per TEMPLATE otherwise (cluster ids are then template ids, including the ids of
templates — the highest one too — that no spike uses); the per-template ones are indexed by `spike_templates`, one
per template.  The waveform array, the declared count `n_wav` and this number agree.
The content is the PER-CLUSTER case (the array and the count come out of `C08.loadClusters`); the per-template case
holds by definition of `useArrays` and is stated separately as `useArrays_templates_def`. -/
theorem useArrays_clusters_spec (s : Stored) :
    (useArrays s true).1.length = (if s.sc ≠ s.st then s.sc.foldl max 0 + 1 else s.templates.length) ∧
    (useArrays s true).2.2 = (if s.sc ≠ s.st then s.sc.foldl max 0 + 1 else s.templates.length) ∧
    (useArrays s true).2.1 = s.sc ∧
    idCount s true = (if s.sc ≠ s.st then s.sc.foldl max 0 + 1 else s.templates.length) :=
  Lemmas.useArrays_clusters_spec s

/-- Per template, BY DEFINITION of the model (`rfl`; no content beyond `useArrays` mirroring model.py:1158-1165): the
stored templates, `spike_templates`, one id per template. -/
theorem useArrays_templates_def (s : Stored) :
    useArrays s false = (s.templates, s.st, s.templates.length) ∧ idCount s false = s.templates.length ∧
    assignment s false = s.st :=
  ⟨rfl, rfl, rfl⟩

/-- `get_amplitudes_true` never fails on the count mismatch (`n_wav` vs. the waveform array) in either id space.
`hin`: every spike's id is below the number of ids of the space — otherwise `templates_amps_au[spikes]`
(model.py:1181) raises IndexError and there is no result (`amplitudesTrueUse_none`).  On a dataset that loads `hin`
holds (`assignment_lt_idCount`). -/
theorem amplitudesTrueUse_defined (s : Stored) (clusters : Bool) (f : Rat)
    (hin : ∀ t ∈ assignment s clusters, t < idCount s clusters) :
    amplitudesTrueUse s clusters f = some (amplitudesTrue (useData s clusters) f) :=
  Lemmas.amplitudesTrueUse_defined s clusters f hin

/-- A spike whose id is beyond the id space: no result (real code: IndexError at model.py:1181). -/
theorem amplitudesTrueUse_none (s : Stored) (clusters : Bool) (f : Rat)
    (hout : ∃ t ∈ assignment s clusters, idCount s clusters ≤ t) : amplitudesTrueUse s clusters f = none :=
  Lemmas.amplitudesTrueUse_none s clusters f hout

/-- `hin` holds in both id spaces as soon as every spike's TEMPLATE exists (`hst`; the loader fails otherwise):
cluster ids are below `max(spike_clusters) + 1` after curation and are the template ids before. -/
theorem assignment_lt_idCount (s : Stored) (clusters : Bool) (hst : ∀ t ∈ s.st, t < s.templates.length) :
    ∀ t ∈ assignment s clusters, t < idCount s clusters :=
  Lemmas.assignment_lt_idCount s clusters hst

/-- THE NaN CLAUSE on the stored arrays, both id spaces, any unit factor: for every id `t` below the number of ids
of the space (so also the highest one) the returned per-id amplitude is the mean of the returned spike amplitudes
over the member spikes; it is NaN EXACTLY when `t` does not occur in the STORED assignment (the set of spike-less
ids is computed from `spike_templates.npy` / `spike_clusters.npy`, not taken from the loaded model's `nan_idx`),
and then the returned waveform is NaN too.  The defaults `some 0` / `some []` show that index `t` exists.
(`ha`: amplitudes and assignment of different length make the real code raise ValueError.  `hin`: a spike id beyond the
id space makes it raise IndexError, see `amplitudesTrueUse_defined`.) -/
theorem ampsUse_spec (s : Stored) (clusters : Bool) (f : Rat)
    (ha : s.amplitudes.length = (assignment s clusters).length)
    (hin : ∀ t ∈ assignment s clusters, t < idCount s clusters) (t : Nat) (ht : t < idCount s clusters) :
    ∃ sa resc av, amplitudesTrueUse s clusters f = some (sa, resc, av) ∧
      sa.length = (assignment s clusters).length ∧ resc.length = idCount s clusters ∧
      av.length = idCount s clusters ∧
      av.getD t none = meanOver (assignment s clusters) sa t ∧
      (av.getD t (some 0) = none ↔ t ∉ assignment s clusters) ∧
      (t ∉ assignment s clusters → resc.getD t (some []) = none) :=
  Lemmas.ampsUse_spec s clusters f ha hin t ht

/-- The same at `Data` level: NaN exactly for the ids without a spike. -/
theorem ampsVUnit_none_iff (d : Data) (f : Rat) (ha : d.amplitudes.length = d.spikes.length) (t : Nat)
    (ht : t < d.wfsW.length) : (ampsVUnit d f).getD t none = none ↔ t ∉ d.spikes :=
  Lemmas.ampsVUnit_none_iff d f ha t ht

/-- Peak channels and durations (ms) of either id space are the direct formulas on ITS waveforms — the stored
templates, or the cluster waveforms of C08 (`C08.loadClusters`: template waveform / count-weighted mean / zeros for
a curated id without spikes / the template array itself when nothing was curated) — one entry per id, also for ids
without spikes (no NaN there: the statement's NaN clause is about amplitudes).  `hst`: a spike of a template beyond
the template array makes the real loader fail.  `hr : 0 < rate` as in `duration_ms_spec` (`TemplateModel.__init__`
asserts `sample_rate > 0`): the last conjunct, entry × rate = samples × 1000, is false at rate 0, where the model's
`x / 0 = 0` would make the `/ rate` form hold for the wrong reason. -/
theorem summariesUse_spec (s : Stored) (clusters : Bool) (rate : Rat) (hr : 0 < rate)
    (hst : ∀ t ∈ s.st, t < s.templates.length) (hW : ∀ M ∈ s.templates, Rect M s.ns s.nc)
    (hns : 0 < s.ns) (hnc : 0 < s.nc) (t : Nat) (ht : t < idCount s clusters) :
    (channelsUse s clusters).length = idCount s clusters ∧
    (durationsUse s clusters rate).length = idCount s clusters ∧
    ∃ p iM im, IsPeakChannel ((useArrays s clusters).1.getD t []) s.nc p ∧
      IsFirstMax (chan ((useArrays s clusters).1.getD t []) p) iM ∧
      IsFirstMin (chan ((useArrays s clusters).1.getD t []) p) im ∧
      (channelsUse s clusters).getD t 0 = p ∧
      (durationsUse s clusters rate).getD t 0 = (((iM : Int) - (im : Int) : Int) : Rat) * 1000 / rate ∧
      (durationsUse s clusters rate).getD t 0 * rate = (((iM : Int) - (im : Int) : Int) : Rat) * 1000 :=
  Lemmas.summariesUse_spec s clusters rate hr hst hW hns hnc t ht

/-- Bookkeeping, true by unfolding (`rfl`) — NOT a statement about the code: the one-pass evaluation used by the driver
is, component by component, the definitions the theorems above are about. -/
theorem summariesUse_unfold (s : Stored) (clusters : Bool) (f rate : Rat) :
    summariesUse s clusters f rate =
      (useArrays s clusters, amplitudesTrueUse s clusters f, channelsUse s clusters, durationsUse s clusters rate) :=
  rfl

/-- `templates_probes`: entry `t` is the stored probe of THE peak channel of template `t`; one per template. -/
theorem templatesProbes_spec (probes : List Int) (templates : List Mat) (t ns nc : Nat)
    (ht : t < templates.length) (hrect : Rect (templates.getD t []) ns nc) (hns : 0 < ns) (hnc : 0 < nc)
    (hp : probes.length = nc) :
    (templatesProbes probes templates).length = templates.length ∧
    ∃ p, IsPeakChannel (templates.getD t []) nc p ∧ p < probes.length ∧
      (templatesProbes probes templates).getD t 0 = probes.getD p 0 :=
  Lemmas.templatesProbes_spec probes templates t ns nc ht hrect hns hnc hp

/-- `templates_amplitudes` / `clusters_amplitudes` AS RETURNED (a bare vector): one entry per id PRESENT, position
`k` belongs to the `k`-th smallest present id (`Np.unique`: strictly increasing, exactly the ids present —
`C07.unique_spec`) and holds the mean stored amplitude of that id's spikes (a non-empty set).  Ids without spikes
have NO entry here, unlike in `get_amplitudes_true`. -/
theorem amplitudesVec_spec (ids : List Nat) (amps : List Rat) (h : amps.length = ids.length) :
    (amplitudesVec ids amps).length = (Np.unique (ids.map Int.ofNat)).length ∧
    ∀ k, k < (Np.unique (ids.map Int.ofNat)).length →
      (Np.unique (ids.map Int.ofNat)).getD k 0 ∈ ids ∧
      0 < (membersOf ids ((Np.unique (ids.map Int.ofNat)).getD k 0)).length ∧
      (amplitudesVec ids amps).getD k 0 =
        ((membersOf ids ((Np.unique (ids.map Int.ofNat)).getD k 0)).map fun i => amps.getD i 0).sum /
          ((membersOf ids ((Np.unique (ids.map Int.ofNat)).getD k 0)).length : Nat) :=
  Lemmas.amplitudesVec_spec ids amps h

/-- "UNWHITENED": when the inverse whitening matrix really inverts the whitening matrix (`wm · wmi = 1`, both
`nc × nc`), multiplying the STORED (whitened) waveform `U · wm` by `wmi` — what `get_amplitudes_true` does before
taking peak-to-peak amplitudes — gives back the physical waveform `U`, entry by entry.  (A dataset that stores only
`whitening_mat_inv.npy` has `wm = 1` in the real model while `wmi` is the stored file: there "unwhitened" just means
"times the stored inverse" and this hypothesis does not hold.) -/
theorem unwhiten_whitened (U wm wmi : Mat) (ns nc : Nat) (hU : Rect U ns nc) (hnc : 0 < nc)
    (hinv : Unwhitens wm wmi nc) (s j : Nat) (hs : s < ns) (hj : j < nc) :
    entry (matMul (matMul U wm) wmi) s j = entry U s j :=
  Lemmas.unwhiten_whitened U wm wmi ns nc hU hnc hinv s j hs hj

/-! Non-vacuity -/
example :
    let d : Data := ⟨[[[1, 0], [-1, 2]], [[0, 3], [0, -3]], [[5, 5], [1, 1]]], [[2, 0], [0, 1/2]],
                     [1, 2, 1/2], [0, 0, 1]⟩
    amplitudesTrue d (5/2) =
      ([10, 20, 15/4],
       [some [[15/2, 0], [-15/2, 15/4]], some [[0, 15/8], [0, -15/8]], none],
       [some 15, some (15/4), none]) ∧
    (ampsAu d).getD 0 0 = 4 ∧ (unwhitened d).getD 0 [] = [[2, 0], [-2, 1]] := by
  decide +kernel
/-- negative factor: returned amplitude −15, peak amplitude of the returned waveform +15 -/
example :
    let d : Data := ⟨[[[1, 0], [-1, 2]]], [[2, 0], [0, 1/2]], [1, 2], [0, 0]⟩
    ampsVUnit d (-5/2) = [some (-15)] ∧
    (rescaledUnit d (-5/2)).map (fun o => o.map fun W => listMax (chAmps W)) = [some 15] := by
  decide +kernel
/-- two channels tie on the largest peak-to-peak (4): the first one is the peak channel; the duration is taken on it -/
example :
    let wfs : List Mat := [[[1, 0, 4], [-1, 2, 0], [3, 1, 2]], [[0, 0, 1], [0, 5, 0], [0, -1, 0]]]
    peakChannels wfs = [0, 1] ∧ durTable wfs = [[1, 1, -1], [0, -1, -1]] ∧ ravelIndex 3 (peakChannels wfs) = [0, 4] ∧
    waveformDurations wfs 30000 = [1/30, -1/30] ∧ waveformDurations wfs (390625/16) = [128/3125, -128/3125] := by
  decide +kernel
example : Rect [[1, 0, 4], [-1, 2, 0], [3, 1, 2]] 3 3 := ⟨rfl, by decide⟩

/-! The hypotheses of the theorems of the second part are met by concrete inputs (each theorem applied to one). -/
section Instances
def exD : Data := ⟨[[[1, 0], [-1, 2]], [[0, 3], [0, -3]], [[5, 5], [1, 1]]], [[2, 0], [0, 1/2]], [1, 2, 1/2], [0, 0, 1]⟩
def exW : List Mat := [[[1, 0, 4], [-1, 2, 0], [3, 1, 2]], [[0, 0, 1], [0, 5, 0], [0, -1, 0]]]

example : (spikeAmpsUnit exD (5/2)).getD 1 0 = 2 * 4 * (5/2) := by
  have h := (spikeAmpUnit_eq exD (5/2) 1 (by decide) (by decide) (by decide)).1
  rwa [show listMax (chAmps (matMul (exD.wfsW.getD (exD.spikes.getD 1 0) []) exD.wmi)) = 4 by decide +kernel,
    show exD.amplitudes.getD 1 0 = 2 by decide +kernel] at h
example : (ampsVUnit exD (5/2)).getD 0 none = meanOver exD.spikes (spikeAmpsUnit exD (5/2)) 0 :=
  (ampsVUnit_eq_mean exD (5/2) (by decide) 0 (by decide)).1
example : meanOver exD.spikes (spikeAmpsUnit exD (5/2)) 0 = some 15 ∧
    meanOver exD.spikes (spikeAmpsUnit exD (5/2)) 2 = none := by decide +kernel
example : ∃ W, (rescaledUnit exD (5/2)).getD 0 none = some W ∧ Rect W 2 2 ∧ IsPeakAmp W 2 15 ∧
    ∀ s j, entry W s j = entry ((unwhitened exD).getD 0 []) s j * (15 / (ampsAu exD).getD 0 0) :=
  rescaledUnit_peak exD (5/2) (by decide +kernel) (by decide +kernel) 0 (by decide) 15 (by decide +kernel)
    (by decide +kernel) 2 2 (by decide) (by decide) ⟨by decide +kernel, by decide +kernel⟩
example : ∃ W, (rescaledUnit exD (-5/2)).getD 0 none = some W ∧ Rect W 2 2 ∧ IsPeakAmp W 2 (-(-15)) ∧
    ∀ s j, entry W s j = entry ((unwhitened exD).getD 0 []) s j * (-15 / (ampsAu exD).getD 0 0) :=
  rescaledUnit_peak_neg exD (-5/2) (by decide +kernel) (by decide +kernel) 0 (by decide) (-15) (by decide +kernel)
    (by decide +kernel) 2 2 (by decide) (by decide) ⟨by decide +kernel, by decide +kernel⟩
example : IsPeakChannel (exW.getD 0 []) 3 0 := by
  have h := (peakChannels_spec exW 0 3 3 (by decide) ⟨by decide, by decide⟩ (by decide) (by decide)).1
  rwa [show (peakChannels exW).getD 0 0 = 0 by decide +kernel] at h
example : (waveformDurations exW 30000).getD 0 0 = (((2 : Nat) : Int) - ((1 : Nat) : Int) : Int) * 1000 / 30000 := by
  have hp : IsPeakChannel (exW.getD 0 []) 3 0 := by
    have h := (peakChannels_spec exW 0 3 3 (by decide) ⟨by decide, by decide⟩ (by decide) (by decide)).1
    rwa [show (peakChannels exW).getD 0 0 = 0 by decide +kernel] at h
  have hM : IsFirstMax (chan (exW.getD 0 []) 0) 2 := by unfold IsFirstMax; decide +kernel
  have hm : IsFirstMin (chan (exW.getD 0 []) 0) 1 := by unfold IsFirstMin; decide +kernel
  exact (duration_ms_spec exW 30000 (by decide +kernel) 3 3 (by decide) (by decide) (by decide) 0 (by decide)
    0 2 1 hp hM hm).1
example : entry (matMul [[1, 2], [3, 4]] [[2, 0], [1, 1/2]]) 1 0 = sumTo 2 fun k => entry [[1, 2], [3, 4]] 1 k * entry [[2, 0], [1, 1/2]] k 0 :=
  matMul_entry _ _ 1 0 (by decide) (by decide) (by decide)
example : (sumTo 2 fun k => entry [[1, 2], [3, 4]] 1 k * entry [[2, 0], [1, 1/2]] k 0) = 10 := by decide +kernel
example : (depths [[1, -2, 2, 3]] [[2, 0, 1, 2]] [10, 20, 40] [0]).getD 0 none = some (240/7) := by
  rw [depth_direct [[1, -2, 2, 3]] [[2, 0, 1, 2]] [10, 20, 40] [0] 0 4 (by decide) (by decide) (by decide) (by decide)
    (by decide) (by decide)]
  decide +kernel
end Instances
/-! Third part: concrete inputs for the id-space theorems. -/
section InstancesC
/-- un-curated, the HIGHEST template (2) has no spike -/
def exS : Stored := ⟨[[[1, 0], [-1, 2]], [[0, 3], [0, -3]], [[5, 5], [1, 1]]], [[0, 1], [1], [0, 1]], [0, 0, 1], [0, 0, 1],
  2, 2, [[2, 0], [0, 1/2]], [1, 2, 1/2]⟩
/-- curated: cluster 4 = templates 0 and 1, cluster 0 = template 0, ids 1, 2, 3 without spikes -/
def exC : Stored := { exS with sc := [4, 0, 4] }

example : idCount exS true = 3 ∧ idCount exS false = 3 ∧ idCount exC true = 5 ∧ idCount exC false = 3 := by decide
example : amplitudesTrueUse exS true (5/2) =
    some ([10, 20, 15/4], [some [[15/2, 0], [-15/2, 15/4]], some [[0, 15/8], [0, -15/8]], none],
          [some 15, some (15/4), none]) := by decide +kernel
-- the same dataset, per cluster after curation: 5 ids, NaN at 1, 2, 3; cluster 4 is the mean of templates 0 (1 spike)
-- and 1 (1 spike, channel 1 only)
example : (useArrays exC true).1 = [[[1, 0], [-1, 2]], [[0, 0], [0, 0]], [[0, 0], [0, 0]], [[0, 0], [0, 0]],
    [[1/2, 3/2], [-1/2, -1/2]]] := by decide +kernel
example : (amplitudesTrueUse exC true 1).map (·.2.2) = some [some 8, none, none, none, some (3/2)] := by decide +kernel
example : channelsUse exC true = [0, 0, 0, 0, 1] ∧ durationsUse exC true 1000 = [-1, 0, 0, 0, -1] ∧
    channelsUse exS true = [0, 1, 0] ∧ durationsUse exS true 1000 = [-1, -1, -1] := by decide +kernel
example : ∃ sa resc av, amplitudesTrueUse exS true (5/2) = some (sa, resc, av) ∧
      sa.length = (assignment exS true).length ∧ resc.length = idCount exS true ∧ av.length = idCount exS true ∧
      av.getD 2 none = meanOver (assignment exS true) sa 2 ∧
      (av.getD 2 (some 0) = none ↔ 2 ∉ assignment exS true) ∧
      (2 ∉ assignment exS true → resc.getD 2 (some []) = none) :=
  ampsUse_spec exS true (5/2) (by decide) (by decide) 2 (by decide)
-- a spike of id 7 with 3 templates: no result (the real code raises IndexError); `hin` on the loadable datasets
example : amplitudesTrueUse { exS with st := [0, 0, 7], sc := [0, 0, 7] } false 1 = none ∧
    (∀ t ∈ assignment exC true, t < idCount exC true) ∧ (∀ t ∈ assignment exS false, t < idCount exS false) := by
  decide +kernel
example : (useArrays exC true).1.length = 5 ∧ (useArrays exC true).2.2 = 5 ∧ (useArrays exS true).1.length = 3 := by
  decide +kernel
-- entry × rate = samples × 1000 at 30 kHz (hr): template 0 of exS, arg-max 0, arg-min 1
example : (durationsUse exS false 30000).getD 0 0 * 30000 = ((0 - 1 : Int) : Rat) * 1000 := by decide +kernel
example : 2 ∉ assignment exS true ∧ 3 ∉ assignment exC true ∧ 4 ∈ assignment exC true := by decide
example : (channelsUse exC true).length = idCount exC true :=
  (summariesUse_spec exC true 1000 (by decide) (by decide) (by decide) (by decide) (by decide) 4 (by decide)).1
example : templatesProbes [0, 7] exS.templates = [0, 7, 0] := by decide +kernel
example : (templatesProbes [0, 7] exS.templates).length = exS.templates.length :=
  (templatesProbes_spec [0, 7] exS.templates 1 2 2 (by decide) ⟨by decide, by decide⟩ (by decide) (by decide) rfl).1
example : amplitudesVec [3, 0, 3, 5] [1, 2, 4, 1/2] = [2, 5/2, 1/2] ∧ Np.unique ([3, 0, 3, 5].map Int.ofNat) = [0, 3, 5] := by
  decide +kernel
example : (amplitudesVec [3, 0, 3, 5] [1, 2, 4, 1/2]).length = 3 :=
  (amplitudesVec_spec [3, 0, 3, 5] [1, 2, 4, 1/2] rfl).1
example : Unwhitens [[2, 0], [1, 1]] [[1/2, 0], [-1/2, 1]] 2 := by decide +kernel
example : ¬ Unwhitens [[1, 0], [0, 1]] [[1/2, 0], [-1/2, 1]] 2 := by decide +kernel
example : entry (matMul (matMul [[1, 2], [3, 4]] [[2, 0], [1, 1]]) [[1/2, 0], [-1/2, 1]]) 1 0 = 3 := by
  rw [unwhiten_whitened [[1, 2], [3, 4]] [[2, 0], [1, 1]] [[1/2, 0], [-1/2, 1]] 2 2 ⟨by decide, by decide⟩ (by decide)
    (by decide +kernel) 1 0 (by decide) (by decide)]
  decide +kernel
end InstancesC
example : depths [[1, -2, 2, 3]] [[2, 0, 1, 2]] [10, 20, 40] [0] = [some (240/7)] := by
  decide +kernel
example :
    let d : Data := ⟨[[[1, 0], [-1, 2]], [[0, 3], [0, -3]], [[5, 5], [1, 1]]], [[2, 0], [0, 1/2]],
                     [1, 2, 1/2], [0, 0, 1]⟩
    ampsAu d = [4, 3, 8] ∧ spikeAmps d = [4, 8, 3/2] ∧ ampsV d = [some 6, some (3/2), none] := by
  decide +kernel
example : durations [[[1, 0], [-1, 2], [3, 1]]] = [1] ∧ peakChannels [[[1, 0], [-1, 2], [3, 1]]] = [0] := by
  decide +kernel
example : depths [[1, -2, 2]] [[0, 1, 2]] [10, 20, 40] [0] = [some 34] := by decide +kernel

end PhyVerif.C09
