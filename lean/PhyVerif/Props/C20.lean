import PhyVerif.Model.C20
import PhyVerif.Lemmas.C20
/-!
# C20 — no download is reported successful with a file failing its published checksum
Only property theorems + non-vacuity examples; short corollaries are proved in place, the rest in `Lemmas/C20.lean`.
-/
namespace PhyVerif.C20

/-- For every hash function, prior file state and pair of server scripts (any length): if the
call returns normally (early or after downloading) and the last checksum fetch of the call was
answered, the file left behind hashes to that published checksum. -/
theorem ok_implies_checksum_matches (hash : Nat → Nat) (prior : Option Nat)
    (ds : List DataResp) (ss : List SumResp) (h : Nat)
    (hret : (download hash (start prior ds ss)).2 = .skipped ∨ (download hash (start prior ds ss)).2 = .done)
    (hlast : lastSum (download hash (start prior ds ss)).1.log = some (.avail h)) :
    ∃ b, (download hash (start prior ds ss)).1.file = some b ∧ hash b = h :=
  Lemmas.ok_implies_checksum_matches hash prior ds ss h hret hlast

/-- A valid existing file is not downloaded again (no data request, file untouched). -/
theorem valid_existing_not_refetched (hash : Nat → Nat) (b : Nat) (ds : List DataResp)
    (ss : List SumResp) :
    let r := download hash (start (some b) ds (.avail (hash b) :: ss))
    r.2 = .skipped ∧ nData r.1.log = 0 ∧ r.1.file = some b :=
  Lemmas.valid_existing_not_refetched hash b ds ss

/-- Never more than two data requests (one retry at most). -/
theorem at_most_one_retry (hash : Nat → Nat) (prior : Option Nat) (ds : List DataResp)
    (ss : List SumResp) : nData (download hash (start prior ds ss)).1.log ≤ 2 :=
  Lemmas.at_most_one_retry hash prior ds ss

/-- A mismatch after the first download triggers the retry: the second data request is made when the first
post-download verification answered "mismatch" (only then: `retry_iff`; never a third: `at_most_one_retry`).
Stated for an absent prior file, where the first checksum answer is the first verification. -/
theorem mismatch_triggers_retry (hash : Nat → Nat) (b : Nat) (ds : List DataResp) (h : Nat)
    (ss : List SumResp) (hm : hash b ≠ h) :
    nData (download hash (start none (.body b :: ds) (.avail h :: ss))).1.log = 2 :=
  Lemmas.mismatch_triggers_retry hash b ds h ss hm

/-- A persistent mismatch raises instead of returning. -/
theorem persistent_mismatch_raises (hash : Nat → Nat) (b1 b2 h1 h2 : Nat) (ds : List DataResp)
    (ss : List SumResp) (hm1 : hash b1 ≠ h1) (hm2 : hash b2 ≠ h2) :
    (download hash (start none (.body b1 :: .body b2 :: ds) (.avail h1 :: .avail h2 :: ss))).2 = .mismatch :=
  Lemmas.persistent_mismatch_raises hash b1 b2 h1 h2 ds ss hm1 hm2

/-- An HTTP error on a data request that is actually made raises (never a normal return):
whenever the result is a normal return, every data request made was answered with a body. -/
theorem http_error_raises (hash : Nat → Nat) (prior : Option Nat) (ds : List DataResp)
    (ss : List SumResp)
    (hret : (download hash (start prior ds ss)).2 = .skipped ∨ (download hash (start prior ds ss)).2 = .done) :
    ∀ r ∈ ds.take (nData (download hash (start prior ds ss)).1.log), r ≠ .httpError :=
  Lemmas.http_error_raises hash prior ds ss hret

/-- The property under its own quantifier — a checksum URL whose behaviour is fixed for the scenario and
that always answers `h`: whenever the call returns normally, whatever the prior file and the data
script, the file left behind hashes to `h` (no assumption on which request was answered last).  `3 ≤ n`: the URL is
asked three times at most, by the pre-check and the two verifications. -/
theorem ok_with_fixed_checksum (hash : Nat → Nat) (prior : Option Nat) (ds : List DataResp) (h n : Nat)
    (hn : 3 ≤ n)
    (hret : (download hash (start prior ds (List.replicate n (.avail h)))).2 = .skipped ∨
            (download hash (start prior ds (List.replicate n (.avail h)))).2 = .done) :
    ∃ b, (download hash (start prior ds (List.replicate n (.avail h)))).1.file = some b ∧ hash b = h :=
  Lemmas.ok_with_fixed_checksum hash prior ds h n hn hret

/-- Exactly when: with no prior file, a second data request is made if and only if the first
verification was answered with a checksum the downloaded body does not match (no retry when the
checksum is unavailable or matches). -/
theorem retry_iff (hash : Nat → Nat) (b : Nat) (ds : List DataResp) (a : SumResp) (ss : List SumResp) :
    nData (download hash (start none (.body b :: ds) (a :: ss))).1.log = 2 ↔ ∃ h, a = .avail h ∧ hash b ≠ h :=
  Lemmas.retry_iff hash b ds a ss

/-- Exactly when the call raises the checksum error, for a checksum URL that always answers `h`: the
prior file (if any) is invalid and both downloaded bodies fail the checksum. -/
theorem raises_iff (hash : Nat → Nat) (prior : Option Nat) (ds : List DataResp) (h n : Nat) (hn : 3 ≤ n) :
    (download hash (start prior ds (List.replicate n (.avail h)))).2 = .mismatch ↔
      (∀ b, prior = some b → hash b ≠ h) ∧
      ∃ b1 b2 rest, ds = .body b1 :: .body b2 :: rest ∧ hash b1 ≠ h ∧ hash b2 ≠ h :=
  Lemmas.raises_iff hash prior ds h n hn

/-! Non-vacuity (hash = identity) -/
example : (download id (start none [.body 2, .body 1] [.avail 1, .avail 1])).2 = .done := by decide +kernel
example : (download id (start none [.body 2, .body 1] [.avail 1, .avail 1])).1.file = some 1 := by decide +kernel
example : (download id (start (some 2) [.body 2, .httpError] [.avail 1, .avail 1])).2 = .httpError := by decide +kernel
example : (download id (start (some 1) [] [.avail 1])).2 = .skipped := by decide +kernel
example : (download id (start none [.body 2, .body 2] [.avail 1, .avail 1])).2 = .mismatch := by decide +kernel

/-! ### The text of the checksum file (`text.split()[0]`, phylib/io/datasets.py:88)

"Checksum file correct / wrong" of the statement is about the checksum the file PUBLISHES, not about its layout:
the code documents (datasets.py:87) the md5sum line `<md5>  <name>` or a bare `<md5>`, and reads the first
whitespace-separated field. -/

/-- Every layout of a checksum file - any whitespace before the digest (indentation, blank lines), and after
the digest either nothing or a whitespace character followed by anything (separator and file name, binary
marker, CR/LF, further lines) - publishes the digest: the parse returns exactly `tok`.  The hypotheses are what
makes `tok` a field (non-empty, no whitespace inside); a hexadecimal digest satisfies them. -/
theorem first_field_of_layout (lead tok rest : List Nat) (hl : ∀ c ∈ lead, isWhite c = true)
    (hne : tok ≠ []) (ht : ∀ c ∈ tok, isWhite c = false)
    (hr : rest = [] ∨ ∃ w r, rest = w :: r ∧ isWhite w = true) :
    firstField (lead ++ (tok ++ rest)) = some tok :=
  Lemmas.first_field_of_layout lead tok rest hl hne ht hr

/-- Hence the answer `_check_md5_of_url` works with (available with which checksum / unavailable) is the same for
every layout as for the bare digest - and with it, everything the theorems above say about `download`. -/
theorem checksum_layout_irrelevant (render : List (Nat × List Nat)) (other : Nat) (lead tok rest : List Nat)
    (hl : ∀ c ∈ lead, isWhite c = true) (hne : tok ≠ []) (ht : ∀ c ∈ tok, isWhite c = false)
    (hr : rest = [] ∨ ∃ w r, rest = w :: r ∧ isWhite w = true) :
    parseSum render other (.text (lead ++ (tok ++ rest))) = parseSum render other (.text tok) := by
  have h2 := Lemmas.first_field_of_layout [] tok [] nofun hne ht (.inl rfl)
  rw [List.nil_append, List.append_nil] at h2
  simp only [parseSum, Lemmas.first_field_of_layout lead tok rest hl hne ht hr, h2]

/-- A checksum file that holds no field at all (empty, or whitespace only) is "checksum unavailable"
(`[][0]` raises IndexError inside the `try`), never a mismatch. -/
theorem blank_checksum_unavailable (render : List (Nat × List Nat)) (other : Nat) (ws : List Nat)
    (h : ∀ c ∈ ws, isWhite c = true) : parseSum render other (.text ws) = .missing := by
  simp only [parseSum, Lemmas.first_field_blank ws h]

/-! Non-vacuity: `" ab\t*x\r\n"` (indented, TAB separator, binary marker, CRLF) publishes `ab`; hash value 1
renders as `ab`, so the answer is `.avail 1`; a whitespace-only file is `.missing`; an unknown field is `other`. -/
example : firstField [32, 97, 98, 9, 42, 120, 13, 10] = some [97, 98] := by decide +kernel
example : parseSum [(1, [97, 98]), (2, [99, 100])] 9 (.text [32, 97, 98, 9, 42, 120, 13, 10]) = .avail 1 := by decide +kernel
example : parseSum [(1, [97, 98]), (2, [99, 100])] 9 (.text [10, 99, 100]) = .avail 2 := by decide +kernel
example : parseSum [(1, [97, 98])] 9 (.text [32, 10]) = .missing := by decide +kernel
example : parseSum [(1, [97, 98])] 9 (.text [97, 98, 99]) = .avail 9 := by decide +kernel
example : parseSum [(1, [97, 98])] 9 .error = .missing := by decide +kernel
example : (download id (start none [.body 2, .body 1]
    ([.text [32, 97, 98, 10], .text [9, 97, 98]].map (parseSum [(1, [97, 98])] 9)))).2 = .done := by decide +kernel

/-! ### Every prior state of the target file; the textual comparison of the digests -/

/-- "A mismatch triggers exactly one retry" with an EXISTING target file that the pre-check did not accept (the
first checksum answer `a0` is anything but the file's own checksum: wrong file, or checksum unavailable): the second
data request is made if and only if the NEXT checksum answer - the first verification of the downloaded body - is
available and differs from the body's hash.  (`retry_iff` is the same statement for an absent file, where no
answer is consumed by a pre-check; an accepted existing file makes no data request at all:
`valid_existing_not_refetched`.) -/
theorem retry_iff_existing (hash : Nat → Nat) (p b : Nat) (ds : List DataResp) (a0 : SumResp) (ss : List SumResp)
    (hinv : a0 ≠ .avail (hash p)) :
    nData (download hash (start (some p) (.body b :: ds) (a0 :: ss))).1.log = 2 ↔
      ∃ h, ss.head? = some (.avail h) ∧ hash b ≠ h :=
  Lemmas.retry_iff_existing hash p b ds a0 ss hinv

/-- "Exactly": for every prior state and all scripts whose first data answer is a body, a call that does not skip
makes one data request or two (so "no second request" in `retry_iff` / `retry_iff_existing` means exactly one). -/
theorem one_request_or_one_retry (hash : Nat → Nat) (prior : Option Nat) (b : Nat) (ds : List DataResp)
    (ss : List SumResp) (hskip : (download hash (start prior (.body b :: ds) ss)).2 ≠ .skipped) :
    nData (download hash (start prior (.body b :: ds) ss)).1.log = 1 ∨
    nData (download hash (start prior (.body b :: ds) ss)).1.log = 2 :=
  Lemmas.one_or_two_requests hash prior (.body b :: ds) ss hskip

/-- Every documented form of the checksum file publishes the digest: `<md5>`, `<md5>\n`, `<md5>  <name>\n`
(datasets.py:87), in any whitespace layout and in either letter case: when the lower-cased field `tok` is the rendering of
hash value `h`, the answer is `.avail h`. -/
theorem checksum_text_publishes (render : List (Nat × List Nat)) (other h : Nat) (lead tok rest : List Nat)
    (hl : ∀ c ∈ lead, isWhite c = true) (hne : tok ≠ []) (ht : ∀ c ∈ tok, isWhite c = false)
    (hr : rest = [] ∨ ∃ w r, rest = w :: r ∧ isWhite w = true)
    (hd : render.find? (fun r => r.2 == tok.map lowerAscii) = some (h, tok.map lowerAscii)) :
    parseSum render other (.text (lead ++ (tok ++ rest))) = .avail h :=
  Lemmas.checksum_text_publishes render other h lead tok rest hl hne ht hr hd

/-- `valid_existing_not_refetched` without presupposing the equality of tokens: the server sends a TEXT; if its first
field, lower-cased, is the rendering of the existing file's hash, the file is not downloaded again. -/
theorem valid_existing_not_refetched_text (hash : Nat → Nat) (b : Nat) (ds : List DataResp) (ss : List SumResp)
    (render : List (Nat × List Nat)) (other : Nat) (lead tok rest : List Nat)
    (hl : ∀ c ∈ lead, isWhite c = true) (hne : tok ≠ []) (ht : ∀ c ∈ tok, isWhite c = false)
    (hr : rest = [] ∨ ∃ w r, rest = w :: r ∧ isWhite w = true)
    (hd : render.find? (fun r => r.2 == tok.map lowerAscii) = some (hash b, tok.map lowerAscii)) :
    let r := download hash (start (some b) ds (parseSum render other (.text (lead ++ (tok ++ rest))) :: ss))
    r.2 = .skipped ∧ nData r.1.log = 0 ∧ r.1.file = some b :=
  Lemmas.valid_existing_not_refetched_text hash b ds ss render other lead tok rest hl hne ht hr hd

/-! Non-vacuity: existing corrupt file 2, checksum 1 published: body 2 then body 1 = one retry, done; the three
documented forms and the upper-case digest `AB` of a table that renders hash value 1 as `ab`. -/
example : nData (download id (start (some 2) [.body 2, .body 1] [.avail 1, .avail 1, .avail 1])).1.log = 2 := by decide +kernel
example : nData (download id (start (some 2) [.body 1] [.missing, .avail 1])).1.log = 1 := by decide +kernel
example : parseSum [(1, [97, 98])] 9 (.text [97, 98]) = .avail 1 := by decide +kernel
example : parseSum [(1, [97, 98])] 9 (.text [97, 98, 10]) = .avail 1 := by decide +kernel
example : parseSum [(1, [97, 98])] 9 (.text [97, 98, 32, 32, 120, 46, 121, 10]) = .avail 1 := by decide +kernel
example : parseSum [(1, [97, 98])] 9 (.text [65, 66, 32, 32, 120, 10]) = .avail 1 := by decide +kernel
example : (download id (start (some 1) [] [parseSum [(1, [97, 98])] 9 (.text [65, 98, 13, 10])])).2 = .skipped := by decide +kernel

/-! ### "HTTP error" is every 4xx / 5xx status, on either URL (`_download`, phylib/io/datasets.py:53-59) -/

/-- A data request answered with ANY client or server error status (400 ≤ status < 600: 400, 401, 403, 404, 410, 429,
500, 502, 503, ...) raises, whatever the error page holds: whenever the call returns normally, every data request
that was made got a status outside 4xx / 5xx.  The data script is given as what the server sends, (status, body). -/
theorem http_error_status_raises (hash : Nat → Nat) (prior : Option Nat) (ds : List (Nat × Nat))
    (ss : List SumResp)
    (hret : (download hash (start prior (ds.map fun a => dataOfStatus a.1 a.2) ss)).2 = .skipped ∨
            (download hash (start prior (ds.map fun a => dataOfStatus a.1 a.2) ss)).2 = .done) :
    ∀ a ∈ ds.take (nData (download hash (start prior (ds.map fun a => dataOfStatus a.1 a.2) ss)).1.log),
      isHttpError a.1 = false :=
  Lemmas.http_error_status_raises hash prior ds ss hret

/-- The checksum URL answering with any 4xx / 5xx status is "checksum unavailable", whatever the error page holds
(its text is never parsed: not a mismatch, not a checksum). -/
theorem error_status_checksum_unavailable (render : List (Nat × List Nat)) (other status : Nat) (t : List Nat)
    (h : isHttpError status = true) : parseSum render other (sumOfStatus status t) = .missing := by
  simp [sumOfStatus, Lemmas.getRaises_of_error h, parseSum]

/-! Non-vacuity: 400 / 503 on the first data request, 429 on the retry; 200 hands the body on; an error page on the
checksum URL whose text is the digest of the file is still "unavailable". -/
example : (download id (start none ([(400, 7), (200, 1)].map fun a => dataOfStatus a.1 a.2) [])).2 = .httpError := by decide +kernel
example : (download id (start (some 2) ([(503, 7)].map fun a => dataOfStatus a.1 a.2) [.missing])).2 = .httpError := by decide +kernel
example : (download id (start none ([(200, 2), (429, 7)].map fun a => dataOfStatus a.1 a.2) [.avail 1])).2 = .httpError := by decide +kernel
example : (download id (start none ([(200, 1)].map fun a => dataOfStatus a.1 a.2) [.avail 1])).2 = .done := by decide +kernel
example : isHttpError 400 = true ∧ isHttpError 599 = true ∧ isHttpError 399 = false ∧ isHttpError 600 = false := by decide +kernel
example : parseSum [(1, [97, 98])] 9 (sumOfStatus 400 [97, 98]) = .missing := by decide +kernel
example : parseSum [(1, [97, 98])] 9 (sumOfStatus 200 [97, 98]) = .avail 1 := by decide +kernel

/-- Two calls in a row (a history of calls, the file left by the first being the prior state of the second): after ANY call
that returned normally with its last checksum fetch answered `h` — whatever the server did before, whatever file was there
before —, a second call against a server that still publishes `h` returns early, makes NO data request and leaves the file
as it is, whatever the data URL would now answer (`ds'` arbitrary, errors and corrupted bodies included).  Corollary of
`ok_implies_checksum_matches` and `valid_existing_not_refetched`; it is the statement a caller relies on when it calls
`download_file` unconditionally at every start-up. -/
theorem second_call_is_noop (hash : Nat → Nat) (prior : Option Nat) (ds ds' : List DataResp)
    (ss ss' : List SumResp) (h : Nat)
    (hret : (download hash (start prior ds ss)).2 = .skipped ∨ (download hash (start prior ds ss)).2 = .done)
    (hlast : lastSum (download hash (start prior ds ss)).1.log = some (.avail h)) :
    let r2 := download hash (start (download hash (start prior ds ss)).1.file ds' (.avail h :: ss'))
    r2.2 = .skipped ∧ nData r2.1.log = 0 ∧ r2.1.file = (download hash (start prior ds ss)).1.file := by
  obtain ⟨b, hb, hh⟩ := Lemmas.ok_implies_checksum_matches hash prior ds ss h hret hlast
  rw [hb]
  subst hh
  exact Lemmas.valid_existing_not_refetched hash b ds' ss'

/-! Non-vacuity: first call — corrupted body, then the right one on the retry; second call — the data URL is now down. -/
example :
    let r1 := download id (start (some 5) [.body 2, .body 1] [.avail 1, .avail 1, .avail 1])
    r1.2 = .done ∧ lastSum r1.1.log = some (.avail 1) ∧ nData r1.1.log = 2 ∧
    (download id (start r1.1.file [.httpError] [.avail 1])).2 = .skipped := by decide +kernel

/-- A corrupt prior file — ANY content whose hash differs from the published one, whatever its size or age — is not
vouched for by anything: against a server that publishes `hash b` and serves `b`, the call downloads exactly once, returns
normally and leaves `b`.  (This is the model fact behind the "third call" of the correspondence run, where the real file is
overwritten between two calls of one process by a body of the same size and timestamps.) -/
theorem corrupt_prior_is_replaced (hash : Nat → Nat) (bad b : Nat) (ds : List DataResp) (ss : List SumResp)
    (hbad : hash bad ≠ hash b) :
    let r := download hash (start (some bad) (.body b :: ds) (.avail (hash b) :: .avail (hash b) :: ss))
    r.2 = .done ∧ r.1.file = some b ∧ nData r.1.log = 1 := by
  rw [Lemmas.download_invalid fun e => hbad (SumResp.avail.inj e).symm, Lemmas.tries_body,
    if_neg (Lemmas.verdict_eq_true.2 rfl ▸ nofun)]
  exact ⟨rfl, rfl, rfl⟩

example : (download id (start (some 7) [.body 1] [.avail 1, .avail 1])).2 = .done ∧ (7 : Nat) ≠ 1 := by decide +kernel

end PhyVerif.C20
