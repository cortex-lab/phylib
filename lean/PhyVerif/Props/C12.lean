import PhyVerif.Lemmas.C12
import PhyVerif.Lemmas.C12b
import PhyVerif.Lemmas.C12c
/-!
# C12 — merged channel and template arrays are block-structured by probe
Only property theorems + non-vacuity examples; proofs in `Lemmas/C12.lean`, `C12b.lean`, `C12c.lean`.
-/
namespace PhyVerif.C12
open PhyVerif

variable {α : Type} [Zero α]

/-- For any number of probes whose channel maps are permutations of `0..nc_k-1`, the running
channel offsets are the summed channel counts of the previous probes. -/
theorem chanOffsets_eq_prefix (maps : List (List Nat)) (h : MapsOK maps) (k : Nat)
    (hk : k < maps.length) :
    (chanOffsets maps).getD k 0 = prefixSum (maps.map List.length) k :=
  Lemmas.chanOffsets_eq_prefix maps h k hk

/-- The channels of probe k form one contiguous block in input order: merged position
`prefix_k + i` holds probe k's map entry i shifted by the block offset, and is labelled k. -/
theorem channels_block (maps : List (List Nat)) (h : MapsOK maps) (k i : Nat)
    (hi : i < (maps.getD k []).length) :
    (mergeChannelMaps maps).getD (prefixSum (maps.map List.length) k + i) 0 =
        (maps.getD k []).getD i 0 + prefixSum (maps.map List.length) k ∧
    (channelProbes maps).getD (prefixSum (maps.map List.length) k + i) maps.length = k ∧
    (mergeChannelMaps maps).length = (maps.map List.length).sum ∧
    (channelProbes maps).length = (maps.map List.length).sum :=
  Lemmas.channels_block maps h k i hi

/-- The same block layout for ARBITRARY channel maps (gaps, dead channels, any raw indices; `MapsOK` not
needed): the channels of probe k are the contiguous block `[prefix_k, prefix_k + nc_k)` of the merged
channel arrays in input order, entry i holding probe k's raw index i shifted by the probe's raw offset
`chanOffsets k` (merge.py:211-217: 0 for the first probe, then 1 + the largest shifted raw index of the
previous probe), labelled k; both merged arrays have one row per input channel. -/
theorem channels_block_gapped (maps : List (List Nat)) (k i : Nat)
    (hi : i < (maps.getD k []).length) :
    (mergeChannelMaps maps).getD (prefixSum (maps.map List.length) k + i) 0 =
        (maps.getD k []).getD i 0 + (chanOffsets maps).getD k 0 ∧
    (channelProbes maps).getD (prefixSum (maps.map List.length) k + i) maps.length = k ∧
    (mergeChannelMaps maps).length = (maps.map List.length).sum ∧
    (channelProbes maps).length = (maps.map List.length).sum :=
  Lemmas.channels_block_gapped maps k i hi

/-- … and the merged raw indices of different probes are distinct, for arbitrary (gapped) maps: every
merged raw index of an earlier probe is strictly below every merged raw index of a later probe.
Hypothesis `hne` (every probe has at least one channel): the real code raises `ValueError` at
`array.max()` (merge.py:217) for a probe with an empty `channel_map.npy` (run: 3 probes, the middle one
with 0 channels → ValueError, inputs untouched); the model totalises that maximum as 0, and without `hne`
the statement is false in the model (second example below). -/
theorem raw_indices_apart (maps : List (List Nat)) (hne : ∀ m ∈ maps, m ≠ []) (k l i j : Nat) (hkl : k < l)
    (hi : i < (maps.getD k []).length) (hj : j < (maps.getD l []).length) :
    (mergeChannelMaps maps).getD (prefixSum (maps.map List.length) k + i) 0 <
      (mergeChannelMaps maps).getD (prefixSum (maps.map List.length) l + j) 0 :=
  Lemmas.raw_indices_apart maps hne k l i j hkl hi hj

/-- Consequently, when no probe lists a raw channel twice, no raw index occurs twice in the merged
`channel_map.npy` — whatever gaps the maps have. -/
theorem merged_channel_map_nodup (maps : List (List Nat)) (hne : ∀ m ∈ maps, m ≠ [])
    (hnd : ∀ m ∈ maps, m.Nodup) : (mergeChannelMaps maps).Nodup :=
  Lemmas.merged_channel_map_nodup maps hne hnd

/-- Geometry: every probe keeps its positions up to a translation along x … -/
theorem positions_translated (pos : List (List (Int × Int))) (k : Nat) :
    ∃ dx : Int, (shiftPositionsFrom 0 pos).getD k [] = (pos.getD k []).map fun xy => (xy.1 + dx, xy.2) :=
  Lemmas.positions_translated pos k

/-- … that keeps different probes apart: every channel of an earlier probe lies strictly to the
left of every channel of a later probe. -/
theorem positions_apart (pos : List (List (Int × Int))) (h : PosOK pos) (k l : Nat) (hkl : k < l) :
    ∀ a ∈ (shiftPositionsFrom 0 pos).getD k [], ∀ b ∈ (shiftPositionsFrom 0 pos).getD l [], a.1 < b.1 :=
  Lemmas.positions_apart pos h k l hkl

/-- Templates: template t of probe k appears at index `toff_k + t` (toff = summed template counts)
with its waveform on probe k's channel block and zeros on all other channels — for any number of
probes with any channel and template counts. -/
theorem templates_block (ts : List (List (List (List α)))) (ns : Nat) (ncs : List Nat)
    (hok : ∀ k (hk : k < ts.length), TmplOK (ts[k]'hk) ns (ncs.getD k 0))
    (k t s c : Nat) (hk : k < ts.length) (ht : t < (ts[k]'hk).length) :
    get3 (mergeTemplates ts) (prefixSum (ts.map List.length) k + t) s c =
      if prefixSum ncs k ≤ c ∧ c < prefixSum ncs k + ncs.getD k 0
      then get3 (ts[k]'hk) t s (c - prefixSum ncs k) else 0 :=
  Lemmas.templates_block ts ns ncs hok k t s c hk ht

/-- Index tables are shifted by the per-probe offsets and concatenated in probe order. -/
theorem tables_shifted (tables : List (List (List Nat))) (offsets : List Nat)
    (hlen : offsets.length = tables.length) (k r c : Nat)
    (hr : r < (tables.getD k []).length) :
    ((shiftTables tables offsets).getD (prefixSum (tables.map List.length) k + r) []).getD c 0 =
      if c < ((tables.getD k []).getD r []).length
      then ((tables.getD k []).getD r []).getD c 0 + offsets.getD k 0 else 0 :=
  Lemmas.tables_shifted tables offsets hlen k r c hr

/-- Channel-index tables (`pc_feature_ind`) land in the merged channel numbering for ANY channel maps
(gaps, arbitrary raw indices): entry `c` of a row of probe `k` that names one of the probe's
channels (`c < |map k|`) becomes a row of the merged channel table that is labelled with probe `k`
and holds exactly the (shifted) raw channel the entry named. -/
theorem pc_ind_in_block (maps : List (List Nat)) (tables : List (List (List Nat))) (k r j : Nat)
    (hk : k < maps.length) (hlen : tables.length = maps.length)
    (hr : r < (tables.getD k []).length) (hj : j < ((tables.getD k []).getD r []).length)
    (hc : ((tables.getD k []).getD r []).getD j 0 < (maps.getD k []).length) :
    let c := ((tables.getD k []).getD r []).getD j 0
    let c' := ((mergePcInd maps tables).getD (prefixSum (tables.map List.length) k + r) []).getD j 0
    c' = prefixSum (maps.map List.length) k + c ∧
    (channelProbes maps).getD c' maps.length = k ∧
    (mergeChannelMaps maps).getD c' 0 = (maps.getD k []).getD c 0 + (chanOffsets maps).getD k 0 :=
  Lemmas.pc_ind_in_block maps tables k r j hk hlen hr hj hc

/-- Template-index tables (`template_feature_ind`) land in the merged template numbering, with the
merger's own template offsets (C11): an entry naming template `c` of probe `k` becomes `c + offset_k`,
which lies in probe `k`'s block of merged template ids and in no other probe's block. -/
theorem tf_ind_in_block (ids : List (List Nat)) (counts : List Nat) (tables : List (List (List Nat)))
    (k r j : Nat) (hk : k < ids.length) (hlenc : counts.length = ids.length) (hlent : tables.length = ids.length)
    (hr : r < (tables.getD k []).length) (hj : j < ((tables.getD k []).getD r []).length)
    (hc : ((tables.getD k []).getD r []).getD j 0 < (C11.templateSizes ids counts).getD k 0) :
    let c := ((tables.getD k []).getD r []).getD j 0
    let c' := ((mergeTfInd ids counts tables).getD (prefixSum (tables.map List.length) k + r) []).getD j 0
    let off := fun i => (C11.templateOffsets ids counts).getD i 0
    let size := fun i => (C11.templateSizes ids counts).getD i 0
    c' = c + off k ∧ off k ≤ c' ∧ c' < off k + size k ∧
    ∀ l, l < ids.length → l ≠ k → ¬ (off l ≤ c' ∧ c' < off l + size l) :=
  Lemmas.tf_ind_in_block ids counts tables k r j hk hlenc hlent hr hj hc

/-- Whitening / similarity matrices: block-diagonal with the per-probe matrices as blocks. -/
theorem blockDiag_entries (ms : List (List (List α))) (hsq : ∀ m ∈ ms, ∀ row ∈ m, row.length = m.length)
    (k i j : Nat) (hi : i < (ms.getD k []).length) :
    get2 (blockDiag ms) (prefixSum (ms.map List.length) k + i) j =
      if prefixSum (ms.map List.length) k ≤ j ∧ j < prefixSum (ms.map List.length) k + (ms.getD k []).length
      then get2 (ms.getD k []) i (j - prefixSum (ms.map List.length) k) else 0 :=
  Lemmas.blockDiag_entries ms hsq k i j hi

/-- Optional matrices (`similar_templates.npy`, `whitening_mat.npy`, `whitening_mat_inv.npy`,
merge.py:307-318) present in only SOME probes: the merged file is skipped exactly when at least one probe
lacks the file (`none` = no such file in that probe's directory) … -/
theorem optional_skipped_iff (ms : List (Option (List (List α)))) :
    mergeOptional ms = none ↔ none ∈ ms :=
  Lemmas.optional_skipped_iff ms

/-- … and it is written exactly when every probe has it, as the block-diagonal matrix of the per-probe
matrices in probe order (entries: `blockDiag_entries`). -/
theorem optional_written (ms : List (Option (List (List α)))) (M : List (List α)) :
    mergeOptional ms = some M ↔ ∃ l, ms = l.map some ∧ M = blockDiag l :=
  Lemmas.optional_written ms M

/-- Merged parameters keep the (first probe's) sampling rate and declare the summed raw channel
count. -/
theorem params_ok (p : Nat × Nat) (rest : List (Nat × Nat)) :
    mergeParams (p :: rest) = some (p.1, p.2 + (rest.map (·.2)).sum) :=
  Lemmas.params_ok p rest

/-! Non-vacuity -/
example : chanOffsets [[2, 0, 3, 1], [1, 0, 2, 5, 4, 3], [0, 4, 1, 3, 2]] = [0, 4, 10] := by decide +kernel
example : mergeChannelMaps [[2, 0, 3, 1], [1, 0], [0, 2, 1]] = [2, 0, 3, 1, 5, 4, 6, 8, 7] := by decide +kernel
example : MapsOK [[2, 0, 3, 1], [1, 0], [0, 2, 1]] := by
  unfold MapsOK
  decide +kernel
example : mergePositions [[(0, 0), (10, 5)], [(0, 0), (10, 5)], [(5, 1), (7, 2)]] =
    [(0, 0), (10, 5), (20, 0), (30, 5), (45, 1), (47, 2)] := by decide +kernel
-- the model's coordinates are `Int`s of any size: site coordinates in nanometres (beyond the 24 bits of single
-- precision, what an integer `channel_positions.npy` holds exactly) are translated exactly, y untouched
example : mergePositions [[(11000007, 2000000013), (59000009, 2020000041)], [(27000031, 2000000005), (43000002, 2040000047)]] =
    [(11000007, 2000000013), (59000009, 2020000041), (134000042, 2000000005), (150000013, 2040000047)] := by decide +kernel
-- the hypothesis `PosOK` (two distinct x per probe) of `positions_apart` cannot be dropped: probes whose
-- channels share one x are NOT kept apart (open known finding PF-C12e, replayed on the real code)
example : mergePositions [[(0, 0), (0, 20)], [(0, 0), (0, 20)]] = [(0, 0), (0, 20), (0, 0), (0, 20)] := by decide +kernel
example : mergeTemplates [[[[1, 2]], [[3, 4]]], [[[5, 6, 7]]]] =
    ([[[1, 2, 0, 0, 0]], [[3, 4, 0, 0, 0]], [[0, 0, 5, 6, 7]]] : List (List (List Int))) := by decide +kernel
example : blockDiag [[[1, 2], [3, 4]], [[5]]] = ([[1, 2, 0], [3, 4, 0], [0, 0, 5]] : List (List Int)) := by decide +kernel

-- maps with gaps: blocks in input order, raw indices apart
example : mergeChannelMaps [[1, 3, 0], [7, 2], [5, 0, 9]] = [1, 3, 0, 11, 6, 17, 12, 21] ∧
    chanOffsets [[1, 3, 0], [7, 2], [5, 0, 9]] = [0, 4, 12] := by decide +kernel
-- `hne` of `raw_indices_apart` cannot be dropped: an (unloadable) probe without channels resets the offset
example : mergeChannelMaps [[0, 1], [], [0]] = [0, 1, 1] := by decide +kernel
example : mergeOptional [some [[1, 2], [3, 4]], some [[5]]] = some ([[1, 2, 0], [3, 4, 0], [0, 0, 5]] : List (List Int)) := by decide +kernel
example : mergeOptional [some [[1, 2], [3, 4]], none, some [[5]]] = (none : Option (List (List Int))) := by decide +kernel

example : mergePcInd [[1, 3, 0], [3, 1, 2]] [[[0, 2], [2, 1]], [[2, 0], [1, 0]]] = [[0, 2], [2, 1], [5, 3], [4, 3]] := by decide +kernel
example : chanOffsets [[1, 3, 0], [3, 1, 2]] = [0, 4] ∧ chanIndexOffsets [[1, 3, 0], [3, 1, 2]] = [0, 3] := by decide +kernel

end PhyVerif.C12
