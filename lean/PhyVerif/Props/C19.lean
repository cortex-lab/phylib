import PhyVerif.Lemmas.C19b
/-!
# C19 — event dispatch follows registration order, sender filters and silencing;
#        a progress reporter announces completion exactly once per crossing
Only property theorems + non-vacuity examples; short corollaries are proved in place, the rest in `Lemmas/C19.lean`
and `Lemmas/C19b.lean`.
`result : Call → Nat` is the behaviour of the callbacks (what a callback returns, as a function of
its identity and of what it received); every theorem holds for every such behaviour.
-/
namespace PhyVerif.C19

/-- For every history of connect / unconnect (by callback, by sender, by owner object) / reset /
set_silent / nested silent contexts / emit: every emit's invocations and returned value are exactly
what the specification derives from the history *before* it — the currently registered callbacks
for that event whose sender filter is absent or equal, in registration order with `last` ones
after all others, each invoked with (sender, args, kwargs minus `single`), results in call order
(first result after a single call with `single`), and nothing at all (returning None) while
silenced, at any nesting depth.  (`set_silent` outside contexts; see `emit_outcomes_any_nesting`.) -/
theorem emit_outcomes (result : Call → Nat) (ops : List EOp) (h : WellNested ops 0) :
    erun result EState.init ops = emitsSpec result [] ops :=
  Lemmas.emit_outcomes result ops h

/-- The same for EVERY history Python can produce (`set_silent` also inside `silent()` contexts;
the only hypothesis is that a context is left after it was entered — the real code cannot do
otherwise, a context manager's exit follows its enter): an emit is silenced exactly when
`silencedAfter` says so — the flag is what the most recent of {`set_silent(b)` ↦ b, enter ↦ True,
exit ↦ the value just before the matching enter} assigned.  In particular
`[connect c, enter, set_silent False, emit]` DOES call `c` (event.py:51, 127) and the exit then
restores the value saved at the enter. -/
theorem emit_outcomes_any_nesting (result : Call → Nat) (ops : List EOp) (h : ExitsMatched ops 0) :
    erun result EState.init ops = emitsSpecG result [] ops :=
  Lemmas.emit_outcomes_any_nesting result ops h

/-- "The currently registered callbacks", independently of the code's filter: after ANY history the
emitter's callback list consists, in history order, of the registrations of exactly those `connect`s that did
not raise and that no later `reset` and no later `unconnect` hit — an `unconnect(*items)` hits a registration
when one of the items is its callback (equal, not necessarily identical: `obj.on_x` evaluated again), its sender
filter, or the object its bound-method callback belongs to (`hits`, written item by item; the code's
`f not in items and sender not in items and f.__self__ not in items`, event.py:110-116, is `keeps`).
No hypothesis on the nesting of silent contexts. -/
theorem state_registered (result : Call → Nat) (ops : List EOp) :
    (erunState result EState.init ops).cbs = registeredFwd ops :=
  Lemmas.state_registered result ops

/-- the fold used by `emit_outcomes` / `emit_outcomes_any_nesting` is that list -/
theorem registered_forward (ops : List EOp) : registered ops = registeredFwd ops :=
  Lemmas.registered_forward ops

/-- one `unconnect(*items)` removes exactly the registrations an item hits, keeping the order (and the
multiplicity) of the others -/
theorem unconnect_removes_exactly_hit (result : Call → Nat) (st : EState) (items : List UItem) :
    (estep result st (.unconnect items)).1.cbs = st.cbs.filter (fun c => !hits items c) :=
  List.filter_congr fun c _ => Lemmas.keeps_eq_not_hits items c

/-- `emit_outcomes_any_nesting` with the registered callbacks read off the history by `registeredFwd`: the
statement the correspondence run uses (`spec` of the driver). -/
theorem emit_outcomes_forward (result : Call → Nat) (ops : List EOp) (h : ExitsMatched ops 0) :
    erun result EState.init ops = emitsSpecF result [] ops :=
  Lemmas.emit_outcomes_forward result ops h

/-- `connect` returns the function it was given (event.py:108; same value through the decorator form with
arguments, event.py:98-99) exactly when it registers it — as the LAST entry of the callback list —, so that
decorator use leaves the name bound to the function; when it raises, nothing changes. -/
theorem connect_returns_registered (result : Call → Nat) (st : EState) (r : ConnReq) :
    (∀ i, connectRet r = some i →
      i = r.id ∧ ∃ c, c.id = i ∧ (estep result st (.connect r)).1.cbs = st.cbs ++ [c]) ∧
    (connectRet r = none → (estep result st (.connect r)).1 = st) := by
  rw [Lemmas.estep_connect]
  simp only [connectRet, Lemmas.regStep]
  cases h : connectCb r with
  | none => exact ⟨fun _ h => (by cases h), fun _ => rfl⟩
  | some c =>
    exact ⟨fun i hi => ⟨(Option.some.inj hi).symm, c, (Lemmas.connectCb_id r c h).trans (Option.some.inj hi), rfl⟩,
      fun h => by cases h⟩

/-- the silence flag after any such history -/
theorem silent_flag_any_nesting (result : Call → Nat) (ops : List EOp) (h : ExitsMatched ops 0) :
    (erunState result EState.init ops).silent = silencedAfter ops :=
  Lemmas.silent_flag_any_nesting result ops h

/-- After any well-nested history the emitter is silenced iff a silent context is still open or
the last `set_silent` said so (leaving the contexts restores the previous state). -/
theorem silent_restores (result : Call → Nat) (ops : List EOp) (h : WellNested ops 0) :
    (erunState result EState.init ops).silent = (decide ((depthFlag ops).1 > 0) || (depthFlag ops).2) :=
  Lemmas.silent_restores result ops h

/-- A silenced emit calls nothing and returns None, whatever is registered. -/
theorem silenced_emit_none (result : Call → Nat) (st : EState) (e : String) (s : Nat) (a : List Nat)
    (kw : Kwargs) (h : st.silent = true) :
    emit result st e s a kw = ⟨[], .none⟩ :=
  Lemmas.silenced_emit_none result st e s a kw h

/-- An un-silenced emit equals the specification on the registered list (order, filter, `last`,
`single`, arguments, results). -/
theorem emit_eq_spec (result : Call → Nat) (st : EState) (e : String) (s : Nat) (a : List Nat)
    (kw : Kwargs) (h : st.silent = false) :
    emit result st e s a kw = emitSpec result st.cbs e s a kw :=
  Lemmas.emit_eq_spec result st e s a kw h

/-- "passes the sender and arguments through unchanged": in every state, every invocation made by an
emit carries the emit's sender, its positional arguments, and its keyword arguments minus the
`single` entry (which `emit` pops, event.py:134). -/
theorem emit_args_through (result : Call → Nat) (st : EState) (e : String) (s : Nat) (a : List Nat)
    (kw : Kwargs) :
    ∀ c ∈ (emit result st e s a kw).calls, c.sender = s ∧ c.args = a ∧ c.kwargs = forwarded kw :=
  Lemmas.emit_args_through result st e s a kw

/-- "returns the callbacks' results in call order (only the first result, after a single call, when a
single result is requested)".  In the model the call log (`calls`: what each callback received) and
the result list (`res.append(f(...))`) are separate accumulators of the loop; the theorem says they
agree position by position, for every behaviour `result` of the callbacks. -/
theorem emit_results_in_call_order (result : Call → Nat) (st : EState) (e : String) (s : Nat)
    (a : List Nat) (kw : Kwargs) (h : st.silent = false) :
    (wantsSingle kw = false →
      (emit result st e s a kw).ret = .list ((emit result st e s a kw).calls.map result)) ∧
    (wantsSingle kw = true →
      ((emit result st e s a kw).calls = [] ∧ (emit result st e s a kw).ret = .list []) ∨
      (∃ c, (emit result st e s a kw).calls = [c] ∧ (emit result st e s a kw).ret = .one (result c))) :=
  Lemmas.emit_results_in_call_order result st e s a kw h

/-- `connect(f)` without `event=`: a function called `on_<e>` (`e` non-empty, no newline) is
registered for the event `e` (event.py:57-65, 101-103). -/
theorem connect_event_from_name (r : ConnReq) (e : String) (h : r.event = none)
    (hf : r.fname = "on_" ++ e) (hne : e ≠ "") (hnl : e.toList.all (· != '\n') = true) :
    connectCb r = some ⟨e, r.sender, r.id, r.owner, r.last⟩ :=
  by simp [connectCb, h, hf, Lemmas.getOnName_on e hne hnl]

/-- `connect(f, event=e)`: the explicit event name wins, whatever the function is called. -/
theorem connect_event_explicit (r : ConnReq) (e : String) (h : r.event = some e) :
    connectCb r = some ⟨e, r.sender, r.id, r.owner, r.last⟩ :=
  by simp [connectCb, h]

/-- Conversely the derived event name is never empty and the function name is `on_` + the event name
(+ possibly one trailing newline, which `$` tolerates); any other name makes `connect` raise
(`connectCb = none`: `Lemmas.connectCb_raises`) and register nothing. -/
theorem connect_name_shape (f e : String) (h : getOnName f = some e) :
    e ≠ "" ∧ ∃ rest, f.toList = 'o' :: 'n' :: '_' :: (e.toList ++ rest) ∧ (rest = [] ∨ rest = ['\n']) :=
  Lemmas.connect_name_shape f e h

/-- Progress reporter: for every history over {increment, set value, set maximum, set_complete,
reset}, a completion is announced at a step exactly when that step is a value update reaching the
maximum and no completion has been announced since the value was last set below the maximum or the
maximum was last raised. -/
theorem reporter_announce_ok (ops : List ROp) :
    announceOK [] ((rrun RState.init ops).map obsOf) = true :=
  Lemmas.reporter_announce_ok ops

/-- `is_complete()` (value ≥ maximum) holds right after every announcement, and at every step after which the
completion flag is still set (the flag that suppresses a second announcement is never set below the
maximum). -/
theorem reporter_is_complete (ops : List ROp) :
    ∀ t ∈ rrun RState.init ops,
      (t.2.2.1.completed = true → isComplete t.2.2.1 = true) ∧
      (t.2.2.2.complete = true → isComplete t.2.2.1 = true) :=
  Lemmas.reporter_is_complete ops

/-- A REPORTER WITH MESSAGES, along every history from the initial state.  At each step `t = (pre, op, post, out)` of
`rrun RState.init ops` (so `out` is an output a step really produces — the statement is not about arbitrary `ROut`
records), with `valueSet pre op` the value the operation hands to `_set_value` (`increment`: `pre.value + 1`, the
`value` setter: its argument, `set_complete`: `pre.max`; `value_max` setter and `reset`: none):
* the progress message `(v, m)` is printed exactly when the operation is a value update to `v`, `m` is the maximum of
  the PRE-state, `m ≠ 0` and `v ≤ m` (`_default_on_progress`, event.py:174-182);
* `complete` is announced exactly when the operation is a value update to some `v ≥ pre.max` while the completion flag
  of the pre-state is not set (with `reporter_announce_ok`: exactly once per crossing), and the completion message is
  printed once for an announcement and not at all otherwise;
* a value update emits `progress(v, pre.max)` FIRST and `complete` after it; an operation that is not a value update
  emits nothing; the printed messages come in the order of the events. -/
theorem reporter_messages (ops : List ROp) :
    ∀ t ∈ rrun RState.init ops,
      (∀ v m, REv.progress v m ∈ t.2.2.2.printed ↔
        (valueSet t.1 t.2.1 = some v ∧ m = t.1.max ∧ m ≠ 0 ∧ v ≤ m)) ∧
      (t.2.2.2.complete = true ↔ ∃ v, valueSet t.1 t.2.1 = some v ∧ t.1.max ≤ v ∧ t.1.completed = false) ∧
      t.2.2.2.printed.count REv.complete = (if t.2.2.2.complete then 1 else 0) ∧
      (∀ v, valueSet t.1 t.2.1 = some v →
        t.2.2.2.events = REv.progress v t.1.max :: (if t.2.2.2.complete then [REv.complete] else [])) ∧
      (valueSet t.1 t.2.1 = none → t.2.2.2.events = []) ∧
      t.2.2.2.printed.Sublist t.2.2.2.events :=
  Lemmas.reporter_messages ops

/-! Non-vacuity -/
example : erun stubResult EState.init
    [.connect ⟨"on_e0", none, none, 1, none, true⟩, .connect ⟨"f", some "e0", some 5, 2, none, false⟩,
     .connect ⟨"g", some "e0", some 6, 3, none, false⟩,
     .emit "e0" 5 [7, 8] [("key", 4)], .enterSilent, .enterSilent, .emit "e0" 5 [] [], .exitSilent,
     .emit "e0" 5 [] [], .exitSilent,
     .unconnect [.obj 5], .emit "e0" 5 [9] [("single", 1), ("key", 3)]]
    = [⟨[⟨2, 5, [7, 8], [("key", 4)]⟩, ⟨1, 5, [7, 8], [("key", 4)]⟩], .list [2052, 1052]⟩, ⟨[], .none⟩, ⟨[], .none⟩,
       ⟨[⟨1, 5, [9], [("key", 3)]⟩], .one 1051⟩] := by decide +kernel
example : WellNested [.enterSilent, .enterSilent, .emit "e0" 5 [] [], .exitSilent, .exitSilent] 0 :=
  ⟨Nat.zero_lt_succ 1, Nat.zero_lt_succ 0, trivial⟩
-- `set_silent(False)` inside a context un-silences; the exit restores the value saved at the enter
example : ExitsMatched [.setSilent true, .enterSilent, .setSilent false, .emit "e" 0 [] [], .exitSilent,
      .emit "e" 0 [] []] 0 ∧
    erun stubResult EState.init [.connect ⟨"on_e", none, none, 1, none, false⟩, .setSilent true, .enterSilent,
      .setSilent false, .emit "e" 0 [] [], .exitSilent, .emit "e" 0 [] []] =
      [⟨[⟨1, 0, [], []⟩], .list [1000]⟩, ⟨[], .none⟩] :=
  ⟨⟨Nat.zero_lt_succ 0, trivial⟩, by decide +kernel⟩
example : silencedAfter [.enterSilent, .setSilent false] = false ∧
    silencedAfter [.setSilent true, .enterSilent, .setSilent false, .exitSilent] = true ∧
    silencedAfter [.enterSilent, .enterSilent, .exitSilent] = true ∧
    silencedAfter [.enterSilent, .enterSilent, .exitSilent, .exitSilent] = false := by decide +kernel
-- a connect whose function name does not start with `on_` raises and registers nothing
example : connectCb ⟨"spam", none, none, 1, none, false⟩ = none ∧
    connectCb ⟨"on_", none, none, 1, none, false⟩ = none ∧
    connectCb ⟨"on_my_event", none, some 2, 1, none, true⟩ = some ⟨"my_event", some 2, 1, none, true⟩ := by decide +kernel
example : (rrun RState.init [.setMax 1, .increment, .reset none, .increment]).map (·.2.2.2.complete)
    = [false, true, false, true] := by decide +kernel
-- unconnect by callback removes every registration of that callback (plain and bound method), by object the
-- registrations filtered on it and the bound methods of it; a reset in between forgets everything before
example : registeredFwd
    [.connect ⟨"on_e0", none, none, 0, none, false⟩, .connect ⟨"cb1", some "e0", some 0, 1, none, false⟩,
     .connect ⟨"on_e0", none, some 1, 1, some 8, true⟩, .connect ⟨"cb2", some "e0", none, 2, some 7, true⟩,
     .unconnect [.cb 1], .connect ⟨"spam", none, none, 0, none, false⟩, .unconnect [.obj 7],
     .connect ⟨"cb1", some "e1", some 0, 1, none, false⟩]
    = [⟨"e0", none, 0, none, false⟩, ⟨"e1", some 0, 1, none, false⟩] ∧
  registeredFwd [.connect ⟨"on_e0", none, none, 0, none, false⟩, .reset,
     .connect ⟨"cb1", some "e0", some 0, 1, none, false⟩, .unconnect [.obj 0]] = [] ∧
  hits [.obj 7, .cb 1] ⟨"e0", none, 2, some 7, true⟩ = true ∧
  hits [.obj 7, .cb 1] ⟨"e0", some 1, 0, none, false⟩ = false := by decide +kernel
example : connectRets [.connect ⟨"on_e0", none, none, 3, none, false⟩, .reset,
    .connect ⟨"spam", none, none, 4, none, false⟩, .connect ⟨"spam", some "e", none, 4, none, true⟩]
    = [some 3, none, some 4] := by decide +kernel
-- a fresh reporter "is complete" (0 ≥ 0) without ever having announced; lowering the maximum keeps the flag
example : (rrun RState.init [.setMax 2, .increment, .increment, .setMax 1, .setValue 0]).map
      (fun t => (t.2.2.1.completed, isComplete t.2.2.1, t.2.2.2.printed))
    = [(false, false, []), (false, false, [.progress 1 2]), (true, true, [.progress 2 2, .complete]),
       (true, true, []), (false, false, [.progress 0 1])] ∧
  (rrun RState.init [.setMax 2, .increment, .increment, .setMax 1, .setValue 0]).map (fun t => valueSet t.1 t.2.1)
    = [none, some 1, some 2, none, some 0] ∧
  isComplete RState.init = true ∧ progressFrac RState.init = none ∧
  (rstep RState.init (.setValue 3)).2.printed = [.complete] ∧
  progressFrac (rstep ⟨0, 2, false⟩ (.setValue 3)).1 = some (3, 2) := by decide +kernel

/-- Connecting a callback that is not registered yet and unconnecting it again (by callback) restores the emitter state
EXACTLY — registrations of every event in their order, silence flag, open `silent()` frames —, whether the `connect`
registered it or raised `ValueError`; every later history therefore runs as if the pair had not happened
(`connect_unconnect_invisible`).  The freshness hypothesis is needed: `unconnect(f)` removes EVERY registration of `f`,
so with an earlier registration of the same function the pair removes that one too (example below). -/
theorem connect_unconnect_inverse (result : Call → Nat) (st : EState) (r : ConnReq)
    (hfresh : ∀ c ∈ st.cbs, c.id ≠ r.id) :
    (estep result (estep result st (.connect r)).1 (.unconnect [.cb r.id])).1 = st :=
  Lemmas.connect_unconnect_inverse result st r hfresh

/-- … and so the pair is invisible to every continuation: same emit outcomes for every later history. -/
theorem connect_unconnect_invisible (result : Call → Nat) (st : EState) (r : ConnReq) (ops : List EOp)
    (hfresh : ∀ c ∈ st.cbs, c.id ≠ r.id) :
    erun result st (.connect r :: .unconnect [.cb r.id] :: ops) = erun result st ops := by
  rw [Lemmas.erun_cons, Lemmas.erun_cons, Lemmas.connect_unconnect_inverse result st r hfresh]
  rfl

/-! Non-vacuity: a fresh callback; and why freshness is needed -/
example :
    let st : EState := ⟨[⟨"a", none, 1, none, false⟩, ⟨"b", some 4, 2, none, true⟩], true, [false]⟩
    (estep (fun _ => 0) (estep (fun _ => 0) st (.connect ⟨"on_a", none, none, 3, none, false⟩)).1 (.unconnect [.cb 3])).1.cbs
      = st.cbs ∧
    (estep (fun _ => 0) (estep (fun _ => 0) st (.connect ⟨"on_a", none, none, 1, none, false⟩)).1 (.unconnect [.cb 1])).1.cbs
      = [⟨"b", some 4, 2, none, true⟩] := by decide +kernel

end PhyVerif.C19
