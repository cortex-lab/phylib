import PhyVerif.Model.C16
import PhyVerif.Spec.C16
import PhyVerif.Lemmas.C16
import PhyVerif.Lemmas.C16t
import PhyVerif.Lemmas.C16b
import PhyVerif.Model.C16c
import PhyVerif.Lemmas.C16c
import PhyVerif.Model.C16d
import PhyVerif.Lemmas.C16d
import PhyVerif.Model.C16e
import PhyVerif.Lemmas.C16e
/-!
# C16 — chunkings tile the sample axis exactly once

Only the property theorems and their non-vacuity examples live here; the proofs are in `PhyVerif/Lemmas/C16.lean`
(`array.py`), `C16t` (`traces.py`), `C16b` … `C16e` (beside the model file of the same letter).
-/
namespace PhyVerif.C16

/-- For every data (any cell type), chunk size > 0 and 0 ≤ overlap < chunk size, the kept parts
of successive chunks concatenate to exactly the whole data. -/
theorem chunkBounds_tile {α : Type} (data : List α) (cs ov : Int)
    (hcs : 0 < cs) (hov0 : 0 ≤ ov) (hov : ov < cs) :
    kept data (chunkBounds (data.length : Int) cs ov) = data :=
  Lemmas.chunkBounds_tile data cs ov hcs hov0 hov

/-- All three `chunk_bounds` clauses as the decidable predicate the correspondence run evaluates
on the real output: tiling, each kept part inside its chunk's data (as index sets after Python's
clamping), no chunk holds more than the chunk size. -/
theorem chunkBounds_tileOK (n cs ov : Nat) (hcs : 0 < cs) (hov : ov < cs) :
    tileOK n cs (chunkBounds n cs ov) = true :=
  Lemmas.chunkBounds_tileOK n cs ov hcs hov

/-- Reader chunk bounds: start at 0, end at the sample count, strictly increasing, contain every
file boundary, consecutive bounds at most one chunk length apart — for any number of files. -/
theorem getChunkBounds_ok (sizes : List Nat) (cs : Nat) (hcs : 0 < cs) (hne : sizes ≠ []) :
    boundsOK sizes cs (getChunkBounds sizes cs) = true :=
  Lemmas.getChunkBounds_ok sizes cs hcs hne

/-- The base chunk iterator over any strictly increasing bound list from 0 to n tiles [0, n). -/
theorem iterChunksBase_tile (b : List Nat) (n : Nat) (h0 : b.head? = some 0)
    (hl : b.getLast? = some n) (hs : strictInc b = true) :
    intervalsTile n (iterChunksBase b) = true :=
  Lemmas.iterChunksBase_tile b n h0 hl hs

/-- Corollary: a flat/array reader's chunk iterator tiles the recording. -/
theorem reader_iter_tile (sizes : List Nat) (cs : Nat) (hcs : 0 < cs) (hne : sizes ≠ []) :
    intervalsTile sizes.sum (iterChunksBase (getChunkBounds sizes cs)) = true :=
  Lemmas.reader_iter_tile sizes cs hcs hne

/-- The compressed reader's batch iterator (batch look-behind, trailing last chunk): its
non-empty intervals tile [0, n) in order, for every batch size ≥ 1 and chunk table.
`0 < bs`: the batch size is `mtscomp.Reader.batch_size` = the `n_threads` the reader was created with.  A reader
handed over as an object has the caller's `n_threads ≥ 1`; a compressed file given BY PATH is opened with
`mtscomp.Reader(n_threads=mp.cpu_count() // 2)` (traces.py:483) — 0 on a machine with ONE cpu.  At `bs = 0` the real
code never gets as far as the iterator: `reader.open` computes `n_batches = ceil(n_chunks / batch_size)` and
raises ZeroDivisionError (ran it with `mp.cpu_count` patched to 1), so there is no reader at all — a matter of the
environment, outside "thread/batch counts".  The total model yields nothing there and does NOT tile
(`iterChunksMts_bs_zero`). -/
theorem iterChunksMts_tile (bs : Nat) (hbs : 0 < bs) (cb : List Nat) (n : Nat)
    (h0 : cb.head? = some 0) (hl : cb.getLast? = some n) (hs : strictInc cb = true)
    (hlen : 2 ≤ cb.length) :
    intervalsTile n (iterChunksMts bs cb) = true :=
  Lemmas.iterChunksMts_tile bs hbs cb n h0 hl hs hlen

/-- The hypothesis `0 < bs` of `iterChunksMts_tile` is needed: at batch size 0 (`cpu_count() // 2` on a one-cpu
machine; the real `get_ephys_reader(<path>.cbin)` raises ZeroDivisionError while opening) the model's iterator is
empty and tiles nothing. -/
theorem iterChunksMts_bs_zero (cb : List Nat) (n : Nat) (hn : 0 < n) :
    iterChunksMts 0 cb = [] ∧ intervalsTile n (iterChunksMts 0 cb) = false :=
  ⟨Lemmas.iterChunksMts_bs_zero cb, Lemmas.iterChunksMts_bs_zero_not_tile cb n hn⟩

/-- Excerpts are in-bounds, disjoint, increasing, at most `k` and each at most `size` long. -/
theorem excerpts_ok (n k size : Int) (hn : 0 ≤ n) (hk : 2 ≤ k) (hs : 0 ≤ size) :
    excerptsOK n k size (excerpts n k size) = true :=
  Lemmas.excerpts_ok n k size hn hk hs

/-- `get_excerpts` returns the whole data when it is shorter than requested. -/
theorem getExcerpts_short {α : Type} (data : List α) (k size : Nat)
    (h : data.length < k * size) : getExcerpts data k size = data :=
  Lemmas.getExcerpts_short data k size h

/-- In every case `get_excerpts` returns an in-order sub-selection of the data of at most
`k * size` items. -/
theorem getExcerpts_sublist {α : Type} (data : List α) (k size : Nat) (hs : 0 < size)
    (hlen : k * size ≤ data.length) :
    (getExcerpts data k size).Sublist data ∧ (getExcerpts data k size).length ≤ k * size :=
  Lemmas.getExcerpts_sublist data k size hs hlen

/-- Composition with the reader model of C01: reading a recording made of any number of files
(empty ones included) chunk by chunk through the reader's own iterator (`reader[i0:i1]` for each yielded pair) and
stacking the chunks gives back exactly the concatenated recording — nothing lost at file or chunk
boundaries, nothing read twice.  (For `parts = []` the statement is about the total model only: the real
`_get_chunk_bounds([])` raises, and `np.memmap` refuses a 0-row file, so empty parts are outside what the
correspondence run can exercise.) -/
theorem read_by_chunks_eq_concat {α : Type} (parts : List (List α)) (cs : Nat) (hcs : 0 < cs) :
    readByChunks parts cs = some parts.flatten :=
  Lemmas.read_by_chunks_eq_concat parts cs hcs

/-! ### chunk bounds for data of any type; the chunk LENGTH; the compressed reader's table (`Model/C16c.lean`) -/

/-- The other two `chunk_bounds` clauses for data of ANY type (`chunkBounds_tileOK` states them on index
intervals of `range n`): for every chunk, `data_chunk(data, c)` — the kept part — is literally the piece
`[keep_start - s_start : keep_end - s_start]` of `data_chunk(data, c, with_overlap=True)` — the chunk's data —,
and the chunk's data is at most `chunk_size` long. -/
theorem chunkBounds_parts_ok {α : Type} (data : List α) (cs ov : Int)
    (hcs : 0 < cs) (hov0 : 0 ≤ ov) (hov : ov < cs) :
    ∀ c ∈ chunkBounds (data.length : Int) cs ov,
      pySlice data c.ks c.ke = pySlice (chunkData data c) (c.ks - c.s) (c.ke - c.s) ∧
      ((chunkData data c).length : Int) ≤ cs :=
  fun c hc => Lemmas.chunk_inside data cs hcs c
    (Lemmas.chunkBounds_good _ cs ov hcs hov0 hov c hc)

/-- `int(round(600 * sample_rate))` with Python's `round` on the exact product: within half a sample of 600 s worth of
samples, …
ABOUT THE EXACT PRODUCT, not the code: `chunkSize` rounds the exact rational `600·rate`; the readers compute
the FLOAT product `600.0 * sample_rate` first (`chunkSizeFl`, `Model/C16d.lean`) and the two differ at rates whose
product lies within half an ulp of a `.5` tie (`chunkSizeFl_ne_chunkSize`; e.g. the doubles 0.0225 and the one
nearest to 1/1200).  The statement about the code is the twin `chunkSizeFl_close` / `chunkSizeFl_close_rel`; this one
is the reference the float result is compared with (`chunkSizeFl_eq_chunkSize`, `chunkSizeFl_eq_of_far`). -/
theorem chunkSize_close (rate : Rat) :
    600 * rate - 1/2 ≤ (chunkSize rate : Rat) ∧ (chunkSize rate : Rat) ≤ 600 * rate + 1/2 :=
  Lemmas.pyRound_bounds (600 * rate)

/-- … THE integer strictly closer than half a sample when there is one (EXACT product; for the code — float
product — the twin is `chunkSizeFl_eq_of_far`, which needs the margin `2^-53·|600·rate|` on both sides), … -/
theorem chunkSize_nearest (rate : Rat) (m : Int) (h1 : 600 * rate - 1/2 < m)
    (h2 : (m : Rat) < 600 * rate + 1/2) : chunkSize rate = m :=
  Lemmas.pyRound_unique (600 * rate) m h1 h2

/-- … and the EVEN neighbour when 600 s is exactly half-way between two sample counts (EXACT product; an exact tie
`k + 1/2` with `|k| < 2^52` is a double, so there `chunkSizeFl_eq_chunkSize` makes this a statement about the code
too — but the float product is ALSO a tie at rates whose exact product is not, e.g. the double 0.0225:
`chunkSizeFl_ne_chunkSize`). -/
theorem chunkSize_tie_even (rate : Rat) (k : Int) (h : 600 * rate = k + 1/2) :
    chunkSize rate % 2 = 0 ∧ (chunkSize rate = k ∨ chunkSize rate = k + 1) :=
  Lemmas.pyRound_tie (600 * rate) k h

/-- ABOUT THE EXACT PRODUCT, not the code (`readerChunkBounds` uses `chunkSize`): at the double 0.0225 and at the
double nearest to 1/1200 these are bounds the real reader does NOT have (chunk 13 here, 14 in the reader; accepted
here, AssertionError in the reader).  The statements about the code are the twins `readerChunkBoundsFl_ok` /
`readerChunkBoundsFl_rejects` with `chunkSizeFl_pos_iff`; the two coincide whenever the product is a double
(`Lemmas.readerChunkBoundsFl_eq`).
The reader clause with the chunk length tied to the sample rate: for every rate above 1/1200 Hz and any
number of files the constructor's bounds exist, start at 0, end at the sample count, increase strictly, contain
every file boundary, and are never further apart than `int(round(600·rate))`.  At and below 1/1200 Hz the
real constructors raise `AssertionError` (`assert chunk_size > 0`, traces.py:144; checked: 1/1200 → 0 by the
tie rule) — `readerChunkBounds_rejects`. -/
theorem readerChunkBounds_ok (sizes : List Nat) (rate : Rat) (hne : sizes ≠ []) (hr : 1/1200 < rate) :
    ∃ cb, readerChunkBounds sizes rate = some cb ∧ boundsOK sizes (chunkSize rate).toNat cb = true :=
  Lemmas.readerChunkBounds_ok sizes rate hne hr

/-- EXACT product (see `readerChunkBounds_ok`); the code's threshold is `600·rate ≤ 1/2 + 2^-54`
(`chunkSizeFl_pos_iff`, `readerChunkBoundsFl_rejects`), which lies ABOVE 1/1200. -/
theorem readerChunkBounds_rejects (sizes : List Nat) (rate : Rat) (hr : rate ≤ 1/1200) :
    readerChunkBounds sizes rate = none :=
  Lemmas.readerChunkBounds_none sizes rate hr

/-- Compressed reader (its `chunk_bounds` ARE the table stored in the `.ch` file, traces.py:371): the table
mtscomp writes for `n ≥ 1` samples and chunk length `cs ≥ 1` (`range(0, n, cs)` plus `n`) is the bound list
`_get_chunk_bounds` builds for one array of `n` rows, hence satisfies the reader clause with chunk length `cs`:
from 0 to `n`, strictly increasing, never further apart than `cs`.  (For `n = 0` mtscomp raises.)  For an
arbitrary table the clause is the decidable predicate `boundsOK [n] cs table`, evaluated on the real table by
the correspondence run.  (`mtsTable` models mtscomp's WRITER — third-party code, not phylib: this theorem says why the
clause can be expected of a table mtscomp wrote; what the property needs of the reader is only the clause on the
table it actually finds, and the comparison of the real table with `mtsTable` is a CORR matter.) -/
theorem cbin_table_ok (n cs : Nat) (hn : 1 ≤ n) (hcs : 0 < cs) :
    mtsTable n cs = some (getChunkBounds [n] cs) ∧ boundsOK [n] cs (getChunkBounds [n] cs) = true :=
  ⟨Lemmas.mtsTable_eq n cs hn hcs, getChunkBounds_ok [n] cs hcs (by simp)⟩

/-- … and the compressed reader's batch iterator, over any chunk table whose bounds are at most `cs` apart
(more than one bound), never hands out an interval longer than `batch_size` chunk lengths. -/
theorem iterChunksMts_len_le (bs cs : Nat) (hbs : 0 < bs) (cb : List Nat) (hg : gapsLe cs cb = true)
    (hlen : 2 ≤ cb.length) : ∀ p ∈ iterChunksMts bs cb, p.2 - p.1 ≤ bs * cs :=
  Lemmas.iterChunksMts_len_le bs cs hbs cb hg hlen

/-! Non-vacuity: concrete non-trivial inputs meet the hypotheses and exercise several chunks. -/
example : chunkBounds 20 7 2 = [⟨0,7,0,6⟩, ⟨5,12,6,11⟩, ⟨10,17,11,16⟩, ⟨15,20,16,20⟩] := by decide +kernel
example : kept [10,11,12,13,14,15,16] (chunkBounds 7 3 1) = [10,11,12,13,14,15,16] := by decide +kernel
example : getChunkBounds [3,5,2] 2 = [0,2,3,5,7,8,10] := by decide +kernel
example : iterChunksMts 2 [0,3,6,9,10] = [(0,3),(3,9),(9,10)] := by decide +kernel
example : readByChunks [[1,2,3],[4,5,6,7,8],[9,10]] 2 = some [1,2,3,4,5,6,7,8,9,10] := by decide +kernel
example : excerpts 20 3 4 = [(0,4),(8,12),(16,20)] := by decide +kernel
example : chunkSize (1/16) = 38 ∧ chunkSize (3/16) = 112 ∧ chunkSize (7/200) = 21 ∧ chunkSize (1/1200) = 0 := by
  decide +kernel
example : (600 : Rat) * (1/16) = (37 : Int) + 1/2 := by decide +kernel
example : readerChunkBounds [30, 55, 41] (1/16) = some [0, 30, 68, 85, 123, 126] := by decide +kernel
example : mtsTable 10 4 = some [0, 4, 8, 10] ∧ mtsTable 8 4 = some [0, 4, 8] ∧ mtsTable 0 4 = none := by decide +kernel
example : gapsLe 3 [0,3,6,9,10] = true ∧
    ((iterChunksMts 2 [0,3,6,9,10]).all fun p => decide (p.2 - p.1 ≤ 2 * 3)) = true := by decide +kernel
example : mtsChunkSize (1/4) 10 = 2 ∧ mtsChunkSize (5/2) 1 = 2 := by decide +kernel
example : (chunkBounds 7 3 1).map (fun c => (pySlice [10,11,12,13,14,15,16] c.ks c.ke, chunkData [10,11,12,13,14,15,16] c)) =
    [([10,11,12], [10,11,12]), ([13,14], [12,13,14]), ([15,16], [14,15,16])] := by decide +kernel

/-! ## The chunk length as the float unit computes it (`Model/C16d.lean`, `Model/Fl.lean`) -/

open PhyVerif.Fl in
/-- `chunk_size = int(round(600.0 * sample_rate))` with the FLOAT product (`Fl.roundDouble`: IEEE-754 binary64,
round to nearest even), `rate` = the exact value of the double handed to the reader: within half a sample PLUS
half an ulp of the product of 600 s worth of samples (`2^e` = unit in the last place of `600·rate`). -/
theorem chunkSizeFl_close (rate : Rat) (hr : rate ≠ 0) :
    600 * rate - 1 / 2 - pow2 (ulpExp (600 * rate) - 1) ≤ (chunkSizeFl rate : Rat) ∧
    (chunkSizeFl rate : Rat) ≤ 600 * rate + 1 / 2 + pow2 (ulpExp (600 * rate) - 1) :=
  Lemmas.chunkSizeFl_close rate hr

open PhyVerif.Fl in
/-- … in relative form for every rate: half an ulp is at most `2^-53·|600·rate|` -/
theorem chunkSizeFl_close_rel (rate : Rat) :
    600 * rate - 1 / 2 - pow2 (-53) * absR (600 * rate) ≤ (chunkSizeFl rate : Rat) ∧
    (chunkSizeFl rate : Rat) ≤ 600 * rate + 1 / 2 + pow2 (-53) * absR (600 * rate) :=
  Lemmas.chunkSizeFl_close_rel rate

open PhyVerif.Fl in
/-- When the exact product is a double (53 significant bits: every dyadic rate with a short significand, every
exact `.5` tie) the multiplication rounds nothing and the exact-rational model `chunkSize` IS the code. -/
theorem chunkSizeFl_eq_chunkSize (rate : Rat) (h : IsDouble (600 * rate)) : chunkSizeFl rate = chunkSize rate :=
  Lemmas.chunkSizeFl_eq_chunkSize rate h

open PhyVerif.Fl in
/-- Away from the ties — an integer closer than `1/2 − 2^-53·|600·rate|` to the exact product — both models give
that integer. -/
theorem chunkSizeFl_eq_of_far (rate : Rat) (m : Int)
    (h1 : 600 * rate - 1 / 2 + pow2 (-53) * absR (600 * rate) < m)
    (h2 : (m : Rat) < 600 * rate + 1 / 2 - pow2 (-53) * absR (600 * rate)) :
    chunkSizeFl rate = m ∧ chunkSizeFl rate = chunkSize rate :=
  ⟨Lemmas.chunkSizeFl_unique rate m h1 h2, Lemmas.chunkSizeFl_eq_of_far rate m h1 h2⟩

/-- The constructors' `assert chunk_size > 0` (traces.py:144) passes exactly when the exact product exceeds
`1/2 + 2^-54`: between `1/2` and that mid-point the float product is the tie `0.5` and `round(0.5) = 0`
(the exact-rational model accepts those rates: `Lemmas.chunkSize_pos_iff`). -/
theorem chunkSizeFl_pos_iff (rate : Rat) :
    0 < chunkSizeFl rate ↔ 1 / 2 + 1 / 18014398509481984 < 600 * rate :=
  Lemmas.chunkSizeFl_pos_iff_rate rate

/-- The reader clause with the chunk length the float unit computes: whenever the constructor accepts the rate,
for any number of files the bounds exist, start at 0, end at the sample count, increase strictly, contain every
file boundary, and are never further apart than `int(round(fl(600·rate)))`; otherwise `AssertionError`. -/
theorem readerChunkBoundsFl_ok (sizes : List Nat) (rate : Rat) (hne : sizes ≠ []) (hr : 0 < chunkSizeFl rate) :
    ∃ cb, readerChunkBoundsFl sizes rate = some cb ∧ boundsOK sizes (chunkSizeFl rate).toNat cb = true :=
  Lemmas.readerChunkBoundsFl_ok sizes rate hne hr

theorem readerChunkBoundsFl_rejects (sizes : List Nat) (rate : Rat) (hr : chunkSizeFl rate ≤ 0) :
    readerChunkBoundsFl sizes rate = none :=
  Lemmas.readerChunkBoundsFl_none sizes rate hr

open PhyVerif.Fl in
/-- mtscomp's `int(np.round(chunk_duration * sample_rate))` likewise: within `1/2 + 2^-53·|cd·rate|` of the exact
product, equal to the exact-rational model when the product is a double. -/
theorem mtsChunkSizeFl_close (cd rate : Rat) :
    (cd * rate - 1 / 2 - pow2 (-53) * absR (cd * rate) ≤ (mtsChunkSizeFl cd rate : Rat) ∧
     (mtsChunkSizeFl cd rate : Rat) ≤ cd * rate + 1 / 2 + pow2 (-53) * absR (cd * rate)) ∧
    (IsDouble (cd * rate) → mtsChunkSizeFl cd rate = mtsChunkSize cd rate) :=
  ⟨Lemmas.mtsChunkSizeFl_close cd rate, Lemmas.mtsChunkSizeFl_eq cd rate⟩

/-- The float product matters: at the double `0.0225 = 3242591731706757 / 2^57` the exact product `600·rate` is
just BELOW 13.5 (nearest integer 13) but the float product is exactly 13.5 and `round` takes the even neighbour 14 —
what the real reader computes (ran it: `chunk_bounds[:3] == [0, 14, 28]`).  So the exact-rational `chunkSize` /
`readerChunkBounds` are NOT the code at this rate. -/
theorem chunkSizeFl_ne_chunkSize :
    chunkSizeFl (3242591731706757 / 144115188075855872) = 14 ∧
    chunkSize (3242591731706757 / 144115188075855872) = 13 :=
  Lemmas.chunkSizeFl_ne_chunkSize_witness

/-! ## Sample rates that are not binary64 numbers (`Model/C16e.lean`) -/

open PhyVerif.Fl in
/-- `int(round(600.0 * sample_rate))` for a NumPy floating scalar of precision `p` (float16 / float32 / long double:
the product is computed in the precision of the scalar): whatever number `y` the multiplication returns, as long as it
is within the relative rounding error `2^-p` of the exact product — every correctly rounded format with `p`
significant bits is, in its normal range — the chunk length lies between `chunkSizeLo p rate` and
`chunkSizeHi p rate`, i.e. within `1/2 + 2^-p·|600·rate|` of 600 s worth of samples. -/
theorem chunkSize_in_envelope (p : Nat) (rate y : Rat)
    (h : absR (y - 600 * rate) ≤ pow2 (-(p : Int)) * absR (600 * rate)) :
    chunkSizeLo p rate ≤ pyRound y ∧ pyRound y ≤ chunkSizeHi p rate :=
  Lemmas.pyRound_in_envelope p rate y h

/-- … the binary64 model is the instance `p = 53`, and the envelope always contains the chunk length of the exact
product (it is never empty). -/
theorem chunkSizeFl_in_envelope (rate : Rat) :
    (chunkSizeLo 53 rate ≤ chunkSizeFl rate ∧ chunkSizeFl rate ≤ chunkSizeHi 53 rate) ∧
    ∀ p, chunkSizeLo p rate ≤ chunkSize rate ∧ chunkSize rate ≤ chunkSizeHi p rate :=
  ⟨Lemmas.chunkSizeFl_in_envelope rate, fun p => Lemmas.envelope_nonempty p rate⟩

open PhyVerif.Fl in
/-- … and it decides the constructor's `assert chunk_size > 0` at both ends: an envelope at or below 0 means
AssertionError, an envelope starting at 1 or more means the rate is accepted, whatever the rounding. -/
theorem envelope_decides (p : Nat) (rate y : Rat)
    (h : absR (y - 600 * rate) ≤ pow2 (-(p : Int)) * absR (600 * rate)) :
    (chunkSizeHi p rate ≤ 0 → pyRound y ≤ 0) ∧ (1 ≤ chunkSizeLo p rate → 0 < pyRound y) :=
  Lemmas.envelope_decides p rate y h

/-! Non-vacuity.  `1/16`: an exact tie, both models agree.  `np.float32(0.0375) = 5033165/2^27`: the float32 product
is the tie 22.5 → the real reader's chunk is 22 (ran it), the binary64 model at this rational says 23; both lie in the
envelope at 24 bits, which holds nothing else; at 53 bits only 23 is left. -/
example : (chunkSizeLo 24 (5033165 / 134217728), chunkSizeHi 24 (5033165 / 134217728)) = (22, 23) ∧
    (chunkSizeLo 53 (5033165 / 134217728), chunkSizeHi 53 (5033165 / 134217728)) = (23, 23) ∧
    chunkSizeFl (5033165 / 134217728) = 23 := by decide +kernel
example : PhyVerif.Fl.absR ((45 / 2 : Rat) - 600 * (5033165 / 134217728)) ≤
    PhyVerif.Fl.pow2 (-(24 : Int)) * PhyVerif.Fl.absR (600 * (5033165 / 134217728)) ∧ pyRound (45 / 2) = 22 := by
  decide +kernel
example : chunkSizeHi 24 (1 / 2048) = 0 ∧ chunkSizeLo 11 (1 / 16) = 37 ∧ chunkSizeHi 11 (1 / 16) = 38 ∧
    chunkSizeLo 24 (1 / 8) = 75 ∧ chunkSizeHi 24 (1 / 8) = 75 := by decide +kernel
example : iterChunksMts 0 [0, 3, 6] = [] ∧ iterChunksMts 1 [0, 3, 6] = [(0, 0), (0, 3), (3, 6)] := by decide +kernel
/-- At the double 0.0225 the last place of the product is 2^-49 and the bound of `chunkSizeFl_close` is attained up to it:
`14 - 600·rate = 1/2 + (13.5 - 600·rate)` with `0 < 13.5 - 600·rate ≤ 2^-50` -/
example : PhyVerif.Fl.ulpExp (600 * (3242591731706757 / 144115188075855872)) = -49 ∧
    (14 : Rat) ≤ 600 * (3242591731706757 / 144115188075855872) + 1 / 2 + PhyVerif.Fl.pow2 (-50) := by decide +kernel
example : chunkSizeFl (1 / 16) = 38 ∧ chunkSizeFl 30000 = 18000000 ∧ chunkSizeFl (1 / 1200) = 0 := by decide +kernel
example : PhyVerif.Fl.IsDouble ((600 : Rat) * (1 / 16)) := ⟨75, -1, by decide, by decide +kernel⟩
example : readerChunkBoundsFl [30, 55, 41] (3242591731706757 / 144115188075855872) =
    some [0, 14, 28, 30, 44, 58, 72, 85, 99, 113, 126] := by decide +kernel
example : mtsChunkSizeFl (1 / 4) 10 = 2 ∧ mtsChunkSizeFl (3152519739159347 / 9007199254740992) 10 = 4 := by decide +kernel

end PhyVerif.C16
