import PhyVerif.Model.C04
import PhyVerif.Lemmas.C04
import PhyVerif.Model.C04b
import PhyVerif.Lemmas.C04b
import PhyVerif.Model.C04c
import PhyVerif.Spec.C04
import PhyVerif.Spec.C04b
import PhyVerif.Lemmas.C04c
import PhyVerif.Lemmas.C04d
import PhyVerif.Lemmas.C04e
import PhyVerif.Model.C04f
import PhyVerif.Lemmas.C04f
import PhyVerif.Lemmas.C04g
import PhyVerif.Model.C04h
import PhyVerif.Lemmas.C04h
import PhyVerif.Lemmas.C04s
import PhyVerif.Lemmas.C04x
/-!
# C04 — loading a dataset reproduces its files under every supported layout
Only property theorems + non-vacuity examples; proofs in `Lemmas/C04*.lean`, to be read in the order of their
imports: `C04`, `C04c`, `C04b`; `C04d`, `C04g`; `C04s`, `C04e`, `C04f`; `C04h`.

* `Model/C04.lean` `load`: the array files (`_load_data` up to the similarity matrix);
  `Model/C04c.lean` `loadFull`: the rest (numeric samples/times, shape assertions, positions,
  concrete defaults, extra per-spike attributes, raw traces through the C01/C02 reader models, duration);
  `Model/C04f.lean` `loadFeatures`, `loadTemplateFeatures`: the feature tables.
* `Spec/C04.lean`, `Spec/C04b.lean`: the declarative table of DESIGN §5 C04 (which file wins, which
  transform, which default), written without `findPath`/`readFile`/`load`.
* `load_values` … `load_duration` below: every successful load satisfies the table, attribute by
  attribute, for every directory, in both layouts.
* `Lemmas/C04x.lean`: the example dataset `exAlf` (with `exRaw`, `exShow`) and the model loaded from it, `exLoaded`;
  `exAny`, `exBase` for the examples of `loadAny`.
-/
namespace PhyVerif.C04

/-- First matching name wins: the returned file matches some pattern of the list and no earlier
pattern matches any file of the directory. -/
theorem findPath_first_match (d : Dir) (names : List String) (f : String) (h : findPath d names = some f) :
    ∃ i, ∃ hi : i < names.length, globMatch (names[i]'hi) f = true ∧ f ∈ d.map (·.1) ∧
      ∀ j (hj : j < names.length), j < i → ∀ g ∈ d.map (·.1), globMatch (names[j]'hj) g = false :=
  Lemmas.findPath_first_match d names f h

/-- … and when nothing is returned no pattern matches any file. -/
theorem findPath_none (d : Dir) (names : List String) (h : findPath d names = none) :
    ∀ p ∈ names, ∀ g ∈ d.map (·.1), globMatch p g = false :=
  Lemmas.findPath_none d names h

/-- Frame: a successful load leaves every pre-existing file as it was and creates nothing except
the spike-cluster copy and the inverse whitening matrix, each exactly when it was missing. -/
theorem load_frame (inv : Arr → Arr) {one : Cell} (d : Dir) (v : View) (d' : Dir) (h : load inv d one = .ok (v, d')) :
    (∀ name a, d.lookup name = some a → d'.lookup name = some a) ∧
    (∀ name ∈ d'.map (·.1), name ∈ d.map (·.1) ∨ name = "spike_clusters.npy" ∨ name = "whitening_mat_inv.npy") ∧
    (("spike_clusters.npy" ∈ d'.map (·.1) ∧ "spike_clusters.npy" ∉ d.map (·.1)) ↔
      findPath d ["spike_clusters.npy", "spikes.clusters*.npy"] = none) ∧
    (d'.length = d.length +
      (if findPath d ["spike_clusters.npy", "spikes.clusters*.npy"] = none then 1 else 0) +
      (if d.lookup "whitening_mat_inv.npy" = none then 1 else 0)) :=
  Lemmas.load_frame inv d v d' h

/-- Loading rejects non-monotonic spike times (KiloSort layout). -/
theorem load_rejects_nonmonotone (inv : Arr → Arr) {one : Cell} (d : Dir) (s : Arr) (hs : d.lookup "spike_times.npy" = some s)
    (hm : monotone (scrub s).data = false) : load inv d one = .error .nonMonotone :=
  Lemmas.load_rejects_nonmonotone inv d s hs hm

/-- A directory holding both a KiloSort-named and an ALF-named spike-cluster file is not loaded (the
loader accepts only one). -/
theorem load_rejects_two_cluster_files (inv : Arr → Arr) {one : Cell} (d : Dir)
    (h1 : (findPath d ["spike_clusters.npy"]).isSome) (h2 : (findPath d ["spikes.clusters*.npy"]).isSome)
    (v : View) (d' : Dir) : load inv d one ≠ .ok (v, d') :=
  Lemmas.load_rejects_two_cluster_files inv d h1 h2 v d'

/-- NaN/inf are replaced by zero in fully loaded arrays, finite cells and the shape are kept. -/
theorem scrub_spec (a : Arr) :
    (scrub a).shape = a.shape ∧ (scrub a).data.length = a.data.length ∧
    ∀ i (hi : i < a.data.length), (scrub a).data.getD i .nan =
      (match a.data[i]'hi with | .num v => .num v | _ => .num 0) :=
  Lemmas.scrub_spec a

/-- When no spike-cluster file exists the loaded clusters are the loaded templates, and the file
created is a byte copy of the spike-template file. -/
theorem clusters_default (inv : Arr → Arr) {one : Cell} (d : Dir) (v : View) (d' : Dir) (h : load inv d one = .ok (v, d'))
    (hn : findPath d ["spike_clusters.npy", "spikes.clusters*.npy"] = none) :
    v.spikeClusters = v.spikeTemplates ∧
    ∃ f, findPath d ["spike_templates.npy", "spikes.templates*.npy"] = some f ∧
      d'.lookup "spike_clusters.npy" = d.lookup f :=
  Lemmas.clusters_default inv d v d' h hn

/-- **wmi_default** ("the whitening matrix and its inverse … the documented default substituted"; `np.linalg.inv` is
the parameter `inv`, `one` the cell standing for 1.0): when the directory holds no `whitening_mat_inv.npy` the view
carries no stored inverse and the file the loader writes holds exactly what `inv` returned on the whitening matrix WITH
ITS DEFAULT — the matrix the view shows, or `np.eye(nc)` when there is no `whitening_mat.npy` (model.py:437-441,
`nc = channel_map.shape[0]`, model.py:386; `_compute_wmi`, model.py:756-761, returns the same array it writes).  So a
dataset without whitening matrix leaves `inv (eye one nc)` (for the real `inv`: the identity), and the NEXT session
loads it as a stored `(nc, nc)` inverse (not proved in general; the `exShow` examples below show one instance).
(The real code asserts `wm.shape == (nc, nc)` BEFORE it computes the inverse, model.py:442; `load` does not check
shapes — `loadFull` does, and returns no directory then.) -/
theorem wmi_default (inv : Arr → Arr) (one : Cell) (d : Dir) (v : View) (d' : Dir) (h : load inv d one = .ok (v, d'))
    (hn : d.lookup "whitening_mat_inv.npy" = none) :
    v.wmi = none ∧
    d'.lookup "whitening_mat_inv.npy" = some (inv (v.wm.getD (eye one (v.channelMap.shape.headD 0)))) :=
  Lemmas.wmi_default inv d v d' h hn

/-- … and a stored inverse is shown as it is stored (at least 2-D, squeezed, scrubbed); by `load_frame` nothing is
written for it. -/
theorem wmi_stored (inv : Arr → Arr) {one : Cell} (d : Dir) (v : View) (d' : Dir) (h : load inv d one = .ok (v, d'))
    (a : Arr) (ha : d.lookup "whitening_mat_inv.npy" = some a) :
    v.wmi = some (atleast 2 (squeeze (scrub a))) :=
  Lemmas.wmi_stored inv d v d' h a ha

/-- Layout independence: a directory holding only KiloSort/phy-named arrays
and the ALF-named directory holding the same arrays (plus any non-decreasing spike times in seconds)
load to the same samples, amplitudes, templates, clusters, channel tables, waveforms and matrices;
only the time source differs (stored seconds instead of samples over rate). -/
theorem load_layout_independent (inv : Arr → Arr) {one : Cell} (d : Dir) (t : Arr)
    (hks : ∀ n ∈ d.map (·.1), n ∈ ksNames)
    (ht : monotone (scrub t).data = true)
    (v : View) (d' : Dir) (h : load inv d one = .ok (v, d')) :
    ∃ v' d'', load inv (toALF d t) one = .ok (v', d'') ∧
      v'.times = .stored (squeeze (scrub t)) ∧ v'.samples = v.samples ∧
      v'.amplitudes = v.amplitudes ∧ v'.spikeTemplates = v.spikeTemplates ∧
      v'.spikeClusters = v.spikeClusters ∧ v'.channelMap = v.channelMap ∧
      v'.channelPositions = v.channelPositions ∧ v'.channelShanks = v.channelShanks ∧
      v'.channelProbes = v.channelProbes ∧ v'.templates = v.templates ∧
      v'.templateCols = v.templateCols ∧ v'.wm = v.wm ∧ v'.wmi = v.wmi ∧ v'.similar = v.similar :=
  Lemmas.load_layout_independent inv d t hks ht v d' h

/-! ## The declarative table (DESIGN §5 C04) -/

/-- **load_values.**  Every successful load satisfies the table, attribute by attribute: for each of
amplitudes, spike templates, spike clusters, channel map, positions, shanks, probes, template
waveforms, template column table, whitening matrix, its inverse and the similarity matrix, the value
shown is the transform (column "transform") of a file that WINS the first-match search over the
attribute's patterns (column "files, in order") in the ORIGINAL directory `d` — not in the directory
grown by the files the loader creates on the way —, and it is `none` (the documented default is in
force) exactly when no pattern matches any file.  Spike clusters without a cluster file are the
transform of the winning spike-template file; template columns are only looked for when templates
exist.  Holds for every directory (any file names, any number of candidates, both layouts mixed). -/
theorem load_values (inv : Arr → Arr) {one : Cell} (d : Dir) (v : View) (d' : Dir) (h : load inv d one = .ok (v, d')) :
    ∀ a : Attr, Expected d a (v.attr a) :=
  Lemmas.load_values inv d v d' h

/-- The first two rows of the table: spike samples / times come from `spike_times.npy` when it exists
(times = samples over rate), otherwise from the winning `spikes.times*.npy` (seconds as stored) with
the samples of the winning `spikes.samples*.npy` or, without such a file, the rounded times. -/
theorem load_time_sources (inv : Arr → Arr) {one : Cell} (d : Dir) (v : View) (d' : Dir) (h : load inv d one = .ok (v, d')) :
    ExpectedTimes d v.times v.samples :=
  Lemmas.load_times inv d v d' h

/-- `Wins` determines the file as soon as every pattern matches at most one file (the condition
DESIGN §5 puts on well-formed directories: otherwise `glob` order decides in the real loader). -/
theorem wins_unique (d : Dir) (pats : List String) (f g : String) (hu : GlobUnique d pats)
    (hf : Wins d pats f) (hg : Wins d pats g) : f = g :=
  Lemmas.wins_unique d pats f g hu hf hg

/-- Column "when absent = error": a directory without spike templates, channel map or channel
positions (under either name) is not loaded. -/
theorem load_requires_mandatory (inv : Arr → Arr) {one : Cell} (d : Dir) (a : Attr) (hm : a.mandatory = true)
    (ha : Absent d a.files) (v : View) (d' : Dir) : load inv d one ≠ .ok (v, d') :=
  Lemmas.load_requires_mandatory inv d a hm ha v d'

/-! ## Rejection of non-monotonic spike times, ALF layout -/

/-- Loading rejects non-monotonic spike times in the ALF layout too: no `spike_times.npy`, `f` the
(only) file matching `spikes.times*.npy`, its scrubbed seconds not non-decreasing ⇒ `ValueError`.
(The real code raises the same error; a NaN among the seconds is scrubbed to 0 first, so
`[1, NaN, 2]` is rejected as `[1, 0, 2]`.) -/
theorem load_rejects_nonmonotone_alf (inv : Arr → Arr) {one : Cell} (d : Dir) (f : String) (t : Arr)
    (hks : "spike_times.npy" ∉ names d) (hu : GlobUnique d ["spikes.times*.npy"])
    (hw : Wins d ["spikes.times*.npy"] f) (hl : d.lookup f = some t)
    (hm : monotone (scrub t).data = false) : load inv d one = .error .nonMonotone :=
  Lemmas.load_rejects_nonmonotone_alf inv d f t hks hu hw hl hm

/-- what the loader's test `np.all(np.diff(x) >= 0)` decides, on numeric cells -/
theorem monotone_spec (l : List Int) : monotone (l.map Cell.num) = true ↔ NonDecreasing l :=
  Lemmas.monotone_spec l

/-! ## `np.round`: samples recovered from seconds -/

/-- `roundHalfEven q` is within 1/2 of `q` and even whenever `q` lies exactly between two integers -/
theorem roundHalfEven_spec (q : Rat) : IsRoundHalfEven q (roundHalfEven q) :=
  Lemmas.roundHalfEven_spec q

/-- … and it is the only such integer -/
theorem roundHalfEven_unique (q : Rat) (z : Int) (hz : IsRoundHalfEven q z) : roundHalfEven q = z :=
  Lemmas.roundHalfEven_unique q z hz

/-- "samples recovered by rounding": the seconds of sample `s` at any positive rate round back to `s` -/
theorem samples_recovered (rate : Rat) (hr : 0 < rate) (s : Int) :
    roundHalfEven ((s : Rat) / rate * rate) = s :=
  Lemmas.samples_recovered rate hr s

/-- **samples_recovered_of_stored** — "samples recovered by rounding" for the STORED seconds (`samples_recovered`
above is the special case of seconds stored exactly, where the product IS the integer): whenever the stored time `t`
— any rounding of `s / rate` to the stored precision — lies less than half a sample period from sample `s`
(`|t·rate − s| < 1/2`), rounding `t · rate` gives `s`.  For float64 seconds of a recording of any practical length the
hypothesis holds (relative error 2⁻⁵³); for float32 seconds late in a recording it does NOT (spacing 2⁻¹² s = 7 sample
periods at 30 kHz past 512 s): then the samples are the stored seconds times the rate, rounded, which is what
`load_samples_times` states and what the correspondence checks exactly (the product of a float32 and the rate is exact
in double precision; /repo HEAD forms it in single precision: PF-C04c). -/
theorem samples_recovered_of_stored (rate t : Rat) (s : Int)
    (h1 : (s : Rat) - 1 / 2 < t * rate) (h2 : t * rate < (s : Rat) + 1 / 2) :
    roundHalfEven (t * rate) = s :=
  Lemmas.samples_recovered_of_stored rate t s h1 h2

/-- 600.000244140625 s (float32 of 18000007 / 30000) is 0.32 sample periods from sample 18000007 -/
example : roundHalfEven ((600000244140625 : Rat) / 1000000000000 * 30000) = 18000007 := by
  apply samples_recovered_of_stored <;> decide +kernel

/-! ## The full loader `loadFull` -/
section Full
variable {β : Type} (inv : Arr → Arr) (rate : Rat) (tden ncd : Nat) (one : Cell)
  (raw : Option (List (List (List β)))) (d : Dir) (fv : FullView β) (d' : Dir)

/-- the array part of a full load is a `load`: `load_frame`, `load_values`, `clusters_default`, …
apply to `fv.base` and `d'` -/
theorem loadFull_base (h : loadFull inv rate tden ncd one raw d = .ok (fv, d')) :
    load inv d one = .ok (fv.base, d') :=
  Lemmas.loadFull_base inv rate tden ncd one raw d fv d' h

/-- Numeric spike samples and times.  KiloSort layout: the samples are the (scrubbed) cells of
`spike_times.npy` and every time is its sample divided by the rate.  ALF layout: the times are the
stored seconds (token / `tden`); the samples are those of the winning `spikes.samples*.npy` or,
without it, each time multiplied by the rate and rounded half-to-even (`roundHalfEven_spec`). -/
theorem load_samples_times (h : loadFull inv rate tden ncd one raw d = .ok (fv, d')) :
    (∀ s, d.lookup "spike_times.npy" = some s →
      fv.spikeSamples = (scrub s).data.map cellInt ∧
      fv.spikeTimes = fv.spikeSamples.map fun (k : Int) => (k : Rat) / rate) ∧
    ("spike_times.npy" ∉ names d → ∃ f t, Wins d ["spikes.times*.npy"] f ∧ d.lookup f = some t ∧
      fv.spikeTimes = (scrub t).data.map (fun c => (cellInt c : Rat) / (tden : Rat)) ∧
      ((∃ g s, Wins d ["spikes.samples*.npy"] g ∧ d.lookup g = some s ∧
          fv.spikeSamples = (scrub s).data.map cellInt) ∨
       (Absent d ["spikes.samples*.npy"] ∧
          fv.spikeSamples = fv.spikeTimes.map fun x => roundHalfEven (x * rate)))) :=
  Lemmas.loadFull_times inv rate tden ncd one raw d fv d' h

/-- The contrapositive of the rejection, on values: the spike times of every loaded model are
non-decreasing (both layouts).  `rate > 0`: the real constructor asserts it (model.py:338-341: a negative
`sample_rate` raises AssertionError, `0` / `None` is replaced by 1.0 with a warning); `tden > 0` is
the denominator of the model's seconds tokens. -/
theorem load_times_sorted (h : loadFull inv rate tden ncd one raw d = .ok (fv, d'))
    (hr : 0 < rate) (htd : 0 < tden) :
    ∀ i (hi : i + 1 < fv.spikeTimes.length), fv.spikeTimes[i] ≤ fv.spikeTimes[i + 1] :=
  Lemmas.loadFull_times_sorted inv rate tden ncd one raw d fv d' h hr htd

/-- **load_wmi** (the inverse whitening matrix of a loaded model, with its default — `fv.wmi`, model.py:443-447): a stored
`whitening_mat_inv.npy` is shown as stored (at least 2-D, squeezed, scrubbed) and is left in place; without one the
model holds what `inv` returned on THE WHITENING MATRIX THE MODEL SHOWS (`fv.wm`: the stored matrix or, `load_defaults`,
the identity `(nc, nc)`), and the same array is what the loader wrote to `whitening_mat_inv.npy` — for the real
`np.linalg.inv` and no whitening matrix that is the identity, which the next session reads back as a stored inverse. -/
theorem load_wmi (h : loadFull inv rate tden ncd one raw d = .ok (fv, d')) :
    (∀ a, d.lookup "whitening_mat_inv.npy" = some a →
      fv.wmi = atleast 2 (squeeze (scrub a)) ∧ d'.lookup "whitening_mat_inv.npy" = some a) ∧
    (d.lookup "whitening_mat_inv.npy" = none →
      fv.wmi = inv fv.wm ∧ d'.lookup "whitening_mat_inv.npy" = some (inv fv.wm)) :=
  Lemmas.loadFull_wmi inv rate tden ncd one raw d fv d' h

/-- Rows with a concrete default: shanks and probes are the winning file or zeros `(nc,)`, the
whitening matrix the file or the identity `(nc, nc)`, the similarity matrix the file or zeros
`(nt, nt)` — the default exactly when no pattern matches any file. -/
theorem load_defaults (h : loadFull inv rate tden ncd one raw d = .ok (fv, d')) :
    RowP d Attr.channelShanks.files Attr.channelShanks.transform (IsZeros [fv.nChannels]) fv.channelShanks ∧
    RowP d Attr.channelProbes.files Attr.channelProbes.transform (IsZeros [fv.nChannels]) fv.channelProbes ∧
    RowP d Attr.wm.files Attr.wm.transform (IsEye one fv.nChannels) fv.wm ∧
    RowP d Attr.similar.files Attr.similar.transform (IsZeros [fv.nTemplates, fv.nTemplates]) fv.similar :=
  Lemmas.loadFull_defaults inv rate tden ncd one raw d fv d' h

/-- Channel positions: the winning file when its rows are pairwise distinct, the linear layout
otherwise (model.py:391-396). -/
theorem load_positions (h : loadFull inv rate tden ncd one raw d = .ok (fv, d')) :
    ExpectedPositions d fv.nChannels fv.positions :=
  Lemmas.loadFull_positions inv rate tden ncd one raw d fv d' h

/-- Every loaded array has the documented shape (the `assert`s of `_load_data`): per-spike vectors
`(ns,)`, per-channel tables `(nc,)`, positions `(nc, 2)`, channel ids below `n_channels_dat`,
templates `(nt, nsw, nloc)` with a column table `(nt, nloc)`, matrices `(nc, nc)` / `(nt, nt)`.
A directory violating one of them is not loaded (real code: AssertionError). -/
theorem load_shapes (h : loadFull inv rate tden ncd one raw d = .ok (fv, d')) :
    fv.base.times.arr.shape = [fv.nSpikes] ∧
    fv.base.samples.arr.shape.length = 1 ∧
    (∀ a, fv.base.amplitudes = some a → a.shape = [fv.nSpikes]) ∧
    fv.base.spikeTemplates.shape = [fv.nSpikes] ∧
    fv.base.spikeClusters.shape = [fv.nSpikes] ∧
    fv.base.channelMap.shape = [fv.nChannels] ∧
    (ncd ≠ 0 → ∀ c ∈ fv.base.channelMap.data, cellInt c ≤ (ncd : Int) - 1) ∧
    fv.base.channelPositions.shape = [fv.nChannels, 2] ∧
    fv.channelShanks.shape = [fv.nChannels] ∧
    fv.channelProbes.shape = [fv.nChannels] ∧
    (∀ t, fv.base.templates = some t → ∃ nsw nloc, t.shape = [fv.nTemplates, nsw, nloc] ∧
      ∀ c, fv.templateCols = some c → c.shape = [fv.nTemplates, nloc]) ∧
    fv.wm.shape = [fv.nChannels, fv.nChannels] ∧
    (∀ w, fv.base.wmi = some w → w.shape = [fv.nChannels, fv.nChannels]) ∧
    fv.similar.shape = [fv.nTemplates, fv.nTemplates] :=
  Lemmas.loadFull_shapes inv rate tden ncd one raw d fv d' h

/-- Extra per-spike attributes: attribute `n` with value `x` is shown exactly when the ORIGINAL
directory holds `spike_<n>.npy`, `n` is not a reserved name, `x` is that file scrubbed and squeezed
and its first dimension is the number of spikes (the files created by the loader add nothing).
A `spike_<n>.npy` that squeezes to a 0-d array (one stored value) has no first dimension: it is not shown and
does not stop the load (the loader at /repo HEAD fails there with an uncaught IndexError: PF-C04d). -/
theorem load_spike_attributes (h : loadFull inv rate tden ncd one raw d = .ok (fv, d')) (n : String) (x : Arr) :
    (n, x) ∈ fv.spikeAttributes ↔ IsSpikeAttr d fv.nSpikes n x :=
  Lemmas.loadFull_spike_attributes inv rate tden ncd one raw d fv d' h n x

/-- **load_traces_permuted** (composition with the reader models of C01 and C02):
`model.traces[rows] = raw[rows][:, channel_map]`.  For raw files of `n_channels_dat` columns each
(any number of files of any lengths) and every in-domain row index of C01, indexing the loaded
model's traces returns the rows NumPy returns on the concatenated files, each restricted to the
columns listed by the loaded channel map, in that order: row `r` becomes
`[r[cm[0]], r[cm[1]], …]`, all lookups in range.
Hypotheses: `n_channels_dat` given (`ncd ≠ 0`; with `n_channels_dat = 0` and raw files the real
loader raises AssertionError in `_memmap_flat`, with `None` a TypeError), rectangular raw files (what
`np.memmap` with a shape gives), non-negative channel ids (the real code accepts negative ids too —
they wrap like NumPy indices, `-1` reads the last column of the file — which no dataset writer
produces). -/
theorem load_traces_permuted (parts : List (List (List β)))
    (h : loadFull inv rate tden ncd one (some parts) d = .ok (fv, d')) (hncd : ncd ≠ 0)
    (hrect : ∀ p ∈ parts, ∀ row ∈ p, row.length = ncd)
    (hnn : ∀ c ∈ fv.base.channelMap.data, 0 ≤ cellInt c) (it : C01.Item)
    (hd : C01.InDom parts.flatten.length it) :
    ∃ tr, fv.traces = some tr ∧
      tracesGet parts tr it =
        ((C01.npRows parts.flatten it).map fun rows => rows.map fun row =>
          Np.take row (Lemmas.chans fv.base.channelMap)) ∧
      (∀ c ∈ Lemmas.chans fv.base.channelMap, c < ncd) ∧
      ∀ rows, C01.npRows parts.flatten it = some rows → ∀ row ∈ rows,
        (Np.take row (Lemmas.chans fv.base.channelMap)).length = (Lemmas.chans fv.base.channelMap).length ∧
        ∀ k (hk : k < (Lemmas.chans fv.base.channelMap).length),
          (Np.take row (Lemmas.chans fv.base.channelMap))[k]? = row[(Lemmas.chans fv.base.channelMap)[k]]? :=
  Lemmas.loadFull_traces inv rate tden ncd one d fv d' parts h hncd hrect hnn it hd

/-- A dataset without any template file is loaded only un-curated: the loaded clusters are the loaded
templates.  (With curated clusters the real loader fails — `self.sparse_templates.cols` on `None`,
AttributeError at model.py:421-422; datasets without templates are outside C04's quantifier.) -/
theorem load_without_templates (h : loadFull inv rate tden ncd one raw d = .ok (fv, d'))
    (ht : fv.base.templates = none) : fv.base.spikeClusters.data = fv.base.spikeTemplates.data :=
  (Lemmas.loadFull_nf inv rate tden ncd one raw d fv d' h).uncurated ht

/-- Sample count and duration: with raw data the number of rows of the concatenated files and that
number over the rate; without, no traces and the last spike time. -/
theorem load_duration (h : loadFull inv rate tden ncd one raw d = .ok (fv, d')) :
    (∀ parts, raw = some parts → fv.nSamples = some parts.flatten.length ∧
      fv.duration = (parts.flatten.length : Rat) / rate) ∧
    (raw = none → fv.nSamples = none ∧ fv.duration = fv.spikeTimes.getLast?.getD 0) :=
  Lemmas.loadFull_duration inv rate tden ncd one raw d fv d' h

end Full

/-! ## Feature tables (`_load_features`, `_load_template_features`) -/

/-- exchanging the last two axes: entry `(i, k, j)` of the shown array is entry `(i, j, k)` of the
stored one (C order; the stored array has `n · p · q` cells) -/
theorem transpose021_spec (a : Arr) (n p q : Nat) (hs : a.shape = [n, p, q]) (hl : a.data.length = n * (p * q)) :
    (transpose021 a).shape = [n, q, p] ∧ (transpose021 a).data.length = n * (q * p) ∧
    ∀ i j k, i < n → j < p → k < q →
      (transpose021 a).data[i * (q * p) + (k * p + j)]? = a.data[i * (p * q) + (j * q + k)]? :=
  Lemmas.transpose021_spec a n p q hs hl

/-- Principal-component features: shown iff `pc_features.npy` exists; the data are the stored array
(squeezed, NOT scrubbed — it is memory-mapped) with its last two axes exchanged; the column table is
`pc_feature_ind.npy` (not scrubbed either) of shape `(nt, nloc)` or absent (dense), the row table
`pc_feature_spike_ids.npy` (scrubbed) of one entry per stored row or absent (all spikes). -/
theorem load_features (d : Dir) (nt : Nat) (s : Sparse) (h : loadFeatures d nt = .ok (some s)) :
    ∃ a, d.lookup "pc_features.npy" = some a ∧ (feat3 a).shape.length = 3 ∧
      s.data = transpose021 (feat3 a) ∧
      Row d ["pc_feature_ind.npy"] featCols s.cols ∧
      (∀ c, s.cols = some c → c.shape = [nt, (s.data.shape.drop 1).headD 0]) ∧
      Row d ["pc_feature_spike_ids.npy"] (fun r => squeeze (scrub r)) s.rows ∧
      (∀ r, s.rows = some r → r.shape = [s.data.shape.headD 0]) :=
  Lemmas.loadFeatures_some d nt s h

/-- **load_features_entries**: WHAT is shown, by entries and without the model's helpers: for a stored
`pc_features.npy` of shape `(n_spikes, n_pcs, n_loc)` the shown array has shape `(n_spikes, n_loc, n_pcs)` and
`data[s][c][k] = file[s][k][c]`.
Hypothesis: no stored dimension has size 1 (DESIGN §5 C04 "well-formed").  It is NEEDED: with ONE component per
channel (`(n, 1, q)`) the loader — and `loadFeatures`, which mirrors it — squeezes the file to `(n, q)`, appends the
axis at the END (`(n, q, 1)`, model.py:793-795 "Deal with npcs = 1") and exchanges: the result has shape `(n, 1, q)`,
i.e. channels and components are exchanged (the real code then fails on `pc_feature_ind.npy`, AssertionError
model.py:810, or shows `get_features` rows with the channels as components).  The `example` after this theorem shows
that shape; `load_features` alone (its right-hand side is `transpose021 (feat3 a)`) does not tell. -/
theorem load_features_entries (d : Dir) (nt : Nat) (s : Sparse) (h : loadFeatures d nt = .ok (some s))
    (a : Arr) (ha : d.lookup "pc_features.npy" = some a) (n p q : Nat) (hs : a.shape = [n, p, q])
    (hn : n ≠ 1) (hp : p ≠ 1) (hq : q ≠ 1) (hl : a.data.length = n * (p * q)) :
    s.data.shape = [n, q, p] ∧
    ∀ i j k, i < n → j < p → k < q →
      s.data.data[i * (q * p) + (k * p + j)]? = a.data[i * (p * q) + (j * q + k)]? :=
  Lemmas.loadFeatures_entries d nt s h a ha n p q hs hn hp hq hl

/-- the hypotheses are met by a `(2, 2, 3)` file … -/
example : (match loadFeatures [("pc_features.npy", ⟨[2, 2, 3], (List.range 12).map fun (i : Nat) => .num (i : Int)⟩)] 2 with
    | .ok (some s) => (s.data.shape, s.data.data.map cellInt) | _ => ([], [])) =
    ([2, 3, 2], [0, 3, 1, 4, 2, 5, 6, 9, 7, 10, 8, 11]) := by decide +kernel
/-- … and NOT by one component per channel: a `(4, 1, 2)` file is shown with shape `(4, 1, 2)`, not `(4, 2, 1)`
(excluded by `hp`; what the code at model.py:793-795 does, not what the table says) -/
example : (match loadFeatures [("pc_features.npy", ⟨[4, 1, 2], (List.range 8).map fun (i : Nat) => .num (i : Int)⟩)] 2 with
    | .ok (some s) => s.data.shape | _ => []) = [4, 1, 2] := by decide +kernel

/-- … and no features are shown only when the file is absent -/
theorem load_features_absent (d : Dir) (nt : Nat) (h : loadFeatures d nt = .ok none) :
    "pc_features.npy" ∉ names d :=
  Lemmas.loadFeatures_none d nt h

/-- Template features: `template_features.npy` squeezed (memory-mapped, not scrubbed), 2-D, with the
optional tables `template_feature_ind.npy` `(nt, nloc)` and `template_feature_spike_ids.npy`. -/
theorem load_template_features (d : Dir) (nt : Nat) (s : Sparse) (h : loadTemplateFeatures d nt = .ok (some s)) :
    ∃ a, d.lookup "template_features.npy" = some a ∧ (squeeze a).shape.length = 2 ∧
      s.data = squeeze a ∧
      Row d ["template_feature_ind.npy"] (fun c => squeeze (scrub c)) s.cols ∧
      (∀ c, s.cols = some c → c.shape = [nt, (s.data.shape.drop 1).headD 0]) ∧
      Row d ["template_feature_spike_ids.npy"] (fun r => squeeze (scrub r)) s.rows ∧
      (∀ r, s.rows = some r → r.shape = [s.data.shape.headD 0]) :=
  Lemmas.loadTemplateFeatures_some d nt s h

/-- the files created while loading do not change what the feature tables are read from: any
literal name other than the two created ones reads the same in `d'` as in `d` -/
theorem features_frame (inv : Arr → Arr) {one : Cell} (d : Dir) (v : View) (d' : Dir) (h : load inv d one = .ok (v, d'))
    (name : String) (hn : ∀ g ∈ Lemmas.createdNames, globMatch name g = false) :
    readFile d' [name] = readFile d [name] :=
  Lemmas.readFile_features_frame inv d v d' h name hn

/-! Non-vacuity -/
example :
    let d : Dir := [("spike_times.npy", ⟨[3, 1], [.num 1, .num 4, .num 4]⟩), ("spike_templates.npy", ⟨[3], [.num 0, .num 1, .num 0]⟩),
                    ("channel_map.npy", ⟨[2], [.num 0, .num 1]⟩), ("channel_positions.npy", ⟨[2, 2], [.num 0, .num 0, .num 0, .num 1]⟩),
                    ("amplitudes.npy", ⟨[3, 1], [.num 1, .nan, .inf]⟩)]
    (match load id d with
     | .ok (v, d') => (v.amplitudes, d'.map (·.1), v.spikeClusters == v.spikeTemplates)
     | .error _ => (none, [], false)) =
    (some ⟨[3], [.num 1, .num 0, .num 0]⟩,
     ["spike_times.npy", "spike_templates.npy", "channel_map.npy", "channel_positions.npy", "amplitudes.npy",
      "spike_clusters.npy", "whitening_mat_inv.npy"], true) := by decide +kernel
example : findPath [("spikes.amps.npy", ⟨[], []⟩), ("amplitudes.npy", ⟨[], []⟩)] ["amplitudes.npy", "spikes.amps*.npy"]
    = some "amplitudes.npy" := by decide +kernel
example :
    load id [("spike_times.npy", ⟨[2], [.num 1, .num 4]⟩), ("spike_templates.npy", ⟨[2], [.num 0, .num 1]⟩),
             ("spikes.clusters.npy", ⟨[2], [.num 0, .num 1]⟩), ("spike_clusters.npy", ⟨[2], [.num 0, .num 1]⟩),
             ("channel_map.npy", ⟨[1], [.num 0]⟩), ("channel_positions.npy", ⟨[1, 2], [.num 0, .num 0]⟩)]
      = .error (.conflict "spike clusters") := eq_error_of_decide _ _ (by decide +kernel)

/-! Non-vacuity of the table theorems and of `loadFull` -/

example : Wins exAlf Attr.amplitudes.files "amplitudes.npy" :=
  ⟨0, Nat.zero_lt_succ _, by decide +kernel⟩
example : Wins exAlf Attr.templates.files "templates.waveforms.p0.npy" :=
  ⟨2, by decide, by decide +kernel⟩
example : Absent exAlf Attr.wm.files := by decide +kernel
example : GlobUnique exAlf ["spikes.times*.npy"] := by decide +kernel

example : exShow (fun r => (r.1.spikeTimes, r.1.spikeSamples, r.1.base.amplitudes, r.1.base.templates.map (·.data))) =
    some ([1/2, 3/2, 5/2], [500, 1500, 2500], some ⟨[3], [.num 1, .num 0, .num 0]⟩,
          some [.num 0, .num 0, .num 0, .num 0, .num 1, .nan, .num 3, .num 4]) := by
  rw [exShow_eq]
  rfl
example : exShow (fun r => (r.1.positions, r.1.wm.data, r.1.spikeAttributes)) =
    some (.linear 2, [.num 4, .num 0, .num 0, .num 4], [("depth", ⟨[3], [.num 7, .num 0, .num 8]⟩)]) := by
  rw [exShow_eq]
  rfl
example : exShow (fun r => (r.1.nSamples, r.1.duration,
      r.1.traces.bind fun tr => tracesGet exRaw tr (.slice (some 1) none))) =
    some (some 3, 3/1000, some [[12, 10], [22, 20]]) := by
  rw [exShow_eq]
  decide +kernel
example : exShow (fun r => r.2.map (·.1)) =
    some (["spikes.times.p0.npy", "spikes.templates.p0.npy", "spikes.amps.p0.npy", "amplitudes.npy",
       "channels.rawInd.npy", "channels.localCoordinates.npy", "templates.waveforms.p0.npy",
       "spike_depth.npy", "spike_wrong.npy", "spike_clusters.npy", "whitening_mat_inv.npy"]) := by
  rw [exShow_eq]
  rfl

-- `wmi_default` / `load_wmi` on `exAlf` (no whitening matrix, no inverse, two channels, `inv := id` as the inverse of the
-- identity): the model holds and WRITES the identity `(2, 2)` …
example : Attr.wmi.files = ["whitening_mat_inv.npy"] ∧ exAlf.lookup "whitening_mat_inv.npy" = none := by decide +kernel
example : exShow (fun r => (r.1.base.wmi, r.1.wmi, r.2.lookup "whitening_mat_inv.npy")) =
    some (none, ⟨[2, 2], [.num 4, .num 0, .num 0, .num 4]⟩, some ⟨[2, 2], [.num 4, .num 0, .num 0, .num 4]⟩) := by
  rw [exShow_eq]
  decide +kernel
-- … and a SECOND session on the directory the first one left loads (the `(nc, nc)` check passes on the written file),
-- shows the same inverse as a stored one, and creates nothing more
example : (exShow fun r => match loadFull (β := Nat) id 1000 2 3 (.num 4) (some exRaw) r.2 with
      | .ok r2 => some (r2.1.base.wmi, r2.1.wmi == r.1.wmi, r2.2 == r.2, r2.1.spikeTimes == r.1.spikeTimes)
      | .error _ => none) =
    some (some (some ⟨[2, 2], [.num 4, .num 0, .num 0, .num 4]⟩, true, true, true)) := by
  rw [exShow_eq, exReload_eq]
  decide +kernel

example : [1/2, 3/2, 5/2, 7/2, -1/2, -3/2, 7/4, 2].map roundHalfEven = [0, 2, 2, 4, 0, -2, 2, 2] := by
  decide +kernel
example : linearPositions 3 = [[0, 0], [0, 1/2], [0, 1]] := by decide +kernel

/-- hypotheses of `load_rejects_nonmonotone_alf` on a concrete directory -/
example :
    let d : Dir := [("spikes.times.npy", ⟨[3], [.num 1, .nan, .num 2]⟩), ("spikes.templates.npy", ⟨[3], [.num 0, .num 1, .num 0]⟩)]
    "spike_times.npy" ∉ names d ∧ GlobUnique d ["spikes.times*.npy"] ∧
    d.lookup "spikes.times.npy" = some ⟨[3], [.num 1, .nan, .num 2]⟩ ∧
    monotone (scrub ⟨[3], [.num 1, .nan, .num 2]⟩).data = false ∧
    (match load id d with | .error .nonMonotone => true | _ => false) = true := by
  decide +kernel
example : Wins [("spikes.times.npy", ⟨[3], [.num 1, .nan, .num 2]⟩)] ["spikes.times*.npy"] "spikes.times.npy" :=
  ⟨0, Nat.zero_lt_succ _, by decide +kernel⟩
example : C01.InDom exRaw.flatten.length (.slice (some 1) none) := by
  unfold C01.InDom; refine ⟨?_, ?_, ?_⟩ <;> decide +kernel
/-- an extra attribute file holding ONE value (0-d after the squeeze) is an attribute of the wrong length: not shown,
the others are -/
example : (match loadSpikeAttributes 3 [("spike_x.npy", ⟨[1], [.num 5]⟩), ("spike_y.npy", ⟨[1, 1], [.num 5]⟩),
      ("spike_z.npy", ⟨[3, 1], [.num 5, .num 6, .num 7]⟩)] with
    | .ok l => l.map (·.1) | _ => ["?"]) = ["z"] := by decide +kernel
/-- only the EXACT reserved names are the loader's own files (`n in SKIP_SPIKE_ATTRS`, model.py:531): a name that
extends a reserved name (`times_sec`), is a proper prefix of one (`time`) or ends with one (`raw_samples`) is an
attribute like any other; `spike_times_reordered.npy` and `spike_samples.npy` are not -/
example : (match loadSpikeAttributes 2 [("spike_times_sec.npy", ⟨[2], [.num 1, .num 2]⟩),
      ("spike_times_reordered.npy", ⟨[2], [.num 3, .num 4]⟩), ("spike_time.npy", ⟨[2, 1], [.num 5, .num 6]⟩),
      ("spike_samples.npy", ⟨[2], [.num 7, .num 8]⟩), ("spike_raw_samples.npy", ⟨[2], [.num 9, .nan]⟩)] with
    | .ok l => l.map (fun p => (p.1, p.2.data)) | _ => []) =
    [("times_sec", [.num 1, .num 2]), ("time", [.num 5, .num 6]), ("raw_samples", [.num 9, .num 0])] := by decide +kernel
example : "times_sec" ∉ skipSpikeAttrs ∧ "time" ∉ skipSpikeAttrs ∧ "times_reordered" ∈ skipSpikeAttrs := by decide +kernel

example : transpose021 ⟨[1, 2, 3], [.num 0, .num 1, .num 2, .num 3, .num 4, .num 5]⟩ =
    ⟨[1, 3, 2], [.num 0, .num 3, .num 1, .num 4, .num 2, .num 5]⟩ := by decide +kernel
example :
    (match loadFeatures [("pc_features.npy", ⟨[2, 2, 3], [.num 0, .nan, .num 2, .num 3, .num 4, .num 5,
                                                          .num 6, .num 7, .num 8, .num 9, .inf, .num 11]⟩),
                         ("pc_feature_ind.npy", ⟨[2, 3], [.num 0, .num 1, .num 2, .num 2, .num 1, .num 0]⟩),
                         ("pc_feature_spike_ids.npy", ⟨[2, 1], [.num 4, .num 9]⟩)] 2 with
     | .ok (some s) => some (s.data, s.cols.map (·.shape), s.rows)
     | _ => none) =
    some (⟨[2, 3, 2], [.num 0, .num 3, .nan, .num 4, .num 2, .num 5, .num 6, .num 9, .num 7, .inf, .num 8, .num 11]⟩,
          some [2, 3], some ⟨[2], [.num 4, .num 9]⟩) := by decide +kernel

/-- hypotheses of `load_requires_mandatory`: a directory without any channel map -/
example : Attr.channelMap.mandatory = true ∧ Absent exAlf Attr.spikeClusters.files ∧
    Absent [("spike_times.npy", (⟨[2], [.num 1, .num 2]⟩ : Arr)), ("spike_templates.npy", ⟨[2], [.num 0, .num 1]⟩)]
      Attr.channelMap.files := by decide +kernel
example : NonDecreasing [1, 3, 3, 7] ∧ monotone ([1, 3, 3, 7].map Cell.num) = true ∧
    monotone ([1, 3, 2].map Cell.num) = false :=
  ⟨(monotone_spec [1, 3, 3, 7]).1 (by decide +kernel), by decide +kernel, by decide +kernel⟩
example : roundHalfEven ((62 : Int) / (1000 : Rat) * 1000) = 62 ∧ roundHalfEven ((1 : Rat) / 16 * 1000) = 62 := by
  decide +kernel
/-- a dataset without templates (and without curation) loads; `n_templates` is the highest id + 1 -/
example :
    (match loadFull (β := Nat) id 1000 1 0 (.num 4) none
        [("spike_times.npy", ⟨[3], [.num 1, .num 2, .num 5]⟩), ("spike_templates.npy", ⟨[3], [.num 0, .num 2, .num 0]⟩),
         ("channel_map.npy", ⟨[2], [.num 0, .num 1]⟩), ("channel_positions.npy", ⟨[2, 2], [.num 0, .num 0, .num 0, .num 1]⟩)] with
     | .ok (fv, _) => some (fv.base.templates, fv.nTemplates, fv.similar.shape, fv.duration)
     | .error _ => none) = some (none, 3, [3, 3], 5 / 1000) := by decide +kernel
example :
    (match loadTemplateFeatures [("template_features.npy", ⟨[2, 2], [.num 1, .nan, .num 3, .num 4]⟩),
                                 ("template_feature_spike_ids.npy", ⟨[2], [.num 0, .num 5]⟩)] 3 with
     | .ok (some s) => some (s.data.data, s.cols, s.rows)
     | _ => none) = some ([.num 1, .nan, .num 3, .num 4], none, some ⟨[2], [.num 0, .num 5]⟩) := by decide +kernel
/-- `wmi_default` on a concrete directory: a load with `inv` = "double every cell" writes the doubled matrix the view shows -/
example :
    (match load (fun w => ⟨w.shape, w.data.map fun c => match c with | .num i => .num (2 * i) | c => c⟩)
        [("spike_times.npy", ⟨[3], [.num 1, .num 2, .num 5]⟩), ("spike_templates.npy", ⟨[3], [.num 0, .num 1, .num 0]⟩),
         ("channel_map.npy", ⟨[2], [.num 0, .num 1]⟩), ("channel_positions.npy", ⟨[2, 2], [.num 0, .num 0, .num 0, .num 1]⟩),
         ("whitening_mat.npy", ⟨[2, 2], [.num 4, .nan, .num 0, .num 8]⟩)] with
     | .ok (v, d') => some (v.wmi, v.wm.map (·.data), (d'.lookup "whitening_mat_inv.npy").map (·.data))
     | .error _ => none) =
    some (none, some [.num 4, .num 0, .num 0, .num 8], some [.num 8, .num 0, .num 0, .num 16]) := by decide +kernel
/-- hypothesis of `features_frame` for the six feature files -/
example : ∀ name ∈ ["pc_features.npy", "pc_feature_ind.npy", "pc_feature_spike_ids.npy", "template_features.npy",
      "template_feature_ind.npy", "template_feature_spike_ids.npy"],
    ∀ g ∈ Lemmas.createdNames, globMatch name g = false := by decide +kernel

/-! ## The directory in EVERY outcome (`loadAny`), derived ids, entry-level helpers -/

/-- **load_frame_any_outcome** ("leaves every pre-existing file byte-identical, and creates nothing except the
spike-cluster copy and the inverse whitening matrix when those are missing" — ALSO when the load rejects or fails): for
every directory, every set of refused dtypes and whatever the outcome of `loadAny` (success, non-monotonic times, two
cluster files, missing file, empty train, refused dtype), with `d'` the directory it leaves: every pre-existing file is
unchanged; every name of `d'` is a name of `d` or one of the two; a `spike_clusters.npy` that appeared was missing under
both names and holds the contents of the winning spike-template file; `whitening_mat_inv.npy` is new or as it was; and at
most one file per missing name was added. -/
theorem load_frame_any_outcome (inv : Arr → Arr) (bad : List String) (d : Dir) :
    let d' := (loadAny inv bad d one).2
    (∀ name a, d.lookup name = some a → d'.lookup name = some a) ∧
    (∀ name ∈ d'.map (·.1), name ∈ d.map (·.1) ∨ name = "spike_clusters.npy" ∨ name = "whitening_mat_inv.npy") ∧
    ("spike_clusters.npy" ∉ d.map (·.1) → "spike_clusters.npy" ∈ d'.map (·.1) →
      findPath d ["spike_clusters.npy", "spikes.clusters*.npy"] = none ∧
      ∃ f, findPath d ["spike_templates.npy", "spikes.templates*.npy"] = some f ∧
        d'.lookup "spike_clusters.npy" = d.lookup f) ∧
    ("whitening_mat_inv.npy" ∉ d.map (·.1) ∨ d'.lookup "whitening_mat_inv.npy" = d.lookup "whitening_mat_inv.npy") ∧
    d'.length ≤ d.length +
      (if findPath d ["spike_clusters.npy", "spikes.clusters*.npy"] = none then 1 else 0) +
      (if d.lookup "whitening_mat_inv.npy" = none then 1 else 0) :=
  Lemmas.frame_of_added d _ (Lemmas.loadAny_added inv bad d)

/-- **load_rejection_leaves_directory**: the rejections the statement names (non-monotonic spike times) and every other
failure that `_load_data` raises before model.py:373 (no spike-time / spike-template file, two cluster files, an empty
spike train, a refused spike-template dtype) leave the directory EXACTLY as it was (nothing created at all).  A missing
channel map / positions file and a refused channel-map / template dtype are detected after `_load_spike_clusters` has
made its copy: `load_frame_any_outcome` applies, the `example` below shows the copy left behind (real code: the same). -/
theorem load_rejection_leaves_directory (inv : Arr → Arr) {one : Cell} (bad : List String) (d : Dir) (e : AnyErr)
    (h : (loadAny inv bad d one).1 = .error e) (he : e.early = true) : (loadAny inv bad d one).2 = d :=
  Lemmas.loadAny_early_unchanged inv bad d e h he

/-- **loadAny_is_load**: a successful `loadAny` IS a successful `load` with the same view and directory (all theorems about
`load` / `loadFull` apply to it), and it has at least one spike (the loader refuses an empty spike train: `np.max` of an
empty array, model.py:608, ValueError — so `spike_times[-1]` of `load_duration` exists). -/
theorem loadAny_is_load (inv : Arr → Arr) {one : Cell} (bad : List String) (d : Dir) (v : View) (d' : Dir)
    (h : loadAny inv bad d one = (.ok v, d')) : load inv d one = .ok (v, d') ∧ v.spikeTemplates.data ≠ [] :=
  Lemmas.loadAny_ok inv bad d v d' h

example : AnyErr.early (.load .nonMonotone) = true ∧ AnyErr.early (.load (.conflict "spike clusters")) = true ∧
    AnyErr.early (.load (.missing "channel map")) = false ∧ AnyErr.early (.dtype "channel map") = false := by decide +kernel

/-- non-monotonic → directory untouched; missing channel positions → the cluster copy is left behind; a refused channel-map
dtype likewise; an empty train is refused before anything is created -/
example : exAny [] (("spike_times.npy", ⟨[2], [.num 4, .num 1]⟩) :: exBase) =
    (some (.load .nonMonotone), ["spike_times.npy", "spike_templates.npy", "channel_map.npy"]) := by decide +kernel
example : exAny [] (("spike_times.npy", ⟨[2], [.num 1, .num 4]⟩) :: exBase) =
    (some (.load (.missing "channel positions")),
     ["spike_times.npy", "spike_templates.npy", "channel_map.npy", "spike_clusters.npy"]) := by decide +kernel
example : exAny ["channel_map"] (("spike_times.npy", ⟨[2], [.num 1, .num 4]⟩) :: exBase) =
    (some (.dtype "channel map"), ["spike_times.npy", "spike_templates.npy", "channel_map.npy", "spike_clusters.npy"]) := by
  decide +kernel
example : exAny [] [("spike_times.npy", ⟨[0], []⟩), ("spike_templates.npy", ⟨[0], []⟩)] =
    (some .emptyTrain, ["spike_times.npy", "spike_templates.npy"]) := by decide +kernel

/-- **load_ids** (`template_ids`, `cluster_ids`, `probes`, `n_probes` — attributes `_load_data` derives with `np.unique`
from loaded arrays, model.py:370, 377, 405-406; composition with C07's `unique_spec`), for a LOADED model `fv`: each list
is strictly increasing and an integer is listed iff it occurs in the loaded spike templates / spike clusters / channel
probes — the probes WITH their default (zeros `(nc,)`, model.py:566, when no file exists: third conjunct).
`hnn`: the ids are non-negative (the model's `uniqueIds` lists only the non-negative values, the real `np.unique` lists a
negative one as well: outside `hnn` the two differ; real datasets count ids from 0 or store them unsigned).
`n_probes = len(probes)` (model.py:406) is the definition `FullView.nProbes` and is not restated. -/
theorem load_ids {β : Type} (inv : Arr → Arr) (rate : Rat) (tden ncd : Nat) (one : Cell)
    (raw : Option (List (List (List β)))) (d : Dir) (fv : FullView β) (d' : Dir)
    (h : loadFull inv rate tden ncd one raw d = .ok (fv, d'))
    (hnn : ∀ c ∈ fv.base.spikeTemplates.data ++ fv.base.spikeClusters.data ++ fv.channelProbes.data, 0 ≤ cellInt c) :
    IsIdSetOf fv.base.templateIds fv.base.spikeTemplates.data ∧
    IsIdSetOf fv.base.clusterIds fv.base.spikeClusters.data ∧
    fv.channelProbes = fv.base.channelProbes.getD (zerosVec (fv.base.channelMap.shape.headD 0)) ∧
    IsIdSetOf fv.probes fv.channelProbes.data :=
  Lemmas.loadFull_ids inv rate tden ncd one raw d fv d' h hnn

-- `exAlf` (loaded by `exShow`) meets `hnn`, has no probe file (default zeros) and two templates
example : exShow (fun r => ((r.1.base.spikeTemplates.data ++ r.1.base.spikeClusters.data ++ r.1.channelProbes.data).all
      (fun c => decide (0 ≤ cellInt c)), r.1.base.templateIds, r.1.base.clusterIds, r.1.probes, r.1.nProbes)) =
    some (true, [0, 1], [0, 1], [0], 1) := by
  rw [exShow_eq]
  decide +kernel
-- outside `hnn` the model's list is not `np.unique` (which returns [-2, 0, 3]): the hypothesis is needed
example : uniqueIds ⟨[3], [.num 3, .num (-2), .num 0]⟩ = [0, 3] := by decide +kernel
example : uniqueIds ⟨[5], [.num 3, .num 0, .num 3, .num 7, .num 0]⟩ = [0, 3, 7] := by decide +kernel

/-- **load_duration_last** (`load_duration` without its `getD` default): without raw data the duration of a loaded model
with at least one spike is its LAST spike time … -/
theorem load_duration_last {β : Type} (inv : Arr → Arr) (rate : Rat) (tden ncd : Nat) (one : Cell)
    (d : Dir) (fv : FullView β) (d' : Dir)
    (h : loadFull inv rate tden ncd one none d = .ok (fv, d')) (hne : fv.spikeTimes ≠ []) :
    fv.duration = fv.spikeTimes.getLast hne :=
  Lemmas.loadFull_duration_last inv rate tden ncd one d fv d' h hne

/-- … and a model loaded by `loadAny` HAS at least one spike time: the loader refuses an empty train (model.py:608) before
it reaches `self.spike_times[-1]` (model.py:459).  `hwf`: the spike-time and spike-template vectors hold as many cells as
each other (both have shape `(ns,)` by `load_shapes`; a NumPy array holds as many cells as its shape says). -/
theorem load_times_nonempty {β : Type} (inv : Arr → Arr) (bad : List String) (rate : Rat) (tden ncd : Nat) (one : Cell)
    (raw : Option (List (List (List β)))) (d : Dir) (fv : FullView β) (d' : Dir)
    (h : loadFull inv rate tden ncd one raw d = .ok (fv, d'))
    (hany : loadAny inv bad d one = (.ok fv.base, d'))
    (hwf : fv.base.times.arr.data.length = fv.base.spikeTemplates.data.length) : fv.spikeTimes ≠ [] :=
  Lemmas.loadAny_nonempty_times inv bad rate tden ncd one raw d fv d' h hany hwf

/-! ### what the helpers on the right-hand sides of `load_values` / `load_features` do, by entries -/

/-- `np.atleast_1d/2d/3d`: the cells are kept; dimensions other than 1 are kept in order; an array that already has `k`
dimensions is unchanged; a vector becomes a ROW `(1, n)` (2d) or `(1, n, 1)` (3d), a matrix `(m, n)` becomes `(m, n, 1)`
(templates with one local channel), a 0-d array `(1,)`, `(1, 1)`, `(1, 1, 1)`. -/
theorem atleast_spec (k : Nat) (a : Arr) :
    (atleast k a).data = a.data ∧
    ((atleast k a).shape.filter (· != 1) = a.shape.filter (· != 1)) ∧
    (k ≤ a.shape.length → atleast k a = a) ∧
    (a.shape = [] → (atleast 1 a).shape = [1] ∧ (atleast 2 a).shape = [1, 1] ∧ (atleast 3 a).shape = [1, 1, 1]) ∧
    (∀ n, a.shape = [n] → (atleast 2 a).shape = [1, n] ∧ (atleast 3 a).shape = [1, n, 1]) ∧
    (∀ m n, a.shape = [m, n] → (atleast 3 a).shape = [m, n, 1]) :=
  ⟨Lemmas.atleast_data k a, Lemmas.atleast_shape k a⟩

/-- `cols = np.atleast_2d(cols).T` for a column table that is not 2-D (model.py:728-729): cells kept, a vector `(n,)`
becomes a COLUMN `(n, 1)` (entry `(i, 0)` is cell `i`), a 2-D table is unchanged -/
theorem colsFix_spec (a : Arr) :
    (colsFix a).data = a.data ∧ (∀ n, a.shape = [n] → (colsFix a).shape = [n, 1]) ∧
    (a.shape.length = 2 → colsFix a = a) ∧ (colsFix a).shape.filter (· != 1) = a.shape.filter (· != 1) :=
  Lemmas.colsFix_spec a

/-- the feature column table (model.py:804-810): cells kept; a stored `(nt, nloc)` table without a size-1 dimension is
shown as stored; a stored `(nt,)` or `(nt, 1)` table (one local channel) as the column `(nt, 1)` -/
theorem featCols_spec (c : Arr) :
    (featCols c).data = c.data ∧
    (∀ nt nloc, c.shape = [nt, nloc] → nt ≠ 1 → nloc ≠ 1 → featCols c = c) ∧
    (∀ nt, nt ≠ 1 → (c.shape = [nt] ∨ c.shape = [nt, 1]) → (featCols c).shape = [nt, 1]) :=
  Lemmas.featCols_spec c

/-- `data[empty_templates, ...] = 0` (model.py:714-715) by entries: cell `j` of template `t` is shown as 0 when EVERY cell
of template `t` is NaN, and as stored otherwise (a template with a single finite cell keeps all its NaNs; the array is
memory-mapped, nothing else is scrubbed) -/
theorem zeroNanTemplates_spec (a : Arr) (nt ns nc : Nat) (hs : a.shape = [nt, ns, nc])
    (hl : a.data.length = nt * (ns * nc)) :
    (zeroNanTemplates a).shape = a.shape ∧
    ∀ t j, t < nt → j < ns * nc →
      (zeroNanTemplates a).data[t * (ns * nc) + j]? =
        if (∀ j', j' < ns * nc → a.data[t * (ns * nc) + j']? = some Cell.nan) then some (.num 0)
        else a.data[t * (ns * nc) + j]? :=
  Lemmas.zeroNanTemplates_spec a nt ns nc hs hl

example : (zeroNanTemplates ⟨[2, 1, 2], [.nan, .nan, .nan, .num 3]⟩).data = [.num 0, .num 0, .nan, .num 3] := by decide +kernel
example : (atleast 3 ⟨[2, 3], []⟩).shape = [2, 3, 1] ∧ (colsFix ⟨[3], []⟩).shape = [3, 1] ∧
    (featCols ⟨[3, 1], []⟩).shape = [3, 1] ∧ featCols ⟨[3, 2], []⟩ = ⟨[3, 2], []⟩ := by decide +kernel

end PhyVerif.C04
