import PhyVerif.Model.C15
import PhyVerif.Spec.C15
import PhyVerif.Lemmas.C15
import PhyVerif.Model.C15b
import PhyVerif.Spec.C15b
import PhyVerif.Lemmas.C15b
import PhyVerif.Spec.C07
import PhyVerif.Model.Fl
import PhyVerif.Lemmas.Fl
import PhyVerif.Model.C15c
import PhyVerif.Spec.C15c
import PhyVerif.Lemmas.C15c
import PhyVerif.Lemmas.C15d
/-!
# C15 — correlograms count exactly the spike pairs in each lag bin
Only property theorems + non-vacuity examples; proofs in `Lemmas/C15.lean`, `C15b`, `C15c`, `C15d`.
-/
namespace PhyVerif.C15

/-- Core: for non-decreasing samples and a positive bin, the number of increments the shift loop
(shrinking mask, early exit) performs at (i, j, k) equals the number of pairs a < b with a in
cluster i, b in cluster j, floor((t_b - t_a)/bin) = k ≤ half.  Unbounded in the number of
spikes, for every labelling. -/
theorem ccg_eq_paircount (x : Inp) (hs : Sorted x) (hb : 0 < x.bin) (i j : Nat) (k : Int) :
    (ccg x).count (i, j, k) = pairCount x i j k :=
  Lemmas.ccg_eq_paircount x hs hb i j k

/-- List level, caller's cluster order (any order, ids without spikes allowed): the returned
one-sided array is exactly the pair-count array. -/
theorem correlograms_eq_spec (t : List Int) (sc : List Int) (ids : List Nat) (bin : Int) (half : Nat)
    (hsorted : t.Pairwise (· ≤ ·)) (hb : 0 < bin) (hlen : sc.length = t.length)
    (hdom : InDom sc ids) :
    correlograms t sc ids bin half = some (specCcg t sc ids bin half) :=
  Lemmas.correlograms_eq_spec t sc ids bin half hsorted hb hlen hdom

/-- symmetrised array has 2*half+1 bins -/
theorem sym_shape (c : List (List (List Nat))) (nc h : Nat) (hc : Shape3 c nc (h + 1)) :
    Shape3 (symmetrize c) nc (2 * h + 1) :=
  Lemmas.sym_shape c nc h hc

/-- positive lags reproduce the one-sided counts -/
theorem sym_positive (c : List (List (List Nat))) (nc h : Nat) (hc : Shape3 c nc (h + 1))
    (i j k : Nat) (hi : i < nc) (hj : j < nc) (hk1 : 1 ≤ k) (hk : k ≤ h) :
    get3 (symmetrize c) i j (h + k) = get3 c i j k :=
  Lemmas.sym_positive c nc h hc i j k hi hj hk1 hk

/-- the centre bin is the larger of the two one-sided zero-lag counts -/
theorem sym_centre (c : List (List (List Nat))) (nc h : Nat) (hc : Shape3 c nc (h + 1))
    (i j : Nat) (hi : i < nc) (hj : j < nc) :
    get3 (symmetrize c) i j h = max (get3 c i j 0) (get3 c j i 0) :=
  Lemmas.sym_centre c nc h hc i j hi hj

/-- C[i,j,k] = C[j,i,-k] (bin index h+k ↔ h-k) -/
theorem sym_reflect (c : List (List (List Nat))) (nc h : Nat) (hc : Shape3 c nc (h + 1))
    (i j k : Nat) (hi : i < nc) (hj : j < nc) (hk : k ≤ h) :
    get3 (symmetrize c) i j (h + k) = get3 (symmetrize c) j i (h - k) :=
  Lemmas.sym_reflect c nc h hc i j k hi hj hk

/-- firing-rate normaliser (integer part): outer product of per-cluster spike counts in the
caller's order, zero rows/columns for ids without spikes -/
theorem firing_outer (sc : List Int) (ids : List Nat) (hdom : InDom sc ids) :
    firingCounts sc ids = some (specFiring sc ids) :=
  Lemmas.firing_outer sc ids hdom

/-! Non-vacuity -/
example : correlograms [0, 0, 1, 3, 4] [7, 2, 7, 2, 7] [7, 5, 2] 2 1 =
    some (specCcg [0, 0, 1, 3, 4] [7, 2, 7, 2, 7] [7, 5, 2] 2 1) := by decide +kernel
example : specCcg [0, 0, 1, 3, 4] [7, 2, 7, 2, 7] [7, 5, 2] 2 1 =
    [[[1, 1], [0, 0], [1, 2]], [[0, 0], [0, 0], [0, 0]], [[2, 0], [0, 0], [0, 1]]] := by decide +kernel
example : InDom [7, 2, 7, 2, 7] [7, 5, 2] := by unfold InDom; decide +kernel
example : symmetrize [[[1, 2], [1, 1]], [[2, 0], [0, 1]]] =
    [[[2, 1, 2], [0, 2, 1]], [[1, 2, 0], [1, 0, 1]]] := by decide +kernel


/-! ## Second part (`Model/C15b.lean`): rational inputs, the helpers, the firing-rate factor, `cluster_ids=None` -/

/-- THE FIRING-RATE NORMALISER, with its factor: for distinct caller ids containing every spike's cluster and a
positive bin, `firing_rate` returns, at (i, j), `#spikes(ids[i]) · #spikes(ids[j]) · bin / duration` — the outer
product of the per-cluster spike counts times bin/duration (a duration of 0 or None counts as 1: `duration or 1.`).
`bin ≤ 0` makes the real code fail its `assert bin_size > 0` (model: `none`). -/
theorem firing_rate_eq (sc : List Int) (ids : List Nat) (bin : Rat) (dur : Option Rat)
    (hdom : InDom sc ids) (hb : 0 < bin) :
    firingRate sc (some ids) bin dur = some (specFiringRate sc ids bin dur) :=
  Lemmas.firing_rate_eq sc ids bin dur hdom hb

/-- … zero for empty clusters: the whole row and the whole column of an id without spikes vanish. -/
theorem firing_zero_of_empty (sc : List Int) (ids : List Nat) (bin : Rat) (dur : Option Rat)
    (i : Nat) (hi : i < ids.length) (he : Int.ofNat (ids.getD i 0) ∉ sc) (j : Nat) (hj : j < ids.length) :
    ((specFiringRate sc ids bin dur).getD i []).getD j 0 = 0 ∧
    ((specFiringRate sc ids bin dur).getD j []).getD i 0 = 0 :=
  Lemmas.firing_zero_of_empty sc ids bin dur i hi he j hj

/-- … the same about what `firing_rate` RETURNS (the model of the code, not only the specification): for distinct caller
ids containing every label and a positive bin, the call succeeds and the row and the column of an id without spikes are
zero -/
theorem firing_zero_of_empty_model (sc : List Int) (ids : List Nat) (bin : Rat) (dur : Option Rat)
    (hdom : InDom sc ids) (hb : 0 < bin)
    (i : Nat) (hi : i < ids.length) (he : Int.ofNat (ids.getD i 0) ∉ sc) (j : Nat) (hj : j < ids.length) :
    ∃ m, firingRate sc (some ids) bin dur = some m ∧ (m.getD i []).getD j 0 = 0 ∧ (m.getD j []).getD i 0 = 0 :=
  Lemmas.firing_zero_of_empty_model sc ids bin dur hdom hb i hi he j hj

/-- `cluster_ids=None`: the ids are `_unique(spike_clusters)` — strictly increasing, exactly the labels in use —
and for non-negative labels they are in the domain of every theorem above.  (A negative label, e.g. -1 for
"unclustered", is dropped by `_unique` and then makes `correlograms` raise ValueError in `ravel_multi_index` and
`firing_rate` raise ValueError in `bincount`: observed on the real code, outside the quantifier.) -/
theorem default_ids (sc : List Int) :
    idsOr sc none = Np.unique sc ∧ C07.IsSortedSetOf (Np.unique sc) (fun v => Int.ofNat v ∈ sc) ∧
    ((∀ c ∈ sc, 0 ≤ c) → InDom sc (Np.unique sc)) :=
  ⟨rfl, C07.Lemmas.unique_spec sc, Lemmas.unique_inDom sc⟩

/-- … so the firing rate with `cluster_ids=None` is the normaliser over the sorted distinct labels -/
theorem firing_rate_default_ids (sc : List Int) (bin : Rat) (dur : Option Rat) (h : ∀ c ∈ sc, 0 ≤ c) (hb : 0 < bin) :
    firingRate sc none bin dur = some (specFiringRate sc (Np.unique sc) bin dur) :=
  Lemmas.firing_rate_eq sc (Np.unique sc) bin dur (Lemmas.unique_inDom sc h) hb

/-- `_increment(arr, indices)` with every index inside the array adds to each cell the number of times its
index occurs (repeated indices count).  An index beyond the array makes the real helper raise ValueError
(model: `none`), except the broadcasting corner `_increment([], [0]) = []`. -/
theorem increment_spec (arr idx : List Nat) (h : ∀ i ∈ idx, i < arr.length) :
    ∃ r, increment arr idx = some r ∧ r.length = arr.length ∧
      ∀ p, r.getD p 0 = arr.getD p 0 + idx.count p :=
  Lemmas.increment_spec arr idx h

/-- `_diff_shifted(arr, steps)` for `steps ≤ len(arr)` (in the loop `1 ≤ steps < len`): entry a is
`arr[a+steps] - arr[a]`.  For `steps > len` the real helper raises a broadcast ValueError or returns an empty
array depending on the lengths (observed; model: `none`). -/
theorem diffShifted_spec (arr : List Int) (s : Nat) (hs : s ≤ arr.length) :
    ∃ d, diffShifted arr s = some d ∧ d.length = arr.length - s ∧
      ∀ a, a < arr.length - s → d.getD a 0 = arr.getD (a + s) 0 - arr.getD a 0 :=
  Lemmas.diffShifted_spec arr s hs

/-- `_create_correlograms_array(n, winsize_bins)`: zeros of shape `(n, n, winsize_bins // 2 + 1)` -/
theorem createArray_shape (nc : Nat) (w : Int) :
    Shape3 (createArray nc w) nc ((w / 2).toNat + 1) ∧ ∀ i j k, get3 (createArray nc w) i j k = 0 :=
  Lemmas.createArray_shape nc w

/-- WINDOW → NUMBER OF BINS.  For bin and window inside the clipping interval `[1e-5, 1e5]` s (outside, the
real code silently replaces them by the bound: e.g. rate 1 MHz, bin 2 µs, window 10 µs gives ONE bin of 10
samples — observed), `winsize_bins = 2·⌊window / (2·bin)⌋ + 1`: odd, at least 1, and the half window is
`⌊window / (2·bin)⌋` bins. -/
theorem winsize_spec (window bin : Rat) (hb1 : clipLo ≤ bin) (hb2 : bin ≤ clipHi)
    (hw1 : clipLo ≤ window) (hw2 : window ≤ clipHi) :
    0 ≤ ((1 / 2 : Rat) * window / bin).floor ∧
    winsizeBins window bin = 2 * ((1 / 2 : Rat) * window / bin).floor + 1 ∧
    halfOf window bin = ((1 / 2 : Rat) * window / bin).floor.toNat ∧
    winsizeBins window bin = 2 * (halfOf window bin : Int) + 1 :=
  Lemmas.winsize_spec window bin hb1 hb2 hw1 hw2

/-- THE COUNT ARRAY.  The loop as the code runs it — zero array from `_create_correlograms_array`, at every shift
`ravel_multi_index` of the selected (row cluster, column cluster, lag) triples and `_increment` into the flat
array — never raises on in-domain inputs and returns exactly the array `correlograms` of `Model/C15.lean` reads off
its event list (hence, by `correlograms_eq_spec`, the pair counts). -/
theorem correlogramsArr_eq (t : List Int) (sc : List Int) (ids : List Nat) (bin : Int) (half : Nat) (w : Int)
    (hw : (w / 2).toNat = half) (hsorted : t.Pairwise (· ≤ ·)) (hb : 0 < bin) (hlen : sc.length = t.length)
    (hdom : InDom sc ids) :
    correlogramsArr t sc ids bin w = correlograms t sc ids bin half :=
  Lemmas.correlogramsArr_eq t sc ids bin half w hw hsorted hb hlen hdom

/-- THE PROPERTY IN ITS OWN UNITS.  Spike times in seconds (rationals), non-decreasing; sampling rate, bin and
window such that the sample grid and the time axis agree (`GridOK`: rate > 0, bin and window within [1e-5, 1e5] s,
every `time·rate` and `rate·bin` a whole number ≥ 1 for the bin); any labelling, any duplicate-free caller list
containing the labels in use.  Then the whole call — float→sample conversions, bin size, number of bins, relabelling,
shift loop on the count array, optional symmetrisation — returns, at (i, j, k), the number of pairs a before b with
a in `ids[i]`, b in `ids[j]` and `⌊(t_b − t_a) / bin⌋ = k`, for k up to the half window `⌊window/(2·bin)⌋`
(symmetrised as `sym_*` describe when `symmetrize=True`).
Outside `GridOK`: a non-integer `rate·bin` is truncated by the code (`int(rate*bin)`), e.g. rate 1 kHz, bin 2.5 ms,
samples 0,3,5,9 give `[0,2,2]` — the counts for a 2-sample bin, not `⌊Δt/2.5 ms⌋ = [1,2,2]` (observed);
a non-integer `time·rate` is truncated toward zero; bin/window outside [1e-5, 1e5] s are clipped. -/
theorem correlogramsQ_eq (times : List Rat) (sc : List Int) (ids : List Nat) (rate bin window : Rat)
    (T : List Int) (B : Int) (g : GridOK times rate bin window T B)
    (hsorted : times.Pairwise (· ≤ ·)) (hlen : sc.length = times.length) (hdom : InDom sc ids) (sym : Bool) :
    correlogramsQ times sc (some ids) rate bin window sym =
      some (if sym then symmetrize (specSeconds times sc ids bin (halfOf window bin))
            else specSeconds times sc ids bin (halfOf window bin)) :=
  Lemmas.correlogramsQ_eq times sc ids rate bin window T B g hsorted hlen hdom sym

/-- … and with `cluster_ids=None` (non-negative labels) the same over the sorted distinct labels -/
theorem correlogramsQ_default_ids (times : List Rat) (sc : List Int) (rate bin window : Rat)
    (T : List Int) (B : Int) (g : GridOK times rate bin window T B)
    (hsorted : times.Pairwise (· ≤ ·)) (hlen : sc.length = times.length) (h : ∀ c ∈ sc, 0 ≤ c) (sym : Bool) :
    correlogramsQ times sc none rate bin window sym =
      some (if sym then symmetrize (specSeconds times sc (Np.unique sc) bin (halfOf window bin))
            else specSeconds times sc (Np.unique sc) bin (halfOf window bin)) :=
  Lemmas.correlogramsQ_eq times sc (Np.unique sc) rate bin window T B g hsorted hlen (Lemmas.unique_inDom sc h) sym

/-! Non-vacuity -/
example : firingRate [7, 2, 7] (some [7, 5, 2]) (1/2) (some 3) =
    some [[2/3, 0, 1/3], [0, 0, 0], [1/3, 0, 1/6]] := by decide +kernel
example : firingRate [7, 2, 7] none (1/2) (some 0) = some [[1/2, 1], [1, 2]] := by decide +kernel
example : increment [0, 0, 0, 0, 0] [0, 4, 4] = some [1, 0, 0, 0, 2] ∧ increment [0, 0, 0] [0, 4] = none := by decide +kernel
example : diffShifted [1, 4, 9] 1 = some [3, 5] ∧ diffShifted [1, 4, 9] 4 = none := by decide +kernel
example : winsizeBins (1/80) (1/400) = 5 ∧ halfOf (1/80) (1/400) = 2 ∧ binsizeOf 1000 (1/400) = 2 := by decide +kernel
/-- a non-integer `rate·bin` (1 kHz, bin 2.5 ms): the model reproduces the code's `[0, 2, 2]` -/
example : correlogramsQ [0, 3/1000, 5/1000, 9/1000] [0, 0, 0, 0] none 1000 (1/400) (1/80) false =
    some [[[0, 2, 2]]] := by decide +kernel
example : correlogramsQ [0, 0, 1/4, 3/4, 1] [7, 2, 7, 2, 7] (some [7, 5, 2]) 4 (1/2) (3/2) false =
    some (specSeconds [0, 0, 1/4, 3/4, 1] [7, 2, 7, 2, 7] [7, 5, 2] (1/2) 1) := by decide +kernel
example : GridOK [0, 0, 1/4, 3/4, 1] 4 (1/2) (3/2) [0, 0, 1, 3, 4] 2 where
  rate_pos := by decide +kernel
  bin_lo := by decide +kernel
  bin_hi := by decide +kernel
  win_lo := by decide +kernel
  win_hi := by decide +kernel
  len := rfl
  onGrid := by decide +kernel
  binGrid := by decide +kernel
  binPos := by decide
example : specSeconds [0, 0, 1/4, 3/4, 1] [7, 2, 7, 2, 7] [7, 5, 2] (1/2) 1 =
    [[[1, 1], [0, 0], [1, 2]], [[0, 0], [0, 0], [0, 0]], [[2, 0], [0, 0], [0, 1]]] := by decide +kernel

/-! ## Third part (`Model/C15c.lean`): the float → integer conversions as the float unit computes them -/

/-- THE WHOLE CALL ON DOUBLES.  Spike times, rate, bin and window are doubles (read as the rationals they denote);
every float operation of `correlograms` is the exact operation followed by IEEE-754 binary64 rounding
(`Fl.roundDouble`): `samples = trunc(fl(t·rate))`, `binsize = trunc(fl(rate·clip(bin)))`,
`winsize = 2·trunc(fl(fl(.5·clip(window))/clip(bin)))+1`.  For a positive rate, non-decreasing times, any labelling
and any duplicate-free caller list containing the labels in use, and a bin of at least one sample, the call
returns exactly the SAMPLE-LEVEL pair counts for THOSE integers: entry (i, j, k) = number of pairs a before b with
a in `ids[i]`, b in `ids[j]`, `⌊(s_b − s_a) / binsize⌋ = k`, k up to `winsize // 2` (symmetrised as `sym_*`
describe).  No exactness hypothesis: decimal bins/windows (0.1 s / 2 s gives 21 bins because `fl(1.0/0.1) = 10`
although the exact quotient of the two doubles is below 10), non-grid spike times, any rate.
The statement is about the MODEL and holds for all inputs (`roundDouble` is a total, monotone function): it carries no
`FlDom` hypothesis.  `FlDom` (every product/quotient zero or in the normal range of binary64,
rounded products below 2^63) is the domain on which `roundDouble` IS the hardware's result (`roundDouble_binary64`) and
`astype(int64)` is defined (`samplesOfFl_int64`); the correspondence run judges the real code only there.
Outside `FlDom`, observed on the real code: times `[0, 1e300]` at rate `1e10` — the product is `inf`, `astype(int64)`
yields INT64_MIN with a RuntimeWarning and `ravel_multi_index` raises ValueError; times `[0, 1e-320, 3e-320]` at 1 kHz —
subnormal products, all samples 0 (here the same as the model, not in general).
The real code rejects (AssertionError): rate ≤ 0, decreasing times, a bin below one sample
(`correlogramsFl_rejects`); times and labels of different lengths. -/
theorem correlogramsFl_eq_spec (times : List Rat) (sc : List Int) (ids : List Nat) (rate bin window : Rat) (sym : Bool)
    (hr : 0 < rate) (hsorted : times.Pairwise (· ≤ ·)) (hlen : sc.length = times.length) (hdom : InDom sc ids)
    (hb : 1 ≤ binsizeOfFl rate bin) :
    correlogramsFl times sc (some ids) rate bin window sym =
      some (if sym then symmetrize (specCcg (samplesOfFl rate times) sc ids (binsizeOfFl rate bin) (halfOfFl window bin))
            else specCcg (samplesOfFl rate times) sc ids (binsizeOfFl rate bin) (halfOfFl window bin)) :=
  Lemmas.correlogramsFl_eq_spec times sc ids rate bin window sym hr hsorted hlen hdom hb

/-- … with `cluster_ids=None` (non-negative labels): the same over the sorted distinct labels -/
theorem correlogramsFl_default_ids (times : List Rat) (sc : List Int) (rate bin window : Rat) (sym : Bool)
    (hr : 0 < rate) (hsorted : times.Pairwise (· ≤ ·)) (hlen : sc.length = times.length) (h : ∀ c ∈ sc, 0 ≤ c)
    (hb : 1 ≤ binsizeOfFl rate bin) :
    correlogramsFl times sc none rate bin window sym =
      some (if sym then symmetrize (specCcg (samplesOfFl rate times) sc (Np.unique sc) (binsizeOfFl rate bin) (halfOfFl window bin))
            else specCcg (samplesOfFl rate times) sc (Np.unique sc) (binsizeOfFl rate bin) (halfOfFl window bin)) :=
  Lemmas.correlogramsFl_eq_spec times sc (Np.unique sc) rate bin window sym hr hsorted hlen (Lemmas.unique_inDom sc h) hb

/-- what the driver executes: the float products once (`prodsFl`), truncated to the samples, then
`correlogramsOfInts` — the same value as `correlogramsFl` -/
theorem correlogramsFl_as_run (times : List Rat) (sc : List Int) (ids : Option (List Nat)) (rate bin window : Rat)
    (sym : Bool) :
    samplesOfFl rate times = (prodsFl rate times).map truncInt ∧
    correlogramsFl times sc ids rate bin window sym =
      correlogramsOfInts ((prodsFl rate times).map truncInt) (binsizeOfFl rate bin) (winsizeBinsFl window bin)
        times sc ids rate sym :=
  Lemmas.correlogramsFl_as_run times sc ids rate bin window sym

/-- a bin shorter than one sample (after the float product and truncation) fails `assert binsize >= 1` -/
theorem correlogramsFl_rejects (times : List Rat) (sc : List Int) (ids : Option (List Nat)) (rate bin window : Rat)
    (sym : Bool) (hb : binsizeOfFl rate bin < 1) : correlogramsFl times sc ids rate bin window sym = none :=
  Lemmas.correlogramsFl_rejects times sc ids rate bin window sym hb

/-- the spike samples keep the order of the spike times (rounding and truncation are monotone), one per spike -/
theorem samplesOfFl_sorted (rate : Rat) (times : List Rat) (hr : 0 < rate) (hs : times.Pairwise (· ≤ ·)) :
    (samplesOfFl rate times).Pairwise (· ≤ ·) ∧ (samplesOfFl rate times).length = times.length :=
  ⟨Lemmas.samplesOfFl_sorted rate times hr hs, Lemmas.samplesOfFl_length rate times⟩

/-- on `FlDom` every spike sample fits `int64` (`astype(np.int64)` is defined: the float it converts is below 2^63 in
magnitude); this is what the `2^63` clause of `FlDom` is for -/
theorem samplesOfFl_int64 (times : List Rat) (rate bin window : Rat) (h : FlDom times rate bin window) :
    ∀ s ∈ samplesOfFl rate times, -2 ^ 63 < s ∧ s < 2 ^ 63 :=
  Lemmas.samplesOfFl_int64 times rate bin window h

/-- the number of bins is odd and at least 1 for EVERY window and bin (both are clipped to [1e-5, 1e5] s first):
`winsize_bins = 2·half + 1` with `half = trunc(fl(fl(.5·w)/b)) ≥ 0` — the two asserts after ccg.py:131 never fail -/
theorem winsizeFl_spec (window bin : Rat) :
    0 ≤ truncInt (halfQuotFl window bin) ∧
    winsizeBinsFl window bin = 2 * (halfOfFl window bin : Int) + 1 ∧
    (halfOfFl window bin : Int) = truncInt (halfQuotFl window bin) :=
  Lemmas.winsizeFl_spec window bin

/-- WHERE ROUNDING CHANGES NOTHING.  On the sample grid (`GridOK`) with sample numbers and bin below 2^53, a window
that is a double and `.5·window/bin` a 53-bit number (`FlExact`) every float operation is exact: the integers of
the float model are those of the exact-rational model `Model/C15b.lean` … -/
theorem fl_eq_exact (times : List Rat) (rate bin window : Rat) (T : List Int) (B : Int)
    (g : GridOK times rate bin window T B) (x : FlExact bin window T B) :
    samplesOfFl rate times = samplesOf rate times ∧ binsizeOfFl rate bin = binsizeOf rate bin ∧
    winsizeBinsFl window bin = winsizeBins window bin :=
  Lemmas.fl_eq_exact times rate bin window T B g x

/-- … the two models of the whole call coincide … -/
theorem correlogramsFl_eq_Q (times : List Rat) (sc : List Int) (ids : Option (List Nat)) (rate bin window : Rat)
    (T : List Int) (B : Int) (g : GridOK times rate bin window T B) (x : FlExact bin window T B) (sym : Bool) :
    correlogramsFl times sc ids rate bin window sym = correlogramsQ times sc ids rate bin window sym :=
  Lemmas.correlogramsFl_eq_Q times sc ids rate bin window T B g x sym

/-- … and THE PROPERTY IN ITS OWN UNITS (`correlogramsQ_eq`) holds of the float model: pair counts by
`⌊(t_b − t_a)/bin⌋` in seconds, up to the half window `⌊window/(2·bin)⌋`. -/
theorem correlogramsFl_seconds (times : List Rat) (sc : List Int) (ids : List Nat) (rate bin window : Rat)
    (T : List Int) (B : Int) (g : GridOK times rate bin window T B) (x : FlExact bin window T B)
    (hsorted : times.Pairwise (· ≤ ·)) (hlen : sc.length = times.length) (hdom : InDom sc ids) (sym : Bool) :
    correlogramsFl times sc (some ids) rate bin window sym =
      some (if sym then symmetrize (specSeconds times sc ids bin (halfOf window bin))
            else specSeconds times sc ids bin (halfOf window bin)) :=
  Lemmas.correlogramsFl_seconds times sc ids rate bin window T B g x hsorted hlen hdom sym

/-! Non-vacuity.  `d01` = the double 0.1, `d005` = 0.05, `d0001` = 0.001 as exact rationals. -/
/-- bin 0.1 s, window 2 s: the exact quotient of the doubles is below 10 (19 bins), the float quotient is 10
(21 bins: what the code returns) -/
example : winsizeBinsFl 2 (3602879701896397 / 36028797018963968) = 21 ∧
    winsizeBins 2 (3602879701896397 / 36028797018963968) = 19 := by decide +kernel
/-- rate 30 kHz, bin 1 ms: `fl(30000 · 0.001) = 30`; window 0.5 s: 501 bins; a non-grid spike time -/
example : binsizeOfFl 30000 (1152921504606847 / 1152921504606846976) = 30 ∧
    winsizeBinsFl (1 / 2) (1152921504606847 / 1152921504606846976) = 501 ∧
    samplesOfFl 30000 [3602879701896397 / 36028797018963968, 1 / 3] = [3000, 10000] := by decide +kernel
example : FlDom [0, 3602879701896397 / 36028797018963968, 1 / 4] 10 (3602879701896397 / 36028797018963968) 2 := by
  decide +kernel
example : correlogramsFl [0, 3602879701896397 / 36028797018963968, 1 / 4, 11 / 10] [0, 0, 0, 0] none 10
    (3602879701896397 / 36028797018963968) (1 / 2) false = some [[[0, 2, 1]]] := by decide +kernel
example : samplesOfFl 10 [0, 3602879701896397 / 36028797018963968, 1 / 4, 11 / 10] = [0, 1, 2, 11] ∧
    binsizeOfFl 10 (3602879701896397 / 36028797018963968) = 1 ∧
    halfOfFl (1 / 2) (3602879701896397 / 36028797018963968) = 2 := by decide +kernel
example : FlExact (1/2) (3/2) [0, 0, 1, 3, 4] 2 where
  samplesFit := by decide +kernel
  binFit := by decide
  windowDouble := ⟨3, -1, by decide, by decide +kernel⟩
  quotDouble := ⟨3, -1, by decide, by decide +kernel⟩
/-- on that input (GridOK and FlExact both hold, see above) the float model returns the seconds-level pair counts -/
example : correlogramsFl [0, 0, 1/4, 3/4, 1] [7, 2, 7, 2, 7] (some [7, 5, 2]) 4 (1/2) (3/2) false =
    some (specSeconds [0, 0, 1/4, 3/4, 1] [7, 2, 7, 2, 7] [7, 5, 2] (1/2) 1) := by decide +kernel

/-! ## Fourth part: the STATEMENT's counts for a bin that is not a whole number of samples (open known finding), the
`int32` cells of the count array

The statement counts by `⌊(t_b − t_a) / bin⌋` with the CALLER's bin, and the quantifier puts no condition on the bin.
The code converts the bin to whole samples first (`binsize = int(sample_rate * bin_size)`, ccg.py:126).  When
`rate · bin` is whole the two agree — that is `correlogramsQ_eq` above (`GridOK.binGrid`).  When it is not, the code
returns the statement's counts for ANOTHER bin, `⌊rate · bin⌋ / rate` (`correlogramsQ_truncates`), while the number of
bins is still derived from the caller's bin; the `example`s below exhibit the disagreement on one input
(1 kHz, bin 2.5 ms, samples 0, 3, 5, 9: code `[0, 2, 2]`, statement `[1, 2, 2]`).  The correspondence run evaluates
`stmtSeconds` (= `specSeconds`, `stmtSeconds_eq`) and reports a real output that differs from it and equals the model
of the code as the open known finding `bin_truncated_to_whole_samples`.
Half window: the statement names "the half-window" and "2*half+1 bins" without saying how `half` comes from the window
size; `half` is taken to be the code's `winsize_bins // 2` (`halfOf` / `halfOfFl`, `= ⌊window / (2·bin)⌋` for exact
arithmetic, `winsize_spec`). -/

/-- the array the driver evaluates (one floor per spike pair) is the statement's array `specSeconds`, for ALL inputs -/
theorem stmtSeconds_eq (times : List Rat) (sc : List Int) (ids : List Nat) (bin : Rat) (half : Nat) :
    stmtSeconds times sc ids bin half = specSeconds times sc ids bin half :=
  Lemmas.stmtSeconds_eq times sc ids bin half

/-- CHANGE OF UNITS.  The statement's counts do not depend on the unit of time: multiplying every spike time and the bin
by the same non-zero factor leaves them unchanged.  With spike times on the sample grid (`time · rate = T`, whole) the
statement in seconds with bin `bin` IS the statement on the sample numbers with the bin `rate · bin` samples — whole or
not (this is the array the correspondence run compares the real output with when `rate · bin` is fractional) … -/
theorem specSeconds_units (times : List Rat) (sc : List Int) (ids : List Nat) (rate bin : Rat) (half : Nat)
    (hr : 0 < rate) :
    specSeconds (times.map (· * rate)) sc ids (rate * bin) half = specSeconds times sc ids bin half ∧
    ∀ T : List Int, T.length = times.length →
      (∀ a, a < times.length → times.getD a 0 * rate = ((T.getD a 0 : Int) : Rat)) →
      specSeconds times sc ids bin half = specSeconds (T.map fun (z : Int) => (z : Rat)) sc ids (rate * bin) half :=
  ⟨Lemmas.specSeconds_scale times sc ids rate bin half (ne_of_gt hr),
   fun T hlen h => Lemmas.specSeconds_onGrid times sc ids rate bin T half hr (Lemmas.map_mul_onGrid times rate T hlen h)⟩

/-- … and for a bin of a WHOLE number `B ≥ 1` of samples it is the sample-level pair count `specCcg` (integer floor
division), the array every theorem of the first three parts is about -/
theorem specSeconds_whole (T : List Int) (sc : List Int) (ids : List Nat) (B : Int) (half : Nat) (hB : 0 < B) :
    specSeconds (T.map fun (z : Int) => (z : Rat)) sc ids (B : Rat) half = specCcg T sc ids B half :=
  Lemmas.specSeconds_whole T sc ids B half hB

/-- WHAT THE CODE COUNTS FOR ANY BIN (`GridOK` without its clause on the bin: `TimesOK`).  Spike times on the sample
grid, bin and window inside the clipping interval, `rate · bin ≥ 1` but NOT necessarily whole: `binsize = ⌊rate · bin⌋`
and the call returns the statement's counts for the bin `⌊rate · bin⌋ / rate` seconds — not for `bin` — up to the half
window `⌊window / (2·bin)⌋` of the caller's bin.  When `rate · bin` is whole, `⌊rate · bin⌋ / rate = bin` and this is
`correlogramsQ_eq`: the model of the code and the statement agree.  Otherwise they agree only on the inputs where no
spike pair has `⌊Δ / ⌊q⌋⌋ ≠ ⌊Δ / q⌋` (Δ the lag in samples, q = rate · bin); the `example` below is one where they
do not.  The real code behaves like the model there (observed: `[0, 2, 2]`), i.e. it violates the statement: open known
finding `bin_truncated_to_whole_samples`. -/
theorem correlogramsQ_truncates (times : List Rat) (sc : List Int) (ids : List Nat) (rate bin window : Rat)
    (T : List Int) (g : TimesOK times rate bin window T)
    (hsorted : times.Pairwise (· ≤ ·)) (hlen : sc.length = times.length) (hdom : InDom sc ids) (sym : Bool) :
    binsizeOf rate bin = (rate * bin).floor ∧
    correlogramsQ times sc (some ids) rate bin window sym =
      some (if sym then symmetrize (specSeconds times sc ids (((rate * bin).floor : Rat) / rate) (halfOf window bin))
            else specSeconds times sc ids (((rate * bin).floor : Rat) / rate) (halfOf window bin)) :=
  Lemmas.correlogramsQ_truncates times sc ids rate bin window T g hsorted hlen hdom sym

/-- THE SAME ON DOUBLES (the model the correspondence run executes).  Whatever the float product `rate · bin`
(`binProdFl`) is, the float model counts with the bin `int(rate · bin)` = `truncInt (binProdFl rate bin)` samples: it
returns the statement's counts ON THE SPIKE SAMPLES for that whole bin.  The correspondence run compares the real output
with `specSeconds` on the float products for the bin `binProdFl rate bin` itself when that is not whole. -/
theorem correlogramsFl_truncates (times : List Rat) (sc : List Int) (ids : List Nat) (rate bin window : Rat) (sym : Bool)
    (hr : 0 < rate) (hsorted : times.Pairwise (· ≤ ·)) (hlen : sc.length = times.length) (hdom : InDom sc ids)
    (hb : 1 ≤ binsizeOfFl rate bin) :
    binsizeOfFl rate bin = truncInt (binProdFl rate bin) ∧
    correlogramsFl times sc (some ids) rate bin window sym =
      some (if sym then symmetrize (specSeconds ((samplesOfFl rate times).map fun (z : Int) => (z : Rat)) sc ids
                                      ((binsizeOfFl rate bin : Int) : Rat) (halfOfFl window bin))
            else specSeconds ((samplesOfFl rate times).map fun (z : Int) => (z : Rat)) sc ids
                   ((binsizeOfFl rate bin : Int) : Rat) (halfOfFl window bin)) :=
  Lemmas.correlogramsFl_truncates times sc ids rate bin window sym hr hsorted hlen hdom hb

/-- THE `int32` CELLS.  The code's count array is `int32` (ccg.py:35-36), the model's counts are unbounded naturals.
A cell counts spike pairs, so it is at most `n·(n−1)/2`: for at most 65 536 spikes every count of the model is below
`2^31` and fits the code's cell, whatever the times and labels.  (65 537 equal times of one cluster already give
2 147 516 416 ≥ 2^31; observed on the real code: 70 000 equal times return −1 845 002 296 without a warning.  The
correspondence run generates at most 400 spikes; `correlogramsArr_eq` itself needs no bound because the model has no
overflow.) -/
theorem correlogramsArr_int32 (t : List Int) (sc : List Int) (ids : List Nat) (bin : Int) (half : Nat) (w : Int)
    (hw : (w / 2).toNat = half) (hsorted : t.Pairwise (· ≤ ·)) (hb : 0 < bin) (hlen : sc.length = t.length)
    (hdom : InDom sc ids) (hn : t.length ≤ 65536) :
    ∃ c, correlogramsArr t sc ids bin w = some c ∧ ∀ i j k, get3 c i j k < 2 ^ 31 :=
  Lemmas.correlogramsArr_int32 t sc ids bin half w hw hsorted hb hlen hdom hn

/-! Non-vacuity / the finding.  Rate 1 kHz, bin 2.5 ms = 1/400 s, window 12.5 ms = 1/80 s (half window 2 bins), spikes at
samples 0, 3, 5, 9 of one cluster. -/
/-- the statement: lags 3, 5, 9, 2, 6, 4 samples over 2.5 samples → bins 1, 2, 3, 0, 2, 1 → `[1, 2, 2]` -/
example : specSeconds [0, 3/1000, 5/1000, 9/1000] [0, 0, 0, 0] [0] (1/400) 2 = [[[1, 2, 2]]] ∧
    stmtSeconds [0, 3/1000, 5/1000, 9/1000] [0, 0, 0, 0] [0] (1/400) 2 = [[[1, 2, 2]]] := by decide +kernel
/-- the model of the code (and the real code): the counts for a 2-sample bin → `[0, 2, 2]`: they DISAGREE -/
example : correlogramsQ [0, 3/1000, 5/1000, 9/1000] [0, 0, 0, 0] (some [0]) 1000 (1/400) (1/80) false =
      some (specSeconds [0, 3/1000, 5/1000, 9/1000] [0, 0, 0, 0] [0] (2/1000) 2) ∧
    specSeconds [0, 3/1000, 5/1000, 9/1000] [0, 0, 0, 0] [0] (2/1000) 2 = [[[0, 2, 2]]] ∧
    correlogramsQ [0, 3/1000, 5/1000, 9/1000] [0, 0, 0, 0] (some [0]) 1000 (1/400) (1/80) false ≠
      some (specSeconds [0, 3/1000, 5/1000, 9/1000] [0, 0, 0, 0] [0] (1/400) (halfOf (1/80) (1/400))) := by
  decide +kernel
/-- the input is in the domain of `correlogramsQ_truncates` (`⌊1000 · 1/400⌋ = 2`, `2 / 1000` s) and outside `GridOK`
(`rate · bin = 5/2` is no integer) -/
example : TimesOK [0, 3/1000, 5/1000, 9/1000] 1000 (1/400) (1/80) [0, 3, 5, 9] where
  rate_pos := by decide +kernel
  bin_lo := by decide +kernel
  bin_hi := by decide +kernel
  win_lo := by decide +kernel
  win_hi := by decide +kernel
  len := rfl
  onGrid := by decide +kernel
  binPos := by decide +kernel
example : ((1000 : Rat) * (1/400)).floor = 2 ∧ ((2 : Int) : Rat) / 1000 = 2/1000 ∧
    ¬ ∃ B : Int, (1000 : Rat) * (1/400) = (B : Rat) := by
  refine ⟨by decide +kernel, by decide +kernel, ?_⟩
  rintro ⟨B, h⟩
  have h2 : ((1000 : Rat) * (1/400)).den = ((B : Int) : Rat).den := by rw [h]
  rw [Rat.den_intCast] at h2
  revert h2
  decide +kernel
/-- change of units on that input: seconds with a 1/400 s bin = sample numbers with a 5/2-sample bin -/
example : specSeconds ([0, 3, 5, 9].map fun (z : Int) => (z : Rat)) [0, 0, 0, 0] [0] (5/2) 2 = [[[1, 2, 2]]] := by
  decide +kernel
/-- the same input as doubles (0.003, 0.005, 0.009, bin 0.0025, window 0.0125 as the rationals they denote): the float
product `1000 · 0.0025` is exactly 5/2, the float model returns `[0, 2, 2]`, the statement on the doubles `[1, 2, 2]` -/
example : binProdFl 1000 (5764607523034235 / 2305843009213693952) = 5/2 ∧
    binsizeOfFl 1000 (5764607523034235 / 2305843009213693952) = 2 ∧
    correlogramsFl [0, 3458764513820541 / 1152921504606846976, 5764607523034235 / 1152921504606846976,
        5188146770730811 / 576460752303423488] [0, 0, 0, 0] (some [0]) 1000
        (5764607523034235 / 2305843009213693952) (7205759403792794 / 576460752303423488) false = some [[[0, 2, 2]]] ∧
    stmtSeconds [0, 3458764513820541 / 1152921504606846976, 5764607523034235 / 1152921504606846976,
        5188146770730811 / 576460752303423488] [0, 0, 0, 0] [0] (5764607523034235 / 2305843009213693952) 2 =
      [[[1, 2, 2]]] := by decide +kernel
example : firingRate [7, 2, 7] (some [7, 5, 2]) (1/2) (some 3) = some [[2/3, 0, 1/3], [0, 0, 0], [1/3, 0, 1/6]] ∧
    Int.ofNat ([7, 5, 2].getD 1 0) ∉ [7, 2, 7] := by decide +kernel
/-- 65 536 spikes: at most 2 147 450 880 pairs, below 2^31 = 2 147 483 648; 65 537: 2 147 516 416 -/
example : 65536 * 65535 / 2 < 2 ^ 31 ∧ ¬ 65537 * 65536 / 2 < 2 ^ 31 := by decide +kernel
/-- `FlDom` at its `2^63` edge (rate 1024): the product `2^62` is inside; `2^63` is outside, and so is `2^63 − 1`, which is
below `2^63` but ROUNDS to it (the sample would not fit `int64`) -/
example : FlDom [0, 1/4, 4503599627370496] 1024 (1/2) (3/2) ∧
    samplesOfFl 1024 [0, 1/4, 4503599627370496] = [0, 256, 4611686018427387904] ∧
    ¬ FlDom [0, 9007199254740992] 1024 (1/2) (3/2) ∧
    ¬ FlDom [0, 9223372036854775807 / 1024] 1024 (1/2) (3/2) ∧
    samplesOfFl 1024 [9223372036854775807 / 1024] = [9223372036854775808] := by decide +kernel

end PhyVerif.C15

/-! ## IEEE-754 binary64 rounding (`Model/Fl.lean`), shared with C16 — tied to the float unit by the
correspondence stream `fl` of this property's check -/
namespace PhyVerif.Fl

/-- REPRESENTABLE: the result is zero (exactly for `q = 0`) or `± m · 2^e` with `2^52 ≤ m < 2^53` -/
theorem roundDouble_representable (q : Rat) :
    (q = 0 ∧ roundDouble q = 0) ∨ (q ≠ 0 ∧ Normal53 (roundDouble q)) :=
  Lemmas.roundDouble_representable q

/-- BINARY64: for `q = 0` or `2^-1022 ≤ |q| < 2^1024 − 2^970` (`InRange`) the exponent stays inside the format:
the result is zero or a normal double (no overflow, no subnormal).  Outside `InRange` the hardware returns a
subnormal (less precision) or `±inf`; `roundDouble` does not model that. -/
theorem roundDouble_binary64 (q : Rat) (h : InRange q) :
    (q = 0 ∧ roundDouble q = 0) ∨ (q ≠ 0 ∧ NormalBinary64 (roundDouble q)) :=
  Lemmas.roundDouble_binary64 q h

/-- HALF AN ULP: `|roundDouble q − q| ≤ 2^(e−1)` where `2^e` is the unit in the last place of `q`'s binade,
`2^(e+52) ≤ |q| < 2^(e+53)` -/
theorem roundDouble_half_ulp (q : Rat) (hq : q ≠ 0) :
    absR (roundDouble q - q) ≤ pow2 (ulpExp q - 1) ∧
    pow2 (ulpExp q + 52) ≤ absR q ∧ absR q < pow2 (ulpExp q + 53) :=
  ⟨Lemmas.roundDouble_half_ulp q hq, Lemmas.ulpExp_spec q hq⟩

/-- … hence a relative error of at most `2^-53`, for every `q` -/
theorem roundDouble_rel (q : Rat) : absR (roundDouble q - q) ≤ pow2 (-53) * absR q :=
  Lemmas.roundDouble_rel q

/-- NEAREST: no number with at most 53 significant bits (any exponent) is closer to `q`.  Every finite binary64
number, normal or subnormal, is such a number (`IsDouble`), and on `InRange` the result is itself a normal double
(`roundDouble_binary64`): it is then A nearest double. -/
theorem roundDouble_nearest (q r : Rat) (hr : IsDouble r) : absR (roundDouble q - q) ≤ absR (r - q) :=
  Lemmas.roundDouble_nearest q r hr

/-- TIES TO EVEN: if another 53-bit number is exactly as close, the result is the one with the even significand -/
theorem roundDouble_tie_even (q r : Rat) (hr : IsDouble r) (hne : r ≠ roundDouble q)
    (hd : absR (r - q) = absR (roundDouble q - q)) :
    ∃ (m e : Int), 2 ^ 52 ≤ m ∧ m < 2 ^ 53 ∧ m % 2 = 0 ∧ absR (roundDouble q) = (m : Rat) * pow2 e :=
  Lemmas.roundDouble_tie_even q r hr hne hd

/-- MONOTONE -/
theorem roundDouble_mono (p q : Rat) (h : p ≤ q) : roundDouble p ≤ roundDouble q :=
  Lemmas.roundDouble_mono p q h

/-- IDENTITY on the 53-bit numbers, hence IDEMPOTENT; the results are 53-bit numbers -/
theorem roundDouble_id (x : Rat) (h : IsDouble x) : roundDouble x = x :=
  Lemmas.roundDouble_of_isDouble x h

theorem roundDouble_idem (q : Rat) : roundDouble (roundDouble q) = roundDouble q ∧ IsDouble (roundDouble q) :=
  ⟨Lemmas.roundDouble_idem q, Lemmas.roundDouble_isDouble q⟩

/-- ODD SYMMETRY -/
theorem roundDouble_neg (q : Rat) : roundDouble (-q) = -roundDouble q :=
  Lemmas.roundDouble_neg q

/-- integers up to 2^53 in magnitude are not rounded; halving a double is exact -/
theorem roundDouble_exact_cases (z : Int) (h : z.natAbs ≤ 2 ^ 53) (x : Rat) (hx : IsDouble x) :
    roundDouble (z : Rat) = z ∧ roundDouble (1 / 2 * x) = 1 / 2 * x :=
  ⟨Lemmas.roundDouble_intCast z h, Lemmas.roundDouble_half x hx⟩

/-- the executable test used by the driver decides `IsDouble` -/
theorem isDoubleB_iff (x : Rat) : isDoubleB x = true ↔ IsDouble x :=
  Lemmas.isDoubleB_iff x

/-! Non-vacuity: 0.1, a tie resolved to the even neighbour (2^53 + 1 → 2^53, 2^53 + 3 → 2^53 + 4), an integer
beyond 2^53, a negative number, the range predicate. -/
example : roundDouble (1 / 10) = 3602879701896397 / 36028797018963968 := by decide +kernel
/-- 0.1 = 7205759403792794 · 2^-56: a normal double -/
example : NormalBinary64 (roundDouble (1 / 10)) :=
  ⟨7205759403792794, -56, by decide, by decide, by decide, by decide, by decide +kernel⟩
example : ulpExp (1 / 10) = -56 ∧ absR (roundDouble (1 / 10) - 1 / 10) ≤ pow2 (-57) := by decide +kernel
example : roundDouble (1 / 3) ≤ roundDouble (1 / 3 + 1 / 1000000000000000000) ∧
    roundDouble (roundDouble (1 / 3)) = roundDouble (1 / 3) ∧ roundDouble (-(1 / 3)) = -roundDouble (1 / 3) := by
  decide +kernel
example : roundDouble 9007199254740993 = 9007199254740992 ∧ roundDouble 9007199254740995 = 9007199254740996 ∧
    roundDouble (-9007199254740995) = -9007199254740996 := by decide +kernel
example : IsDouble (9007199254740994 : Rat) := ⟨4503599627370497, 1, by decide, by decide +kernel⟩
example : absR ((9007199254740994 : Rat) - 9007199254740993) = absR (roundDouble 9007199254740993 - 9007199254740993) := by
  decide +kernel
example : InRange (1 / 10) ∧ ¬ InRange (pow2 (-1023)) ∧ ¬ InRange (pow2 1024 - pow2 970) ∧ InRange 0 := by
  decide +kernel
example : roundDouble (1 / 2 + 1 / 18014398509481984) = 1 / 2 := by decide +kernel

end PhyVerif.Fl
