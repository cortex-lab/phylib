import PhyVerif.Model.C02
import PhyVerif.Spec.C01
import PhyVerif.Lemmas.C02
import PhyVerif.Lemmas.C02b
import PhyVerif.Lemmas.C02c
/-!
# C02 — lazy reader expressions commute with eager evaluation; deriving never aliases
Only property theorems + non-vacuity examples; the lemmas behind them are in `Lemmas/C02.lean`, `C02b`, `C02c`.
-/
namespace PhyVerif.C02
open PhyVerif PhyVerif.C01

/-! Reachability. A reader of the real code always HAS an `_ops` list (`__init__`, traces.py:201-202; `_append_op`
gives every clone its own, traces.py:254-259): it is an address `r < h.length` of the heap it was derived in. Every
theorem below whose conclusion speaks of the operations of a reader is stated for such an address and reads them as
`h[r]` — never through `List.getD … []`, whose default would answer a dangling address with "no operations" (an
object the real code cannot produce). Where the conclusion does not depend on it (the SOURCE of a derivation in
`derive_preserves_others` / `derivations_preserve`: existing readers are untouched whatever is derived, from
whatever address) the hypothesis is not stated; the histories of the real code satisfy it anyway. -/

/-- Indexing a reader that carries any list of deferred operations (any element-wise functions,
any channel selections, in any order) equals applying the same operations to the fully loaded
concatenated array and then indexing it — for every layout and every in-domain row index.
Parametric in what each operator computes, hence independent of dtype, promotion and rounding. -/
theorem eval_eq_eager {β : Type} (h : Heap β) (parts : List (List (List β))) (r : Nat) (it : Item)
    (hr : r < h.length) (hd : InDom parts.flatten.length it) :
    eval h parts r it = npRows (applyOps h[r] parts.flatten) it := by
  rw [Lemmas.eval_eq_eager h parts r it hd, ← List.getElem_eq_getD]

/-- same with a trailing channel selector `reader[item, cols]` -/
theorem evalCols_eq_eager {β : Type} (h : Heap β) (parts : List (List (List β))) (r : Nat)
    (it : Item) (c : ColSel) (hr : r < h.length) (hd : InDom parts.flatten.length it) :
    evalCols h parts r it c = npRows (applyOps (h[r] ++ [.cols c]) parts.flatten) it := by
  rw [Lemmas.evalCols_eq_eager h parts r it c hd, ← List.getElem_eq_getD]

/-- deferred operations commute with row selection (the core algebraic fact) -/
theorem applyOps_commutes_rows {β : Type} (ops : List (Op β)) (A : List (List β)) (it : Item) :
    (npRows A it).map (applyOps ops) = npRows (applyOps ops A) it :=
  Lemmas.applyOps_commutes_rows ops A it

/-- Deriving is closed — the clone's address is a live address of the new heap — and gives the clone exactly the
parent's operations plus the new one … -/
theorem derive_ops {β : Type} (h : Heap β) (r : Nat) (op : Op β) (hr : r < h.length) :
    (derive h r op).1[(derive h r op).2]? = some (h[r] ++ [op]) := by
  rw [Lemmas.derive_eq, List.getElem?_concat_length, Np.Lemmas.getD_of_lt h r [] hr]

/-- … and never changes the operations (hence the value of any evaluation) of the reader it was
derived from or of any other existing reader. -/
theorem derive_preserves_others {β : Type} (h : Heap β) (r : Nat) (op : Op β) (r' : Nat)
    (hr' : r' < h.length) :
    (derive h r op).1[r']? = some h[r'] :=
  Lemmas.derive_preserves_others_at h r op r' hr'

/-- Any derivation history (parents, children, siblings, grandchildren, in any order) leaves
every previously existing reader untouched … -/
theorem derivations_preserve {β : Type} (h : Heap β) (ds : List (Nat × Op β)) (r' : Nat)
    (hr' : r' < h.length) :
    (runDerivations h ds)[r']? = some h[r'] :=
  Lemmas.derivations_preserve_at h ds r' hr'

/-- … so what it RETURNS is the same before and after, for every index expression (with or without a channel
selector; in or out of the domain of `eval_eq_eager`). -/
theorem derivations_preserve_returns {β : Type} (h : Heap β) (ds : List (Nat × Op β))
    (parts : List (List (List β))) (r' : Nat) (hr' : r' < h.length) (it : Item) :
    eval (runDerivations h ds) parts r' it = eval h parts r' it ∧
    ∀ c, evalCols (runDerivations h ds) parts r' it c = evalCols h parts r' it c :=
  ⟨Lemmas.derivations_preserve_eval h ds parts r' hr' it,
   fun c => Lemmas.derivations_preserve_evalCols h ds parts r' hr' it c⟩

/-! ### `_append_op` statement by statement, with Python's object semantics (Model/C02b)

List objects live in a store by address, a reader object holds the address of its `_ops` list; `copy.copy` shares
the address, `list(…)` allocates, `.append` mutates in place. -/

/-- After `clone = copy.copy(self); clone._ops = list(self._ops); clone._ops.append(op)` the clone carries the
parent's operations plus the new one, every reader object that existed before carries exactly what it carried
(parent, siblings, anything else), and the store stays well formed (so the statement applies again: by induction
every derivation history leaves every existing reader untouched). -/
theorem appendOp_statements (β : Type) (s : Store β) (hwf : s.WF) (self : Nat) (op : Op β)
    (hs : self < s.readers.length) :
    let s' := run s (appendOpProgram s self op)
    s'.opsOf s.readers.length = s.opsOf self ++ [op] ∧
    (∀ rd, rd < s.readers.length → s'.opsOf rd = s.opsOf rd) ∧ s'.WF :=
  ⟨Lemmas.appendOp_clone_ops s self op hs, fun rd hr => Lemmas.appendOp_frame s hwf self op hs rd hr,
   Lemmas.appendOp_wf s hwf self op hs⟩

/-- Refinement: seen reader by reader (`Store.abs`), the three statements ARE the abstract `derive` the theorems
above talk about. -/
theorem appendOp_refines_derive (β : Type) (s : Store β) (hwf : s.WF) (self : Nat) (op : Op β)
    (hs : self < s.readers.length) :
    (run s (appendOpProgram s self op)).abs = (derive s.abs self op).1 :=
  Lemmas.appendOp_refines_derive s hwf self op hs

/-- The model can express the regression the NOTE in the code warns about and tells it apart from the real method:
without the fresh list the PARENT ends up carrying the new operation too. -/
theorem aliasing_variant_changes_parent (β : Type) (s : Store β) (hwf : s.WF) (self : Nat) (op : Op β)
    (hs : self < s.readers.length) :
    (run s (aliasingVariant s self op)).opsOf self = s.opsOf self ++ [op] :=
  Lemmas.aliasing_variant_changes_parent s hwf self op hs

/-! ### The block `__getitem__` hands out, and what the caller does to it (Model/C02c)

Array objects live in a memory by address; the storage the readers read from is its first `np` objects (one per part).
`np ≤ m.arrays.length` says that these objects exist (a reader of the real code has its parts). -/

/-- The block handed out by a reader that exists (`hr`: its operation list is at a live address, so `h[r]`, not a
default) over a storage whose `np` parts exist (`hnp`; then `m.parts np` really has `np` parts) holds exactly what
`eval` says (so `eval_eq_eager` speaks about it), its address is the first free one — in particular NOT the address
of a part (`np ≤ a`) —, exactly one object was allocated, and every object that existed, the storage among them, is as
it was.
What this is and is not: the "new object" half holds BY CONSTRUCTION of the model's `getitem` (it appends the block to
the memory, mirroring the unconditional `np.vstack` of traces.py:246-252); the theorem records that construction so
that `scribble_preserves_returns` can use it, it does not by itself show that the real `__getitem__` allocates. That is
the job of the correspondence: the harness overwrites, in place, blocks the real readers hand out and compares every
later evaluation with the model's (`getitemNoCopy` is the variant a non-allocating rewrite would correspond to, and the
example below tells the two apart). Outside the hypotheses: an address `r ≥ h.length` is no reader (the model's `getD`
would read an empty operation list), `np > m.arrays.length` is a reader with missing parts — neither exists in the real
code. -/
theorem getitem_block_fresh {β : Type} (h : Heap β) (m : Mem β) (np : Nat) (hnp : np ≤ m.arrays.length) (r : Nat)
    (hr : r < h.length) (it : Item) :
    (getitem m np h[r] it).map (fun p => p.1.block p.2) = eval h (m.parts np) r it ∧
    (m.parts np).length = np ∧
    ∀ m' a, getitem m np h[r] it = some (m', a) →
      a = m.arrays.length ∧ np ≤ a ∧ m'.arrays.length = a + 1 ∧
      m'.arrays.take m.arrays.length = m.arrays ∧ m'.parts np = m.parts np :=
  Lemmas.getitem_block_fresh h m np hnp r hr it

/-- Whatever the caller writes, in place, into a block it was handed (by any reader of the family, for any index
expression), the storage is as it was: `(scribble m' a f).parts np = m.parts np` is the whole content (it needs `hnp`:
the block's address `m.arrays.length` lies outside the first `np` objects). The second conjunct is that equation
rewritten under `eval` / `evalCols` (a corollary by congruence, spelled out because it is the property's wording): EVERY
reader - the one indexed, its parent, its siblings, readers derived later (any heap `h'`) - returns afterwards what it
returned before, for every index expression, with or without a channel selector. -/
theorem scribble_preserves_returns {β : Type} (m : Mem β) (np : Nat) (hnp : np ≤ m.arrays.length)
    (ops : List (Op β)) (it : Item) (m' : Mem β) (a : Nat) (hg : getitem m np ops it = some (m', a))
    (f : List (List β) → List (List β)) :
    (scribble m' a f).parts np = m.parts np ∧
    ∀ (h' : Heap β) (r' : Nat) (it' : Item),
      eval h' ((scribble m' a f).parts np) r' it' = eval h' (m.parts np) r' it' ∧
      ∀ c, evalCols h' ((scribble m' a f).parts np) r' it' c = evalCols h' (m.parts np) r' it' c :=
  ⟨Lemmas.scribble_parts m np hnp ops it m' a hg f, fun h' r' it' => by
    rw [Lemmas.scribble_parts m np hnp ops it m' a hg f]; exact ⟨rfl, fun _ => rfl⟩⟩

/-- the hypotheses of `getitem_block_fresh` on a two-part recording with a derived reader (address 1, one operation):
the parts exist, the reader exists, the block of `reader[1:3]` is object 2 = `m.arrays.length`, beyond the 2 parts -/
example :
    let m : Mem Nat := ⟨[[[1, 2]], [[3, 4], [5, 6]]]⟩
    let h : Heap Nat := (derive [[]] 0 (.cols (.idx [1, 0]))).1
    2 ≤ m.arrays.length ∧ h.length = 2 ∧ (m.parts 2).length = 2 ∧
    (getitem m 2 (h.getD 1 []) (.slice (some 1) (some 3))).map (fun p => (p.2, p.1.arrays.length, p.1.block p.2)) =
      some (2, 3, [[4, 3], [6, 5]]) ∧
    eval h (m.parts 2) 1 (.slice (some 1) (some 3)) = some [[4, 3], [6, 5]] ∧
    -- outside `hnp` (3 parts claimed, 2 objects): `parts` silently has 2 parts
    (m.parts 3).length = 2 := by
  decide +kernel

/-- a two-part recording: the block of `reader[1:3]` (rows of both parts) is object 2; zeroing it changes nothing the
parent returns; and the model can express the rewrite that skips `np.vstack` for one part and tells it apart: there
the parent returns the caller's zeros -/
example :
    let m : Mem Nat := ⟨[[[1, 2]], [[3, 4], [5, 6]]]⟩
    let zero : List (List Nat) → List (List Nat) := fun b => b.map fun r => r.map fun _ => 0
    (getitem m 2 [] (.slice (some 1) (some 3))).map (fun p => (p.2, p.1.block p.2)) = some (2, [[3, 4], [5, 6]]) ∧
    ((getitem m 2 [] (.slice (some 1) (some 3))).map fun p =>
        eval [[]] ((scribble p.1 p.2 zero).parts 2) 0 (.slice none none)) = some (some [[1, 2], [3, 4], [5, 6]]) ∧
    (let m1 : Mem Nat := ⟨[[[3, 4], [5, 6]]]⟩
     ((getitem m1 1 [] (.slice none none)).map fun p =>
        eval [[]] ((scribble p.1 p.2 zero).parts 1) 0 (.int 1)) = some (some [[5, 6]]) ∧
     ((getitemNoCopy m1 1 [] (.slice none none)).map fun p =>
        eval [[]] ((scribble p.1 p.2 zero).parts 1) 0 (.int 1)) = some (some [[0, 0]])) := by
  decide +kernel

/-! Non-vacuity: cells are (id, trace of applied operator tokens) -/
example :
    let parts : List (List (List (Nat × List Nat))) := [[[(0, []), (1, [])]], [[(2, []), (3, [])], [(4, []), (5, [])]]]
    let tag (t : Nat) : Op (Nat × List Nat) := .elem fun c => (c.1, c.2 ++ [t])
    let h0 : Heap (Nat × List Nat) := [[]]
    let d1 := derive h0 0 (tag 7)              -- child = parent op 7
    let d2 := derive d1.1 d1.2 (.cols (.idx [1, 0]))
    let d3 := derive d2.1 0 (tag 9)            -- sibling of d1 derived later from the parent
    eval d3.1 parts d2.2 (.slice (some 1) none) = some [[(3, [7]), (2, [7])], [(5, [7]), (4, [7])]] ∧
    eval d3.1 parts 0 (.int 0) = some [[(0, []), (1, [])]] ∧
    eval d3.1 parts d3.2 (.int (-1)) = some [[(4, [9]), (5, [9])]] := by decide +kernel

/-- every address used above is live (the reachability hypothesis) and the clone of a derivation is the next address;
the parent answers the same after the three derivations, with a channel selector too -/
example :
    let parts : List (List (List (Nat × List Nat))) := [[[(0, []), (1, [])]], [[(2, []), (3, [])], [(4, []), (5, [])]]]
    let tag (t : Nat) : Op (Nat × List Nat) := .elem fun c => (c.1, c.2 ++ [t])
    let h0 : Heap (Nat × List Nat) := [[]]
    let ds := [(0, tag 7), (1, .cols (.idx [1, 0])), (0, tag 9)]
    let h3 := runDerivations h0 ds
    h3 = (derive (derive (derive h0 0 (tag 7)).1 1 (.cols (.idx [1, 0]))).1 0 (tag 9)).1 ∧
    h3.length = 4 ∧ (derive h0 0 (tag 7)).2 = 1 ∧ (h3.map List.length) = [0, 1, 2, 1] ∧
    eval h3 parts 0 (.list [0, 2]) = eval h0 parts 0 (.list [0, 2]) ∧
    eval h3 parts 0 (.list [0, 2]) = some [[(0, []), (1, [])], [(4, []), (5, [])]] ∧
    evalCols h3 parts 0 (.int 1) (.idx [1]) = some [[(3, [])]] ∧
    evalCols h3 parts 2 (.int 1) (.idx [1]) = some [[(2, [7])]] := by
  exact ⟨rfl, by decide +kernel⟩

/-- a store with one reader (no operations) meets the hypotheses; after two derivations from the same parent the
three readers carry [], [cols [1,0]], [cols [0]] -/
example :
    let s0 : Store Nat := ⟨[[]], [0]⟩
    let s1 := run s0 (appendOpProgram s0 0 (.cols (.idx [1, 0])))
    let s2 := run s1 (appendOpProgram s1 0 (.cols (.idx [0])))
    s0.readers.length = 1 ∧ (s2.abs.map List.length) = [0, 1, 1] ∧ s2.readers = [0, 1, 2] ∧
    ((run s0 (aliasingVariant s0 0 (.cols (.idx [0])))).abs.map List.length) = [1, 1] := by decide +kernel
example : (⟨[[]], [0]⟩ : Store Nat).WF := fun rd hr => by
  obtain rfl := Nat.lt_one_iff.1 hr
  decide

end PhyVerif.C02
