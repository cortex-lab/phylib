import PhyVerif.Model.C18
import PhyVerif.Model.C18b
import PhyVerif.Model.C18c
import PhyVerif.Model.C18p
import PhyVerif.Spec.C18
import PhyVerif.Spec.C18c
import PhyVerif.Spec.C18p
import PhyVerif.Lemmas.C18
import PhyVerif.Lemmas.C18j
import PhyVerif.Lemmas.C18p
import PhyVerif.Lemmas.C18t
/-!
# C18 — JSON, TSV/CSV and parameter-file serialisation round-trips values and types
Property theorems and non-vacuity examples; the proofs are in `Lemmas/C18*.lean`, short corollaries are proved in place.
(`json`, `base64` and float `repr` are transport.  The `csv` module, the text layer, `int()`/`float()`,
`'%.nf'` and the fragment of Python's parser that parameter files need are modelled in
`Model/C18c.lean`, `Model/C18p.lean` and tied to the real code by the correspondence run.  The TEXT written
for a str inside the JSON file - `ensure_ascii` escaping, the locale encoding of the file, the string
scanner - is modelled in `Model/C18j.lean`.)
-/
namespace PhyVerif.C18

/-- Encoder + object hook round-trip every value (arbitrarily nested lists / dictionaries, arrays of
any dtype, rank and size, NumPy scalars): the loaded value is the canonical form of the saved one —
arrays keep dtype, shape and values, 1-D arrays of at most ten items come back as equal lists. -/
theorem value_roundtrip (v : PV) (h : WF v) : decode (encode v) = canon v :=
  Lemmas.value_roundtrip v h

/-- Arrays keep dtype, shape and values for every memory layout (1): an array that is not a short 1-D
non-complex, non-long-double one comes back as an array whose dtype string is the saved one (byte order included: it
is read from the marker's `dtype` entry), whose shape is the saved one (read from the `shape` entry),
C-contiguous, holding `np.ascontiguousarray` of the saved array.  The array is given as NumPy has it:
(shape, strides, offset, buffer) — C order, Fortran order, transposed, strided, reversed views are
particular strides/offsets. -/
theorem array_roundtrip (dtype : String) (shape : List Nat) (strides : List Int) (off : Int) (mem : List Int)
    (hbig : ∀ n, shape = [n] → (n ≤ 10 && !noListDtype dtype) = false) :
    decode (encode (.arr dtype shape strides off mem)) =
      .arr dtype shape (cStrides shape) 0 (gather mem shape strides off) :=
  Lemmas.array_roundtrip dtype shape strides off mem hbig

/-- Arrays keep … (2): element by element.  For every multi-index inside the shape, the element of
the array that comes back equals the element of the saved array at that multi-index, for every
(strides, offset) with one stride per axis.  (Both sides read the same buffer position of the saved
array, so no in-bounds hypothesis is needed; a real array's positions are in bounds.) -/
theorem array_elements_preserved (shape : List Nat) (strides : List Int) (off : Int) (mem : List Int)
    (idx : List Nat) (hl : strides.length = shape.length) (hi : IdxOK shape idx) :
    getAt (cStrides shape) 0 (gather mem shape strides off) idx = getAt strides off mem idx :=
  Lemmas.array_elements_preserved shape strides off mem idx hl hi

/-- One-dimensional arrays of at most ten items (neither complex nor long double: `noListDtype`) come back as the list of their
elements in index order, whatever the stride (`a[::2]`, `a[::-1]`). -/
theorem small_array_roundtrip (dtype : String) (n : Nat) (s : Int) (off : Int) (mem : List Int)
    (hn : n ≤ 10) (hc : noListDtype dtype = false) :
    decode (encode (.arr dtype [n] [s] off mem)) =
      .list (ofInts ((List.range n).map fun (i : Nat) => getMem mem (off + (i : Int) * s))) :=
  Lemmas.small_array_roundtrip dtype n s off mem hn hc

/-- Integer top-level keys stay integers (negative ones included), other string keys stay strings. -/
theorem key_roundtrip (hs : IntStrOK) (k : Key) (hk : KeyOK k) : intifyKey (stringifyKey k) = k :=
  Lemmas.key_roundtrip hs k hk

/-- `save_json` followed by `load_json` on a whole dictionary. -/
theorem json_roundtrip (hs : IntStrOK) (d : List (Key × PV)) (hk : ∀ kv ∈ d, KeyOK kv.1 ∧ WF kv.2) :
    roundTrip d = d.map fun kv => (kv.1, canon kv.2) :=
  Lemmas.json_roundtrip hs d hk

/-- The integer formatting/parsing hypothesis holds for Lean's own `toString` on `Int` (the model's
`intToStr`), so the key and dictionary round trips hold unconditionally in the model. -/
theorem json_roundtrip_concrete (d : List (Key × PV)) (hk : ∀ kv ∈ d, KeyOK kv.1 ∧ WF kv.2) :
    roundTrip d = d.map fun kv => (kv.1, canon kv.2) :=
  Lemmas.json_roundtrip Lemmas.intStrOK d hk

/-- the concrete recogniser accepts the decimal form of every integer, negative ones included -/
theorem isIntString_neg_example : isIntString "-1" = true ∧ isIntString "12" = true ∧
    isIntString "1x" = false ∧ isIntString "-" = false ∧ isIntString "" = false :=
  Lemmas.isIntString_neg_example

/-- TSV/CSV: a table written by `write_tsv` reads back as the same rows — every (field, value)
pair of every row, absent fields omitted — for any renderer/parser pair with
`parse (render c) = c` and non-empty renderings. -/
theorem tsv_roundtrip (render : Cell → String) (parse : String → Cell)
    (hrt : ∀ c, parse (render c) = c) (hne : ∀ c, render c ≠ "")
    (rows : List (List (String × Cell))) (first : Option String)
    (hnodup : ∀ r ∈ rows, (r.map (·.1)).Nodup) (file : List String × List (List String))
    (hw : writeTsv render rows first = some file) :
    readTsv parse file = expectedRows file.1 rows ∧
    (∀ r ∈ rows, ∀ fc ∈ r, fc.1 ∈ file.1) ∧ file.1.Nodup :=
  Lemmas.tsv_roundtrip render parse hrt hne rows first hnodup file hw

/-- TSV/CSV round trip relative to a cell domain `D`: the renderer/parser pair only has to
round-trip (and render non-empty) the cells in `D`, and every cell of the table lies in `D`.
`tsv_roundtrip` is the instance `D := fun _ => True`; no renderer that writes text verbatim
satisfies that instance (`.text ""`, `.text "12"` vs `.int 12`), hence this form. -/
theorem tsv_roundtrip_on (D : Cell → Prop) (render : Cell → String) (parse : String → Cell)
    (hrt : ∀ c, D c → parse (render c) = c) (hne : ∀ c, D c → render c ≠ "")
    (rows : List (List (String × Cell))) (first : Option String)
    (hnodup : ∀ r ∈ rows, (r.map (·.1)).Nodup) (hD : ∀ r ∈ rows, ∀ fc ∈ r, D fc.2)
    (file : List String × List (List String))
    (hw : writeTsv render rows first = some file) :
    readTsv parse file = expectedRows file.1 rows ∧
    (∀ r ∈ rows, ∀ fc ∈ r, fc.1 ∈ file.1) ∧ file.1.Nodup :=
  Lemmas.tsv_roundtrip_on D render parse hrt hne rows first hnodup hD file hw

/-- The concrete (hypothesis-free) instance: `renderPy` models `str(value)` as written by
`write_tsv`, `parsePy` models `_try_make_number` of `read_tsv` on strings that are not float
literals (`int(s)` if it succeeds, else the string).  For tables whose cells are integers
(negative ones included) or non-empty alphabetic labels such as "good", "mua" (`CellPy`; floats are
outside this instance), the table written by `write_tsv` reads back as the same rows with the
same cell types. -/
theorem tsv_roundtrip_py (rows : List (List (String × Cell))) (first : Option String)
    (hnodup : ∀ r ∈ rows, (r.map (·.1)).Nodup) (hD : ∀ r ∈ rows, ∀ fc ∈ r, CellPy fc.2)
    (file : List String × List (List String))
    (hw : writeTsv renderPy rows first = some file) :
    readTsv parsePy file = expectedRows file.1 rows ∧
    (∀ r ∈ rows, ∀ fc ∈ r, fc.1 ∈ file.1) ∧ file.1.Nodup :=
  Lemmas.tsv_roundtrip_py rows first hnodup hD file hw

/-- The requested first column comes first. -/
theorem tsv_first_field_first (render : Cell → String) (rows : List (List (String × Cell))) (f : String)
    (hf : ∃ r ∈ rows, f ∈ r.map (·.1)) (file : List String × List (List String))
    (hw : writeTsv render rows (some f) = some file) : file.1.head? = some f :=
  Lemmas.tsv_first_field_first render rows f hf file hw

/-! ### table files at the character level (`Model/C18c.lean`) -/

/-- `csv.writer(f, delimiter=d)` / `csv.reader(f, delimiter=d)` as modelled (QUOTE_MINIMAL, doubled
quotes): a record is read back as the same fields for ARBITRARY field strings — the other delimiter,
quotes, spaces, empty fields, one single empty field (written `""`), no field at all — provided the
delimiter is not the quote character. -/
theorem csv_line_roundtrip (d : Char) (hd : d ≠ '"') (fs : List Str) :
    csvParseLine d (csvRow d fs) = fs :=
  Lemmas.csv_line_roundtrip d hd fs

/-- Whole files: records whose fields contain no line break, written with `\r\n` terminators into a
file opened with `newline=''` and read back line by line in universal-newline mode.  (A cell
containing `\r` is outside: the real reader turns it into `\n`, _misc.py:251-253 opens without
`newline=''`; a cell containing `\n` spans two physical lines, which the line-based reader model does
not follow.) -/
theorem csv_file_roundtrip (d : Char) (hq : d ≠ '"') (hd : d ≠ '\r' ∧ d ≠ '\n') (rows : List (List Str))
    (h : ∀ r ∈ rows, ∀ f ∈ r, NoBreak f) : csvRead d (csvWrite d rows) = rows :=
  Lemmas.csv_file_roundtrip d hq hd rows h

/-- `_try_make_number(str(i))` is the integer `i` (Python's `int()` grammar: whitespace, sign,
underscores between digits). -/
theorem try_make_number_int (i : Int) : tryMakeNumber (intToStr i) = .int i :=
  Lemmas.tryMakeNumber_intToStr i

/-- `_try_make_number('%.nf' % x)` (n ≥ 1, x a finite float ±m·2^e) is not an integer but the float
whose decimal text was written: sign of x, `scaled n x` = |x|·10^n rounded half-even, n digits after
the point. -/
theorem try_make_number_fixed (n : Nat) (hn : n ≠ 0) (x : Dbl) :
    tryMakeNumber (String.ofList (fmtFixed n x)) = .float x.neg (scaled n x) (-(n : Int)) :=
  Lemmas.tryMakeNumber_fmtFixed n hn x

/-- "float (to the written precision)": the decimal read back differs from |x| by at most half a unit
of the last written digit (exactly equal when x is an integer). -/
theorem written_precision (n : Nat) (x : Dbl) :
    (0 ≤ x.e → scaled n x = x.m * 10 ^ n * 2 ^ x.e.toNat) ∧
    (x.e < 0 →
      2 * (scaled n x * 2 ^ (-x.e).toNat) ≤ 2 * (x.m * 10 ^ n) + 2 ^ (-x.e).toNat ∧
      2 * (x.m * 10 ^ n) ≤ 2 * (scaled n x * 2 ^ (-x.e).toNat) + 2 ^ (-x.e).toNat) :=
  Lemmas.written_precision n x

/-- Cluster tables, end to end on the text of the file: `write_tsv` (`_pretty_floats` with n digits,
`str`, csv writer, `\r\n`) followed by `read_tsv` (universal newlines, delimiter sniffed from the
first line, csv reader, empty cells dropped, `_try_make_number`) returns, per written row, its
(field, value) pairs in header order with absent fields omitted — integers as the same integers, floats
as the written decimal, non-numeric strings (containing the other delimiter, quotes, …) as the same
strings.  Hypotheses = the property's quantifier: cells are integers, finite floats or non-empty strings
that `int()`/`float()` reject, without line break; field names without line break; for a `.tsv` file the
rows use at least two field names ("two or more columns": otherwise the header holds no tab and the
reader takes the file for comma-separated); for a `.csv` file no field name contains a tab (it would
flip the sniffed delimiter).  n = 4 in `write_tsv`. -/
theorem cluster_table_roundtrip (isTsv : Bool) (n : Nat) (hn : n ≠ 0) (rows : List (List (String × WCell)))
    (first : Option String) (hD : ∀ r ∈ rows, ∀ fc ∈ r, WCellOK fc.2)
    (hnames : ∀ f ∈ fieldsOf rows, NoBreak f.toList)
    (htsv : isTsv = true → TwoColumns rows)
    (hcsv : isTsv = false → ∀ f ∈ fieldsOf rows, '\t' ∉ f.toList)
    (text : Str) (hw : writeTsvFile isTsv (renderW n) rows first = some text) :
    ∃ file, writeTsv (renderW n) rows first = some file ∧
      readTsvFile tryMakeNumber text = some (expectedRows file.1 (obsRows (obsW n) rows)) :=
  Lemmas.cluster_table_roundtrip isTsv n hn rows first hD hnames htsv hcsv text hw

/-- The same for any renderer / parser pair (cells of a domain `D` are rendered non-empty, without line
break, and parsed to what `obs` says). -/
theorem table_file_roundtrip {γ δ : Type} (isTsv : Bool) (D : γ → Prop) (render : γ → String)
    (parse : String → δ) (obs : γ → δ)
    (hrt : ∀ c, D c → parse (render c) = obs c) (hne : ∀ c, D c → render c ≠ "")
    (hnb : ∀ c, D c → NoBreak (render c).toList)
    (rows : List (List (String × γ))) (first : Option String) (hD : ∀ r ∈ rows, ∀ fc ∈ r, D fc.2)
    (hnames : ∀ f ∈ fieldsOf rows, NoBreak f.toList)
    (htsv : isTsv = true → TwoColumns rows)
    (hcsv : isTsv = false → ∀ f ∈ fieldsOf rows, '\t' ∉ f.toList)
    (text : Str) (hw : writeTsvFile isTsv render rows first = some text) :
    ∃ file, writeTsv render rows first = some file ∧
      readTsvFile parse text = some (expectedRows file.1 (obsRows obs rows)) :=
  Lemmas.table_file_roundtrip isTsv D render parse obs hrt hne hnb rows first hD hnames htsv hcsv text hw

/-- Two-column cluster tables with arbitrary ids: `_write_tsv_simple` followed by `_read_tsv_simple`
returns the field name and the same dictionary (entries by increasing id; `sortById_perm`: a
permutation of the saved entries) — integer values as integers, floats as what `float(repr(x))` reads,
strings that are not numeric literals (the empty string included) as themselves.  Hypotheses: no line
break in the field name and the values; in a `.csv` file no tab in the field name. -/
theorem simple_table_roundtrip (isTsv : Bool) (field : String) (data : List (Int × SVal))
    (hfield : NoBreak field.toList) (hcsv : isTsv = false → '\t' ∉ field.toList)
    (hvals : ∀ p ∈ data, SValOK p.2) :
    readTsvSimple (writeTsvSimple isTsv field data) =
      some (field, (sortById data).map fun p => (p.1, obsS p.2)) :=
  Lemmas.simple_table_roundtrip isTsv field data hfield hcsv hvals

theorem sortById_perm {α : Type} (l : List (Int × α)) : (sortById l).Perm l :=
  Lemmas.sortById_perm l

/-- `save_metadata` (= `_write_tsv_simple`) followed by `load_metadata` (= the cluster-table reader
`read_tsv` + regrouping by field, phylib/io/model.py:118-141) returns {field: {cluster_id: value}} with
the saved entries.  Beyond the hypotheses of `simple_table_roundtrip`: the ids are distinct (a
dictionary), the field is not called `cluster_id`, and no value is the empty string — `read_tsv` drops
empty cells, so such an entry is lost (and a table holding only empty values loads as `{}`). -/
theorem metadata_roundtrip (isTsv : Bool) (field : String) (data : List (Int × SVal))
    (hfield : NoBreak field.toList) (hcsv : isTsv = false → '\t' ∉ field.toList) (hne : field ≠ "cluster_id")
    (hvals : ∀ p ∈ data, SValOK p.2 ∧ renderS p.2 ≠ "") (hids : (data.map (·.1)).Nodup) :
    loadMetadata (writeTsvSimple isTsv field data) =
      some (if data = [] then [] else [(field, (sortById data).map fun p => (Num.int p.1, obsS p.2))]) :=
  Lemmas.metadata_roundtrip isTsv field data hfield hcsv hne hvals hids

/-- Parameter files: `write_python` followed by `read_python` returns the dictionary that was written,
with the variable names lower-cased — None, booleans, integers, floats (as `float(repr(x))`), strings,
and lists / tuples (empty, one element `(x,)`, several) of those.  Hypotheses = the domain on which
the real code round-trips: names are ASCII identifiers that are not keywords and stay distinct when
lower-cased (real code: `{'Up': 1, 'up': 2}` reads back as `{'up': 2}`); a TOP-LEVEL string contains
no double quote, backslash or line break (it is written `"%s" % v`, not `repr`: real code raises
SyntaxError or returns another string); floats are finite (`inf`/`nan` are written as names: NameError).
Strings inside lists / tuples are arbitrary (quotes, backslashes, tabs, line breaks: `repr` escapes them). -/
theorem params_roundtrip (d : List (String × PVal)) (hk : ∀ kv ∈ d, ParamKeyOK kv.1)
    (hnd : (d.map fun kv => kv.1.toLower).Nodup) (hv : ∀ kv ∈ d, PValOK kv.2) :
    readPython (writePython d) = some (d.map fun kv => (kv.1.toLower, kv.2)) :=
  Lemmas.params_roundtrip d hk hnd hv

/-! Non-vacuity.  Where a long text is given as `"…".toList`, `String.toList_ofList` first turns the literal into its
list of characters (the kernel would get it by decoding UTF-8, which is slow: quadratic in the length). -/
-- a parameter file as phy writes it
example : writePython [("dat_path", .list [.str "a.dat", .str "it's"]), ("n_channels_dat", .scalar (.int 384)),
      ("dtype", .scalar (.str "int16")), ("sample_rate", .scalar (.float "30000.0")),
      ("hp_filtered", .scalar (.bool false)), ("Shape", .tuple [.int 1])] =
    "dat_path = ['a.dat', \"it's\"]\nn_channels_dat = 384\ndtype = \"int16\"\nsample_rate = 30000.0\nhp_filtered = False\nShape = (1,)\n".toList := by
  rw [String.toList_ofList]
  decide +kernel
example : readPython "dat_path = ['a.dat', \"it's\"]\nn_channels_dat = 384\ndtype = \"int16\"\nsample_rate = 30000.0\nhp_filtered = False\nShape = (1,)\n".toList =
    some [("dat_path", .list [.str "a.dat", .str "it's"]), ("n_channels_dat", .scalar (.int 384)),
      ("dtype", .scalar (.str "int16")), ("sample_rate", .scalar (.float "30000.0")),
      ("hp_filtered", .scalar (.bool false)), ("shape", .tuple [.int 1])] := by
  rw [String.toList_ofList]
  decide +kernel
example : PScalarOK (.float "30000.0") ∧ PScalarOK (.float "1e-05") ∧ PScalarOK (.float "-2.5") ∧
    ¬ PScalarOK (.float "inf") ∧ ParamKeyOK "n_channels_dat" ∧ ¬ ParamKeyOK "class" ∧ ¬ ParamKeyOK "2x" := by
  unfold PScalarOK ParamKeyOK
  decide +kernel
-- what the hypotheses exclude: a top-level string with a backslash or a quote is not read back
example : readPython (writePython [("p", .scalar (.str "C:\\data"))]) = none ∧
    readPython (writePython [("p", .scalar (.str "say \"hi\""))]) = none := by decide +kernel
-- a .tsv cluster table: int / float / text with the other delimiter, quotes and a tab; an absent field
example : (writeTsvFile true (renderW 4)
      [[("cluster_id", .int 0), ("group", .text "good"), ("amp", .float ⟨true, 5404319552844595, -52⟩)],
       [("group", .text "a\tb, \"c\""), ("cluster_id", .int (-3))]] (some "cluster_id")) =
    some "cluster_id\tamp\tgroup\r\n0\t-1.2000\tgood\r\n-3\t\t\"a\tb, \"\"c\"\"\"\r\n".toList := by
  rw [String.toList_ofList]
  decide +kernel
example : readTsvFile tryMakeNumber
      "cluster_id\tamp\tgroup\r\n0\t-1.2000\tgood\r\n-3\t\t\"a\tb, \"\"c\"\"\"\r\n".toList =
    some [[("cluster_id", .int 0), ("amp", .float true 12000 (-4)), ("group", .text "good")],
          [("cluster_id", .int (-3)), ("group", .text "a\tb, \"c\"")]] := by
  rw [String.toList_ofList]
  decide +kernel
example : WCellOK (.text "a\tb, \"c\"") ∧ WCellOK (.text "good") ∧ WCellOK (.text "1e") ∧
    ¬ NonNumeric "1e5" ∧ ¬ NonNumeric " 12 " ∧ ¬ NonNumeric "nan" := by
  unfold WCellOK NonNumeric
  decide +kernel
example : TwoColumns [[("cluster_id", WCell.int 0), ("group", .text "good")]] :=
  ⟨"cluster_id", "group", by simp only [ne_eq, String.reduceEq, not_false_eq_true], .head _, .tail _ (.head _)⟩
-- one column in a .tsv file: the header holds no tab, the file is read as comma-separated
example : (writeTsvFile true (renderW 4) [[("a", .text "x,y")]] none).bind (readTsvFile tryMakeNumber) =
    some [[("a", .text "x")]] := by decide +kernel
-- '%.4f': ties go to the even digit (0.03125 -> 0.0312, 0.09375 -> 0.0938), -0.0 keeps its sign
example : fmtFixed 4 ⟨false, 1, -5⟩ = "0.0312".toList ∧ fmtFixed 4 ⟨false, 3, -5⟩ = "0.0938".toList ∧
    fmtFixed 4 ⟨true, 0, 0⟩ = "-0.0000".toList ∧ fmtFixed 4 ⟨false, 123, 0⟩ = "123.0000".toList := by decide +kernel
-- a two-column .csv table
example : writeTsvSimple false "group" [(3, .text "a,b"), (-1, .int 5), (2, .float "0.25")] =
    "cluster_id,group\r\n-1,5\r\n2,0.25\r\n3,\"a,b\"\r\n".toList ∧
    readTsvSimple "cluster_id,group\r\n-1,5\r\n2,0.25\r\n3,\"a,b\"\r\n".toList =
      some ("group", [(-1, .int 5), (2, .float false 25 (-2)), (3, .text "a,b")]) := by
  rw [String.toList_ofList]
  decide +kernel
-- blank lines (between two rows, at the end, LF or CRLF) are not rows: skipped; a line with one or three fields, or a
-- blank FIRST line (no header), still makes the reader raise
example : readTsvSimple "cluster_id\tgroup\r\n1\tgood\r\n\r\n2\tmua\n\n\r\n".toList =
      some ("group", [(1, .text "good"), (2, .text "mua")]) ∧
    readTsvSimple "cluster_id\tgroup\n1\tgood\n7\n".toList = none ∧
    readTsvSimple "cluster_id\tgroup\n1\tgood\tx\n".toList = none ∧
    readTsvSimple "\ncluster_id\tgroup\n1\tgood\n".toList = none := by
  rw [String.toList_ofList, String.toList_ofList, String.toList_ofList, String.toList_ofList]
  decide +kernel
example : loadMetadata (writeTsvSimple true "group" [(3, .text "good"), (-1, .text "mua"), (2, .text "")]) =
    some [("group", [(.int (-1), .text "mua"), (.int 3, .text "good")])] := by decide +kernel
example : FloatLit "30000.0" ∧ FloatLit "1e-05" ∧ FloatLit "-2.5" :=
  ⟨⟨false, 300000, -1, by decide +kernel⟩, ⟨false, 1, -5, by decide +kernel⟩, ⟨true, 25, -1, by decide +kernel⟩⟩
example : csvParseLine ',' (csvRow ',' ["a,b".toList, [], "q\"r".toList]) = ["a,b".toList, [], "q\"r".toList] ∧
    csvRow ',' [[]] = "\"\"".toList ∧ csvParseLine ',' [] = [] := by decide +kernel
example : decode (encode (.arr "int32" [3] [1] 0 [1, 2, 3])) = .list (.cons (.int 1) (.cons (.int 2) (.cons (.int 3) .nil))) :=
  small_array_roundtrip _ _ _ _ _ (by decide) (by decide +kernel)
-- a reversed view `a[::-1]` of a buffer of 3 items
example : decode (encode (.arr "int32" [3] [-1] 2 [1, 2, 3])) = .list (.cons (.int 3) (.cons (.int 2) (.cons (.int 1) .nil))) :=
  small_array_roundtrip _ _ _ _ _ (by decide) (by decide +kernel)
-- a Fortran-ordered 2x3 array (strides 1, 2) inside a list, big-endian dtype: comes back C-contiguous
-- with the same shape and dtype, elements in row-major order
example : decode (encode (.list (.cons (.arr ">f4" [2, 3] [1, 2] 0 [10, 20, 11, 21, 12, 22]) (.cons (.npScalar 7) .nil)))) =
    .list (.cons (.arr ">f4" [2, 3] [3, 1] 0 [10, 11, 12, 20, 21, 22]) (.cons (.int 7) .nil)) := by
  refine (value_roundtrip _ ?_).trans (by rfl)
  exact And.intro trivial (And.intro trivial trivial)
-- NumPy scalars without a JSON number form (long double, complex): written as the 0-d array, come back as a 0-d array
-- of the same dtype holding the value; a 3-item long double array is not written as a list of numbers
example : decode (encode (.npExotic "float128" 7)) = .arr "float128" [] [] 0 [7] ∧ canon (.npExotic "complex64" 7) = .arr "complex64" [] [] 0 [7] :=
  ⟨Lemmas.decode_marker _ _ _, rfl⟩
example : decode (encode (.arr "float128" [3] [-1] 2 [1, 2, 3])) =
      .arr "float128" [3] (cStrides [3]) 0 (gather [1, 2, 3] [3] [-1] 2) ∧ gather [1, 2, 3] [3] [-1] 2 = [3, 2, 1] ∧
    noListDtype "float128" = true ∧ noListDtype "complex256" = true ∧ noListDtype "float64" = false := by
  have h : noListDtype "float128" = true := by decide +kernel
  exact ⟨array_roundtrip _ _ _ _ _ fun n _ => by rw [h, Bool.not_true, Bool.and_false],
    by decide +kernel, h, by decide +kernel, by decide +kernel⟩
-- the hook reads dtype and shape from the marker: other entries give another array
example : decode (.dict (.cons "__ndarray__" (.payload "int16" [1, 2, 3, 4, 5, 6])
      (.cons "dtype" (.str "int16") (.cons "shape" (.list (ofNats [3, 2])) .nil)))) =
    .arr "int16" [3, 2] [2, 1] 0 [1, 2, 3, 4, 5, 6] := Lemmas.decode_marker _ _ _
example : IdxOK [2, 3] [1, 2] ∧ getAt [1, 2] 0 [10, 20, 11, 21, 12, 22] [1, 2] = 22 ∧
    getAt (cStrides [2, 3]) 0 (gather [10, 20, 11, 21, 12, 22] [2, 3] [1, 2] 0) [1, 2] = 22 :=
  ⟨⟨by decide, by decide, trivial⟩, by decide +kernel, by decide +kernel⟩
-- `int()` / `float()` convert Unicode decimal digits and white space first: Arabic-Indic "12", fullwidth "1.5", a
-- number between no-break spaces, a mathematical bold zero are numeric literals; superscript two, a circled one, a
-- zero-width space in front are not
example : tryMakeNumber "١٢" = .int 12 ∧ tryMakeNumber "１.５" = .float false 15 (-1) ∧
    tryMakeNumber " -7 " = .int (-7) ∧ tryMakeNumber "𝟎" = .int 0 ∧
    tryMakeNumber "²" = .text "²" ∧ tryMakeNumber "①" = .text "①" ∧
    tryMakeNumber "​12" = .text "​12" ∧ ¬ NonNumeric "١٢" := by
  unfold NonNumeric
  decide +kernel
example : intifyKey (stringifyKey (.int (-1))) = .int (-1) := by decide +kernel
example : intifyKey (stringifyKey (.str "12")) = .int 12 := by decide +kernel     -- why digit strings are out of scope
example : writeTsv (fun (c : Cell) => match c with | .int i => toString i | .float t => s!"f{t}" | .text s => s)
    [[("id", .int 3), ("b", .text "x")], [("a", .float 1), ("id", .int 4)]] (some "id") =
    some (["id", "a", "b"], [["3", "", "x"], ["4", "f1", ""]]) := by decide +kernel
-- the concrete `str` / `_try_make_number` pair: int column + label column, some fields absent
example : (writeTsv renderPy
      [[("cluster_id", .int 0), ("group", .text "good")], [("cluster_id", .int (-3))],
       [("group", .text "mua"), ("cluster_id", .int 12)]] (some "cluster_id")).map (readTsv parsePy) =
    some (expectedRows ["cluster_id", "group"]
      [[("cluster_id", .int 0), ("group", .text "good")], [("cluster_id", .int (-3))],
       [("group", .text "mua"), ("cluster_id", .int 12)]]) := by decide +kernel
example : parsePy "12" = .int 12 ∧ parsePy "good" = .text "good" ∧ parsePy "-3" = .int (-3) := by decide +kernel

/-! ### strings inside the JSON file: text, file encoding, scanner (`Model/C18j.lean`) -/

/-- Whatever the code points of a str (controls, Latin-1, astral, LONE SURROGATES, even numbers that are
not code points), the literal `save_json` writes for it is printable ASCII.  No hypothesis on `s`. -/
theorem json_string_text_ascii (s : PyStr) : ∀ b ∈ strLiteral s, 32 ≤ b ∧ b ≤ 126 :=
  Lemmas.strLiteral_ascii s

/-- Hence the write cannot fail whatever encoding the locale gives the file (`path.open('w')` is text mode
with the locale encoding and `errors='strict'`): the strict `'ascii'` codec encodes the literal to itself,
and the `'utf-8'` codec - which refuses surrogates - accepts it. -/
theorem json_string_encodable (s : PyStr) :
    strictAscii (strLiteral s) = some (strLiteral s) ∧ strictUtf8Ok (strLiteral s) = true :=
  ⟨Lemmas.strictAscii_literal s, Lemmas.strictUtf8_literal s⟩

/-- Strings are preserved: scanning the text written for `s` (after the opening quote, up to the closing
one, whatever follows it) returns exactly `s` and the text after the closing quote - for every str
(`ValidStr`: code points up to U+10FFFF, lone surrogates included) in which no high surrogate is directly
followed by a low surrogate (`NoJoin`).  At the excluded point the REAL code does not round-trip either:
`save_json(p, {'k': '\ud83e\udde0'})` then `load_json(p)['k']` is the one character U+1F9E0 (the `json`
library joins the pair; `json_string_joined_example`, compared with the real code by the harness). -/
theorem json_string_roundtrip (s : PyStr) (rest : List Nat) (hv : ValidStr s) (hj : NoJoin s) :
    scan (escapeStr s ++ 34 :: rest) = some (s, rest) :=
  Lemmas.scan_escapeStr s rest hv hj

/-- The same through a file whose encoding is ASCII (a process under `LC_ALL=C` without UTF-8 mode): write
with the strict codec, read back, scan. -/
theorem json_string_roundtrip_ascii_file (s : PyStr) (hv : ValidStr s) (hj : NoJoin s) :
    strViaAsciiFile s = some (s, []) :=
  Lemmas.strViaAsciiFile_eq s hv hj

/-- what happens at the point `NoJoin` excludes: a high surrogate directly followed by a low one comes back
as ONE astral character -/
theorem json_string_joined_example :
    escapeStr [55358, 56800] = escapeStr [129504] ∧ ¬ NoJoin [55358, 56800] ∧
    scan (escapeStr [55358, 56800] ++ [34]) = some ([129504], []) :=
  ⟨by decide, by decide, json_string_roundtrip [129504] [] (by decide) (by decide)⟩

-- 'é', the undecodable byte 0xE9 of a file name (U+DCE9), an astral character, '"', a newline, DEL
example : escapeStr [233, 56553, 129504, 34, 10, 127] =
    [92, 117, 48, 48, 101, 57,  92, 117, 100, 99, 101, 57,  92, 117, 100, 56, 51, 101, 92, 117, 100, 100, 101, 48,
     92, 34,  92, 110,  92, 117, 48, 48, 55, 102] := by decide +kernel
example : ValidStr [114, 56553, 55358, 120, 56800, 1114111] ∧ NoJoin [114, 56553, 55358, 120, 56800, 1114111] := by decide +kernel
example : scan (escapeStr [114, 56553, 55358, 120, 56800, 1114111] ++ [34, 10, 125]) =
    some ([114, 56553, 55358, 120, 56800, 1114111], [10, 125]) :=
  json_string_roundtrip _ _ (by decide +kernel) (by decide +kernel)
-- a low surrogate FOLLOWED by a high one is fine
example : NoJoin [56800, 55358] := by decide
-- the strict codecs on raw (unescaped) text: what `ensure_ascii=False` would hand to the file
example : strictAscii [34, 233, 34] = none ∧ strictUtf8Ok [34, 233, 34] = true ∧ strictUtf8Ok [34, 56553, 34] = false := by decide +kernel

end PhyVerif.C18
