import PhyVerif.Model.C17
import PhyVerif.Spec.C17
import PhyVerif.Lemmas.C17
import PhyVerif.Lemmas.C17b
import PhyVerif.Lemmas.C17c
import PhyVerif.Lemmas.C17d
/-!
# C17 — spike selection honours its cluster, chunk, subset and count constraints
Only property theorems + non-vacuity examples; proofs in `Lemmas/C17.lean`, `C17b.lean`, `C17c.lean`, `C17d.lean`.
-/
namespace PhyVerif.C17
open PhyVerif

/-- Kept chunks: whole intervals of the grid at a regular stride starting with the first, never
more than the requested number — for every grid and every requested number ≥ 1. -/
theorem chunksKept_ok (bounds : List Int) (nKept : Nat) (hk : 1 ≤ nKept) :
    keptOK bounds nKept (chunksKept bounds nKept) = true :=
  Lemmas.chunksKept_ok bounds nKept hk

/-- The parity test in the flattened kept bounds (touching intervals `[a,b,b,c]` included) is
exactly membership in some kept interval `a ≤ t < b`. -/
theorem parity_iff_in_kept (bounds : List Int) (nKept : Nat) (hg : GridOK bounds)
    (t : Int) :
    timeInChunks (chunksKept bounds nKept) t = inKept bounds nKept t :=
  Lemmas.parity_iff_in_kept bounds nKept hg t

/-- Main theorem: for EVERY admissible random choice the selection satisfies all constraints:
strictly increasing; only spikes of requested clusters, inside kept chunks when asked, inside the
subset when given; per requested cluster all eligible spikes when they number at most the count
(or no positive count is given) and exactly `count` of them otherwise; unknown clusters nothing. -/
theorem selection_ok (choose : List Nat → Nat → List Nat) (hch : ChooseOK choose) (x : Inp)
    (hg : GridOK x.bounds) :
    SpecOK x (selectWith choose x) = true :=
  Lemmas.selection_ok choose hch x hg

/-- The kept-chunk clause in the statement's own words, with no reference to the code's stride formula: the
flattened kept bounds are the grid intervals at SOME regular stride ≥ 1 starting with the first, at most the
requested number of them.  (The statement says "never more than the requested number", NOT "as many as it allows":
`keptOKAny` accepts any coarser regular stride too, down to the first chunk alone — see its docstring and the example
below.  That the code takes the finest admissible stride is `stride_minimal`, a fact about the model, tied to the real
selector by the exact comparison of `chunks_kept`: a CORR verdict.) -/
theorem chunksKept_any_stride (bounds : List Int) (nKept : Nat) (hg : GridOK bounds) (hk : 1 ≤ nKept) :
    keptOKAny bounds nKept (chunksKept bounds nKept) = true :=
  Lemmas.chunksKept_any_stride bounds nKept hg hk

/-- Which stride the code takes: the SMALLEST regular stride that keeps at most `k` of the `n` chunks (so as
many chunks as the requested number allows are kept). -/
theorem stride_minimal (n k : Nat) (hk : 1 ≤ k) :
    (n + stride n k - 1) / stride n k ≤ k ∧
    ∀ s, 1 ≤ s → (n + s - 1) / s ≤ k → stride n k ≤ s :=
  Lemmas.stride_minimal n k hk

/-- Main theorem restated on the domain of the real selector and relative to the kept intervals READ BACK from
the selector's own `chunks_kept` attribute (this is the form the check evaluates on the real output: first
`keptOKAny` on the real `chunks_kept`, then `SpecOKIn` with the intervals read back from it). -/
theorem selection_ok_in (choose : List Nat → Nat → List Nat) (hch : ChooseOK choose) (x : Inp) (hd : Dom x) :
    keptOKAny x.bounds x.nKept (chunksKept x.bounds x.nKept) = true ∧
    SpecOKIn (pairsOf (chunksKept x.bounds x.nKept)) x (selectWith choose x) = true := by
  refine ⟨Lemmas.chunksKept_any_stride _ _ hd.grid hd.kept, ?_⟩
  rw [Lemmas.chunksKept_eq, ← flatOf, Lemmas.pairsOf_flatOf, ← Lemmas.specOK_eq_in]
  exact Lemmas.selection_ok choose hch x hd.grid

/-- Only the ORDER of spike times and chunk bounds matters, FOR INTEGER RE-TIMINGS: seen through any strictly increasing
map `f : Int → Int` of the time axis (`Inp.mapTimes`: times and bounds both mapped) the selection is the same list of
spike ids and the kept chunks are the images of the kept chunks — for every random choice and every input of the real
selector's domain (`Dom x`: a grid of ≥ 2 strictly increasing bounds, `1 ≤ nKept` — at `nKept = 0` the real constructor
raises ZeroDivisionError and there is nothing to compare —, one time per spike).  The statement is about `Int → Int`
only: it covers shifted, negative and rescaled INTEGER times and grids.  It does NOT by itself cover rational or
float-typed times; that such inputs behave as their integer order-images is an argument outside this theorem (each
finite set of rationals is the strictly increasing image of integers) and, for the real selector, is what the
correspondence run checks when it hands the real code `(t − shift)·scale` for the model's `t`. -/
theorem selection_order_invariant (choose : List Nat → Nat → List Nat) (f : Int → Int)
    (hf : ∀ a b, a < b → f a < f b) (x : Inp) (hdom : Dom x) :
    selectWith choose (x.mapTimes f) = selectWith choose x ∧
    chunksKept (x.mapTimes f).bounds x.nKept = (chunksKept x.bounds x.nKept).map f :=
  ⟨Lemmas.selectWith_mapTimes choose f hf x hdom.times, Lemmas.chunksKept_map f x.bounds x.nKept⟩

/-- Closed form, and determinism: when no positive count is given (`None`, `0`, negative) the selection does not depend on
the random choice at all and is EXACTLY the increasing list of spike ids whose cluster is requested, whose time lies in a
kept chunk (when chunk restriction is on) and which are in the subset (when one is given) — one filter over the spike
ids, no per-cluster bookkeeping.  No `ChooseOK` hypothesis: `choose` is arbitrary. -/
theorem selection_noCount_closed_form (choose : List Nat → Nat → List Nat) (x : Inp) (hg : GridOK x.bounds)
    (hn : NoCount x) : selectWith choose x = allEligible x :=
  Lemmas.selectWith_noCount choose x hg hn

/-- Two selectors with different random sources agree whenever no positive count is given. -/
theorem selection_noCount_deterministic (choose choose' : List Nat → Nat → List Nat) (x : Inp) (hg : GridOK x.bounds)
    (hn : NoCount x) : selectWith choose x = selectWith choose' x := by
  rw [Lemmas.selectWith_noCount choose x hg hn, Lemmas.selectWith_noCount choose' x hg hn]

/-- A count only REMOVES spikes: for every admissible random choice and every count, each returned spike is one the
uncounted selection returns (stated against the closed form, hence against every uncounted run). -/
theorem selection_sub_uncounted (choose choose' : List Nat → Nat → List Nat) (hch : ChooseOK choose) (x : Inp)
    (hg : GridOK x.bounds) (v : Nat) (h : v ∈ selectWith choose x) :
    v ∈ selectWith choose' { x with count := none } := by
  have hx : allEligible { x with count := none } = allEligible x := rfl
  rw [Lemmas.selectWith_noCount choose' { x with count := none } hg (by unfold NoCount; trivial), hx]
  exact Lemmas.selectWith_sub_allEligible choose hch x hg v h

/-- Link to C07: without count, chunk restriction and subset the selector IS `_spikes_in_clusters` of the cluster vector
(the model of C07, whose theorem `C07.spikesInClusters_eq_union` says it is the sorted union of the groups). -/
theorem selection_plain_eq_spikesInClusters (choose : List Nat → Nat → List Nat) (x : Inp) (hg : GridOK x.bounds)
    (hn : NoCount x) (hc : x.subsetChunks = false) (hs : x.subset = none) :
    selectWith choose x = C07.spikesInClusters x.clusters x.req := by
  rw [Lemmas.selectWith_noCount choose x hg hn, Lemmas.allEligible_plain x hc hs]

/-! Non-vacuity -/
example : chunksKept [0, 10, 20, 30, 40, 50] 2 = [0, 10, 30, 40] := by decide +kernel
example : keptOK [0, 10, 20, 30, 40, 50] 2 (chunksKept [0, 10, 20, 30, 40, 50] 2) = true := by decide +kernel
example : ChooseOK (fun l n => l.take n) := by
  intro l n hl hn
  exact ⟨hl.sublist (List.take_sublist _ _), List.length_take_of_le (Nat.le_of_lt hn),
    fun v hv => List.mem_of_mem_take hv⟩
example :
    let x : Inp := ⟨[1, 5, 12, 31, 33, 39, 45], [2, 2, 7, 2, 2, 2, 7], [0, 10, 20, 30, 40, 50], 2, some 2,
                    [7, 2, 9], true, none⟩
    selectWith (fun l n => l.take n) x = [0, 1] ∧ SpecOK x [0, 1] = true ∧ SpecOK x [1, 4] = true ∧
      SpecOK x [0, 1, 3] = false := by decide +kernel
example : keptOKAny [0, 10, 20, 30, 40, 50] 2 [0, 10, 30, 40] = true ∧   -- the code's stride 3
    keptOKAny [0, 10, 20, 30, 40, 50] 2 [0, 10, 40, 50] = true ∧          -- stride 4: another admissible answer
    keptOKAny [0, 10, 20, 30, 40, 50] 2 [0, 10, 20, 30, 40, 50] = false ∧ -- stride 2 keeps three chunks
    keptOKAny [0, 10, 20, 30, 40, 50] 2 [10, 20, 40, 50] = false := by decide +kernel  -- does not start with the first
example : stride 5 2 = 3 ∧ stride 7 3 = 3 ∧ stride 4 9 = 1 := by decide +kernel
-- "never more than the requested number" is all the statement asks: the first chunk alone passes for 3 requested
example : keptOKAny [0, 10, 20, 30] 3 [0, 10] = true ∧ chunksKept [0, 10, 20, 30] 3 = [0, 10, 10, 20, 20, 30] := by decide +kernel
example :
    let x : Inp := ⟨[1, 5, 12, 31, 33, 39, 45], [2, 2, 7, 2, 2, 2, 7], [0, 10, 20, 30, 40, 50], 2, some 2,
                    [7, 2, 9], true, none⟩
    (x.mapTimes (fun t => 3 * t - 100)).times = [-97, -85, -64, -7, -1, 17, 35] ∧
    (x.mapTimes (fun t => 3 * t - 100)).bounds = [-100, -70, -40, -10, 20, 50] ∧
    selectWith (fun l n => l.take n) (x.mapTimes (fun t => 3 * t - 100)) = [0, 1] ∧
    chunksKept (x.mapTimes (fun t => 3 * t - 100)).bounds 2 = [-100, -70, -10, 20] := by decide +kernel
-- the input of the re-timing example above is in the domain, and `t ↦ 3t − 100` is strictly increasing
example : Dom ⟨[1, 5, 12, 31, 33, 39, 45], [2, 2, 7, 2, 2, 2, 7], [0, 10, 20, 30, 40, 50], 2, some 2, [7, 2, 9], true, none⟩ :=
  ⟨⟨by decide +kernel, by decide +kernel⟩, by decide, by decide⟩
example : ∀ a b : Int, a < b → 3 * a - 100 < 3 * b - 100 :=
  fun _ _ h => Int.sub_lt_sub_right (Int.mul_lt_mul_of_pos_left h (by decide)) 100
example : Dom ⟨[1, 5, 12], [2, 2, 7], [0, 10, 20], 1, some 2, [7, 2], true, none⟩ :=
  ⟨⟨by decide +kernel, by decide +kernel⟩, by decide, by decide⟩

-- closed form: an input with count 0 (no effect), chunk restriction on; a reversed "random" choice changes nothing
example :
    let x : Inp := ⟨[1, 5, 12, 31, 33, 39, 45], [2, 2, 7, 2, 2, 2, 7], [0, 10, 20, 30, 40, 50], 2, some 0,
                    [7, 2, 9], true, none⟩
    NoCount x ∧ allEligible x = [0, 1, 3, 4, 5] ∧ selectWith (fun l n => l.reverse.take n) x = [0, 1, 3, 4, 5] := by
  exact ⟨Int.le_refl 0, by decide +kernel, by decide +kernel⟩
-- with a count of 2 the selection [0, 1] is inside it; plain selection = `_spikes_in_clusters`
example :
    let x : Inp := ⟨[1, 5, 12, 31, 33, 39, 45], [2, 2, 7, 2, 2, 2, 7], [0, 10, 20, 30, 40, 50], 2, none,
                    [7, 2, 9], false, none⟩
    NoCount x ∧ selectWith (fun l n => l.take n) x = [0, 1, 2, 3, 4, 5, 6] ∧
      C07.spikesInClusters x.clusters x.req = [0, 1, 2, 3, 4, 5, 6] := by
  exact ⟨trivial, by decide +kernel, by decide +kernel⟩

end PhyVerif.C17
