import PhyVerif.Model.C07
import PhyVerif.Spec.C07
import PhyVerif.Lemmas.C07
import PhyVerif.Lemmas.C07b
/-!
# C07 — spike-cluster index utilities partition the spikes
Only property theorems + non-vacuity examples; proofs in `Lemmas/C07.lean` and `Lemmas/C07b.lean`.
-/
namespace PhyVerif.C07
open PhyVerif

/-- Grouping (stable argsort + boundaries from first differences computed *in the dtype*) yields,
for each cluster id present and no other, in increasing id order, exactly the increasing spike
indices (or supplied spike ids) carrying that id — for every length, every signed/unsigned width. -/
theorem groups_eq_spec (w : Nat) (signed : Bool) (sc : List Nat) (ids : Option (List Nat))
    (hw : 0 < w) (hfit : FitsDtype w signed sc)
    (hids : ∀ l, ids = some l → l.length = sc.length) :
    spikesPerCluster w signed sc ids = specGroups sc ids :=
  Lemmas.groups_eq_spec w signed sc ids hw hfit hids

/-- The groups partition all spikes: keys strictly increasing (so distinct) and the groups
together are a permutation of all spike indices. -/
theorem groups_partition (sc : List Nat) :
    ((specGroups sc none).map (·.1)).Pairwise (· < ·) ∧
    ((specGroups sc none).map (·.2)).flatten.Perm (List.range sc.length) :=
  Lemmas.groups_partition sc

/-- "exactly the INCREASING array of spike indices (or supplied spike ids)": every group is strictly
increasing — for spike indices always, for supplied spike ids when the supplied ids are increasing
(`_spikes_per_cluster` never sorts the ids: `abs_spikes = spike_ids[rel_spikes]`, array.py:344). -/
theorem groups_increasing (w : Nat) (signed : Bool) (sc : List Nat) (ids : Option (List Nat))
    (hw : 0 < w) (hfit : FitsDtype w signed sc)
    (hids : ∀ l, ids = some l → l.length = sc.length ∧ l.Pairwise (· < ·)) :
    ∀ p ∈ spikesPerCluster w signed sc ids, p.2.Pairwise (· < ·) :=
  Lemmas.groups_increasing w signed sc ids hw hfit hids

/-- What holds exactly for ARBITRARY supplied ids (any order, repetitions): each group lists the ids
in the order of their positions (`groups_eq_spec`), hence all groups are increasing if and only if
the supplied ids increase inside every cluster.  The real helper behaves the same on unsorted ids
(`_spikes_per_cluster([1,0,1], [30,20,10])` gives `{0: [20], 1: [30, 10]}`; compared by the
correspondence on unsorted and repeated supplied ids).  Ids shorter than the assignment vector are
rejected by the real code (IndexError), longer ones have their tail ignored: `hids` is its domain. -/
theorem groups_increasing_iff (w : Nat) (signed : Bool) (sc : List Nat) (ids : Option (List Nat))
    (hw : 0 < w) (hfit : FitsDtype w signed sc)
    (hids : ∀ l, ids = some l → l.length = sc.length) :
    (∀ p ∈ spikesPerCluster w signed sc ids, p.2.Pairwise (· < ·)) ↔
      ∀ l, ids = some l → ∀ i j, i < j → j < sc.length → sc.getD i 0 = sc.getD j 0 →
        l.getD i 0 < l.getD j 0 :=
  Lemmas.groups_increasing_iff w signed sc ids hw hfit hids

/-- With supplied spike ids the groups partition the SUPPLIED ids (keys strictly increasing, the
groups together a permutation of the supplied vector), whatever their order. -/
theorem groups_partition_ids (sc l : List Nat) (hlen : l.length = sc.length) :
    ((specGroups sc (some l)).map (·.1)).Pairwise (· < ·) ∧
    ((specGroups sc (some l)).map (·.2)).flatten.Perm l :=
  Lemmas.groups_partition_ids sc l hlen

/-- Differences of a sorted id vector never wrap, signed or unsigned. -/
theorem diff_no_wrap (w : Nat) (signed : Bool) (a b : Nat) (hw : 0 < w) (hab : a ≤ b)
    (hb : (b : Int) < (if signed then 2 ^ (w - 1) else 2 ^ w)) :
    (wrapDiff w signed a b > 0 ↔ a < b) :=
  Lemmas.diff_no_wrap w signed a b hw hab hb

/-- Selecting the spikes of any set of clusters (unsorted, partly absent) is the sorted union
of their groups. -/
theorem spikesInClusters_eq_union (sc cl : List Nat) :
    IsSortedSetOf (spikesInClusters sc cl) (fun i => ∃ c ∈ cl, i ∈ members sc none c) :=
  Lemmas.spikesInClusters_eq_union sc cl

/-- `_unique`: strictly increasing, exactly the non-negative values present. -/
theorem unique_spec (l : List Int) :
    IsSortedSetOf (Np.unique l) (fun v => Int.ofNat v ∈ l) :=
  Lemmas.unique_spec l

/-- `_index_of` on any (unsorted) duplicate-free lookup, ids of any magnitude: position of each element
IN THE LOOKUP AS GIVEN (`positionsIn`, not the rank among the sorted lookup values). -/
theorem indexOf_spec (arr : List Int) (lookup : List Nat) (hl : lookup.Nodup)
    (ha : ∀ a ∈ arr, 0 ≤ a ∧ a.toNat ∈ lookup) :
    Np.indexOf arr lookup = some (positionsIn arr lookup) :=
  Lemmas.indexOf_spec arr lookup hl ha

/-- `_flatten_per_cluster`: sorted union of the groups.  (The real helper raises `ValueError` on an
empty dictionary — `np.concatenate` of nothing —, where the model returns `[]`: the hypothesis
states the domain, the proof does not need it; the harness checks the empty case separately.) -/
theorem flatten_spec (d : List (Nat × List Nat)) (_hd : d ≠ []) :
    IsSortedSetOf (flattenPerCluster d) (fun v => ∃ p ∈ d, v ∈ p.2) :=
  Lemmas.flatten_spec d

/-- `grouped_mean`: per sorted distinct cluster, (sum over members, member count). -/
theorem groupedMean_spec (arr : List Int) (sc : List Nat) (h : arr.length = sc.length) :
    groupedMean arr sc = some (groupedSums arr sc) :=
  Lemmas.groupedMean_spec arr sc h

/-- `grouped_mean` as returned (the quotients `t / spike_counts`, array.py:387): per sorted distinct
cluster the exact quotient sum / count, every count being positive (no `x / 0 = 0` involved). -/
theorem groupedMeanQ_spec (arr : List Int) (sc : List Nat) (h : arr.length = sc.length) :
    groupedMeanQ arr sc = some ((groupedSums arr sc).map fun p => (p.1 : Rat) / (p.2 : Rat)) ∧
    ∀ p ∈ groupedSums arr sc, 0 < p.2 :=
  Lemmas.groupedMeanQ_spec arr sc h

/-- per-cluster / per-template spike queries are the member lists -/
theorem clusterSpikes_eq_members (sc : List Nat) (c : Nat) :
    spikesInClusters sc [c] = members sc none c :=
  Lemmas.clusterSpikes_eq_members sc c

/-- per-cluster template histogram: entry t counts the spikes of cluster c with template t -/
theorem templateCounts_spec (sc st : List Nat) (nt c : Nat) (hlen : st.length = sc.length)
    (hst : ∀ t ∈ st, t < nt) :
    (templateCounts sc st nt c).length = nt ∧
    ∀ t, t < nt → (templateCounts sc st nt c).getD t 0 =
      ((List.range sc.length).filter fun i => sc.getD i 0 == c && st.getD i 0 == t).length :=
  Lemmas.templateCounts_spec sc st nt c hlen hst

/-! Non-vacuity -/
example : spikesPerCluster 16 false [7, 2, 7, 0, 2, 7] none = [(0, [3]), (2, [1, 4]), (7, [0, 2, 5])] := by
  decide +kernel
example : specGroups [7, 2, 7, 0, 2, 7] none = [(0, [3]), (2, [1, 4]), (7, [0, 2, 5])] := by decide +kernel
example : FitsDtype 16 false [7, 2, 7, 0, 2, 7] := by unfold FitsDtype; decide +kernel
example : wrapDiff 8 false 200 100 = 156 := by decide +kernel   -- unsigned differences DO wrap when unsorted
example : groupedMean [10, 20, 30, 40] [3, 1, 3, 1] = some [(60, 2), (40, 2)] := by decide +kernel
example : groupedMeanQ [10, 20, 31, 40] [3, 1, 3, 1] = some [30, 41 / 2] := by decide +kernel
-- unsorted lookups: the position in the lookup as given, not the rank of the value; large sparse ids
example : Np.indexOf [7, 2, 7, 0] [7, 0, 2] = some [0, 2, 0, 1] := by decide +kernel
example : positionsIn [7, 2, 7, 0] [7, 0, 2] = [0, 2, 0, 1] := by decide +kernel
example : positionsIn [1000000, 0, 16777221] [1000000, 16777221, 0] = [0, 2, 1] := by decide +kernel
example : [1000000, 16777221, 0].Nodup := by decide +kernel
-- supplied ids: increasing ids give increasing groups, unsorted ids do not (and are not sorted)
example : spikesPerCluster 32 true [1, 0, 1] (some [10, 20, 30]) = [(0, [20]), (1, [10, 30])] := by decide +kernel
example : spikesPerCluster 32 true [1, 0, 1] (some [30, 20, 10]) = [(0, [20]), (1, [30, 10])] := by decide +kernel
example : [10, 20, 30].Pairwise (· < ·) := by decide +kernel
example : ((specGroups [1, 0, 1] (some [30, 20, 10])).map (·.2)).flatten = [20, 30, 10] := by decide +kernel

/-- The per-cluster template histogram CONSERVES the cluster's spikes: its entries sum to the number of spikes of the
cluster (no spike of the cluster is dropped or counted twice, whatever the templates are) — the whole-histogram
companion of the entry-wise `templateCounts_spec`. -/
theorem templateCounts_sum (sc st : List Nat) (nt c : Nat) (hlen : st.length = sc.length)
    (hst : ∀ t ∈ st, t < nt) :
    (templateCounts sc st nt c).sum = (spikesInClusters sc [c]).length :=
  Lemmas.templateCounts_sum sc st nt c hlen hst

example : templateCounts [3, 5, 3, 3, 5] [0, 2, 2, 0, 1] 4 3 = [2, 0, 1, 0] ∧
    ([2, 0, 1, 0] : List Nat).sum = 3 ∧ spikesInClusters [3, 5, 3, 3, 5] [3] = [0, 2, 3] := by decide +kernel

/-- Selecting the spikes of ALL clusters present (the sorted distinct ids of the assignment vector — what `_unique`
returns) gives every spike exactly once, in order: the union of all groups is `0..n-1`. -/
theorem spikesInClusters_all (sc : List Nat) :
    spikesInClusters sc (distinctSorted sc) = List.range sc.length :=
  Lemmas.spikesInClusters_all sc

example : distinctSorted [3, 5, 3, 3, 5] = [3, 5] ∧ spikesInClusters [3, 5, 3, 3, 5] [3, 5] = [0, 1, 2, 3, 4] := by decide +kernel

end PhyVerif.C07
